/- GENERATED by zvgen from /repo — do not edit; regenerated on every check run. -/
import ZapVerif.Model.GoMini
/-! Mechanical translation (gen/trans.go) of whitelisted Go functions to GoMini terms. -/
namespace ZapVerif.Gen.TransSampler
open ZapVerif.GoMini

/-- zapcore/sampler.go: func fnv32a
    p0 = s string
    l0 = hash u32
    l1 = i int
-/
def fnv32a_loop0 : Stmt :=
  (.loop (.bin .lt (.loc "l1") (.len (.loc "p0")))
    (.assign [(.loc "l1")] [(.bin (.add .int) (.loc "l1") (.lit (.int 1)))])
    (.seq (.assign [(.loc "l0")] [(.bin .bxor (.loc "l0") (.conv .u32 (.index (.loc "p0") (.loc "l1"))))])
    (.assign [(.loc "l0")] [(.bin (.mul .u32) (.loc "l0") (.lit (.int 16777619)))])))

def fnv32a_body : Stmt :=
  (.seq .skip
  (.seq (.assign [(.loc "l0")] [(.lit (.int 2166136261))])
  (.seq (.seq (.assign [(.loc "l1")] [(.lit (.int 0))])
    fnv32a_loop0)
  (.ret [(.loc "l0")]))))

@[reducible] def fnv32a_params : List String := ["p0"]
@[reducible] def fnv32a_named : List (String × Val) := []
def fnv32a : Fun := { params := fnv32a_params, named := fnv32a_named, body := fnv32a_body }

/-- zapcore/sampler.go: func (counter) IncCheckReset
    p0 = t Time
    p1 = tick Duration
    l0 = tn i64
    l1 = resetAfter i64
    l2 = (value of the returned call) u64
    l3 = newResetAfter i64
    l4 = (value of c.resetAt.CompareAndSwap(…) inside an expression) bool
    l5 = (value of the returned call) u64
    field counter ↦ counter AtomicUint64
    field resetAt ↦ resetAt AtomicInt64
-/
def IncCheckReset_body : Stmt :=
  (.seq (.assign [(.loc "l0")] [(.loc "p0")])
  (.seq (.assign [(.loc "l1")] [(.fld "resetAt")])
  (.seq (.ite (.bin .gt (.loc "l1") (.loc "l0"))
      (.seq (.seq (.assign [(.fld "counter")] [(.bin (.add .u64) (.fld "counter") (.lit (.int 1)))])
        (.assign [(.loc "l2")] [(.fld "counter")]))
      (.ret [(.loc "l2")]))
      .skip)
  (.seq (.assign [(.fld "counter")] [(.lit (.int 1))])
  (.seq (.assign [(.loc "l3")] [(.bin (.add .i64) (.loc "l0") (.loc "p1"))])
  (.seq (.seq (.ite (.bin .eq (.fld "resetAt") (.loc "l1"))
        (.assign [(.fld "resetAt"), (.loc "l4")] [(.loc "l3"), (.lit (.bool true))])
        (.assign [(.loc "l4")] [(.lit (.bool false))]))
    (.ite (.un .not (.loc "l4"))
      (.seq (.seq (.assign [(.fld "counter")] [(.bin (.add .u64) (.fld "counter") (.lit (.int 1)))])
        (.assign [(.loc "l5")] [(.fld "counter")]))
      (.ret [(.loc "l5")]))
      .skip))
  (.ret [(.lit (.int 1))])))))))

@[reducible] def IncCheckReset_params : List String := ["p0", "p1"]
@[reducible] def IncCheckReset_named : List (String × Val) := []
def IncCheckReset : Fun := { params := IncCheckReset_params, named := IncCheckReset_named, body := IncCheckReset_body }

/-- zapcore/sampler.go: func (sampler) Check
    p0 = ent struct:Entry
    p1 = ce CheckedEntry
    l0 = counter Counter
    l1 = n u64
    l2 = (value of the returned call) CheckedEntry
    field Core ↦ core Core
    field counts ↦ counts Counters
    field first ↦ first u64
    field hook ↦ hooks HookTrace
    field thereafter ↦ thereafter u64
    field tick ↦ tick Duration
-/
def Check_body : Stmt :=
  (.seq (.ite (.un .not (.call "Enabled" [(.index (.loc "p0") (.lit (.int 0)))]))
      (.ret [(.loc "p1")])
      .skip)
  (.seq (.ite (.and (.bin .ge (.index (.loc "p0") (.lit (.int 0))) (.lit (.int (-1)))) (.bin .le (.index (.loc "p0") (.lit (.int 0))) (.lit (.int 5))))
      (.seq (.assign [(.loc "l0")] [(.call "counts.get" [(.fld "counts"), (.index (.loc "p0") (.lit (.int 0))), (.index (.loc "p0") (.lit (.int 1)))])])
      (.seq (.call [(.loc "l1")] "IncCheckReset" [(.index (.loc "p0") (.lit (.int 2))), (.fld "tick")])
      (.seq (.ite (.and (.bin .gt (.loc "l1") (.fld "first")) (.or (.bin .eq (.fld "thereafter") (.lit (.int 0))) (.bin .ne (.bin (.rem .u64) (.bin (.sub .u64) (.loc "l1") (.fld "first")) (.fld "thereafter")) (.lit (.int 0)))))
          (.seq (.callX [(.fld "hooks")] "hook" [(.fld "hooks"), (.loc "p0"), (.lit (.int 1))])
          (.ret [(.loc "p1")]))
          .skip)
      (.callX [(.fld "hooks")] "hook" [(.fld "hooks"), (.loc "p0"), (.lit (.int 2))]))))
      .skip)
  (.seq (.callX [(.fld "core"), (.loc "l2")] "Core.Check" [(.fld "core"), (.loc "p0"), (.loc "p1")])
  (.ret [(.loc "l2")]))))

@[reducible] def Check_params : List String := ["p0", "p1"]
@[reducible] def Check_named : List (String × Val) := []
def Check : Fun := { params := Check_params, named := Check_named, body := Check_body }

/-- the translated functions of this table by name -/
def funs : String → Option Fun
  | "fnv32a" => some fnv32a
  | "IncCheckReset" => some IncCheckReset
  | "Check" => some Check
  | _ => none

/-- the table entry by entry: the defining equations of `funs` -/
theorem funs_table :
    funs "fnv32a" = some fnv32a ∧
    funs "IncCheckReset" = some IncCheckReset ∧
    funs "Check" = some Check :=
  ⟨funs.eq_1, funs.eq_2, funs.eq_3⟩

/-! lookup facts for symbolic execution (`funs_f` is entry f of `funs_table`) -/
@[simp] theorem funs_fnv32a : funs "fnv32a" = some fnv32a := funs_table.1
@[simp] theorem fnv32a_params_eq : fnv32a.params = fnv32a_params := rfl
@[simp] theorem fnv32a_named_eq : fnv32a.named = fnv32a_named := rfl
@[simp] theorem fnv32a_body_eq : fnv32a.body = fnv32a_body := rfl
@[simp] theorem funs_IncCheckReset : funs "IncCheckReset" = some IncCheckReset := funs_table.2.1
@[simp] theorem IncCheckReset_params_eq : IncCheckReset.params = IncCheckReset_params := rfl
@[simp] theorem IncCheckReset_named_eq : IncCheckReset.named = IncCheckReset_named := rfl
@[simp] theorem IncCheckReset_body_eq : IncCheckReset.body = IncCheckReset_body := rfl
@[simp] theorem funs_Check : funs "Check" = some Check := funs_table.2.2
@[simp] theorem Check_params_eq : Check.params = Check_params := rfl
@[simp] theorem Check_named_eq : Check.named = Check_named := rfl
@[simp] theorem Check_body_eq : Check.body = Check_body := rfl

end ZapVerif.Gen.TransSampler
