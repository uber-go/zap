/- GENERATED by zvgen from /repo — do not edit; regenerated on every check run. -/
import ZapVerif.Model.GoMini
/-! Mechanical translation (gen/trans.go) of whitelisted Go functions to GoMini terms. -/
namespace ZapVerif.Gen.TransEscape
open ZapVerif.GoMini

/-- zapcore/json_encoder.go: func safeAppendStringLike
    p0 = appendTo AppendFn
    p1 = decodeRune DecodeFn
    p2 = buf Buffer
    p3 = s string
    p2 is in-out: its final value is returned
    l0 = last int
    l1 = i int
    l2 = r i32
    l3 = size int
-/
def safeAppendStringLike_loop0 : Stmt :=
  (.loop (.bin .lt (.loc "l1") (.len (.loc "p3")))
    .skip
    (.ite (.bin .ge (.index (.loc "p3") (.loc "l1")) (.lit (.int 128)))
      (.seq (.callX [(.loc "l2"), (.loc "l3")] "decodeRune" [(.slice (.loc "p3") (some (.loc "l1")) none)])
      (.seq (.ite (.or (.bin .ne (.loc "l2") (.lit (.int 65533))) (.bin .ne (.loc "l3") (.lit (.int 1))))
          (.seq (.assign [(.loc "l1")] [(.bin (.add .int) (.loc "l1") (.loc "l3"))])
          .cont)
          .skip)
      (.seq (.assign [(.loc "p2")] [(.call "append..." [(.loc "p2"), (.slice (.loc "p3") (some (.loc "l0")) (some (.loc "l1")))])])
      (.seq (.assign [(.loc "p2")] [(.call "append..." [(.loc "p2"), (.lit (.bytes [92, 117, 102, 102, 102, 100]))])])
      (.seq (.assign [(.loc "l1")] [(.bin (.add .int) (.loc "l1") (.lit (.int 1)))])
      (.assign [(.loc "l0")] [(.loc "l1")]))))))
      (.seq (.ite (.and (.and (.bin .ge (.index (.loc "p3") (.loc "l1")) (.lit (.int 32))) (.bin .ne (.index (.loc "p3") (.loc "l1")) (.lit (.int 92)))) (.bin .ne (.index (.loc "p3") (.loc "l1")) (.lit (.int 34))))
          (.seq (.assign [(.loc "l1")] [(.bin (.add .int) (.loc "l1") (.lit (.int 1)))])
          .cont)
          .skip)
      (.seq (.assign [(.loc "p2")] [(.call "append..." [(.loc "p2"), (.slice (.loc "p3") (some (.loc "l0")) (some (.loc "l1")))])])
      (.seq (.switch (.index (.loc "p3") (.loc "l1"))
          (.case [(.lit (.int 92)), (.lit (.int 34))]
            (.seq (.assign [(.loc "p2")] [(.call "append" [(.loc "p2"), (.lit (.int 92))])])
            (.assign [(.loc "p2")] [(.call "append" [(.loc "p2"), (.index (.loc "p3") (.loc "l1"))])]))
          (.case [(.lit (.int 10))]
            (.seq (.assign [(.loc "p2")] [(.call "append" [(.loc "p2"), (.lit (.int 92))])])
            (.assign [(.loc "p2")] [(.call "append" [(.loc "p2"), (.lit (.int 110))])]))
          (.case [(.lit (.int 13))]
            (.seq (.assign [(.loc "p2")] [(.call "append" [(.loc "p2"), (.lit (.int 92))])])
            (.assign [(.loc "p2")] [(.call "append" [(.loc "p2"), (.lit (.int 114))])]))
          (.case [(.lit (.int 9))]
            (.seq (.assign [(.loc "p2")] [(.call "append" [(.loc "p2"), (.lit (.int 92))])])
            (.assign [(.loc "p2")] [(.call "append" [(.loc "p2"), (.lit (.int 116))])]))
          (.default (.seq (.assign [(.loc "p2")] [(.call "append..." [(.loc "p2"), (.lit (.bytes [92, 117, 48, 48]))])])
            (.seq (.assign [(.loc "p2")] [(.call "append" [(.loc "p2"), (.index (.lit (.bytes [48, 49, 50, 51, 52, 53, 54, 55, 56, 57, 97, 98, 99, 100, 101, 102])) (.conv .int (.bin .shr (.index (.loc "p3") (.loc "l1")) (.lit (.int 4)))))])])
            (.assign [(.loc "p2")] [(.call "append" [(.loc "p2"), (.index (.lit (.bytes [48, 49, 50, 51, 52, 53, 54, 55, 56, 57, 97, 98, 99, 100, 101, 102])) (.conv .int (.bin .band (.index (.loc "p3") (.loc "l1")) (.lit (.int 15)))))])])))))))))
      (.seq (.assign [(.loc "l1")] [(.bin (.add .int) (.loc "l1") (.lit (.int 1)))])
      (.assign [(.loc "l0")] [(.loc "l1")])))))))

def safeAppendStringLike_body : Stmt :=
  (.seq (.seq (.assign [(.loc "l0")] [(.lit (.int 0))])
    (.seq (.seq (.assign [(.loc "l1")] [(.lit (.int 0))])
      safeAppendStringLike_loop0)
    (.assign [(.loc "p2")] [(.call "append..." [(.loc "p2"), (.slice (.loc "p3") (some (.loc "l0")) none)])])))
  (.ret [(.loc "p2")]))

@[reducible] def safeAppendStringLike_params : List String := ["p0", "p1", "p2", "p3"]
@[reducible] def safeAppendStringLike_named : List (String × Val) := []
def safeAppendStringLike : Fun := { params := safeAppendStringLike_params, named := safeAppendStringLike_named, body := safeAppendStringLike_body }

/-- the translated functions of this table by name -/
def funs : String → Option Fun
  | "safeAppendStringLike" => some safeAppendStringLike
  | _ => none

/-- the table entry by entry: the defining equations of `funs` -/
theorem funs_table :
    funs "safeAppendStringLike" = some safeAppendStringLike :=
  funs.eq_1

/-! lookup facts for symbolic execution (`funs_f` is entry f of `funs_table`) -/
@[simp] theorem funs_safeAppendStringLike : funs "safeAppendStringLike" = some safeAppendStringLike := funs_table
@[simp] theorem safeAppendStringLike_params_eq : safeAppendStringLike.params = safeAppendStringLike_params := rfl
@[simp] theorem safeAppendStringLike_named_eq : safeAppendStringLike.named = safeAppendStringLike_named := rfl
@[simp] theorem safeAppendStringLike_body_eq : safeAppendStringLike.body = safeAppendStringLike_body := rfl

end ZapVerif.Gen.TransEscape
