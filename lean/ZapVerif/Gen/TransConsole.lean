/- GENERATED by zvgen from /repo — do not edit; regenerated on every check run. -/
import ZapVerif.Model.GoMini
/-! Mechanical translation (gen/trans.go) of whitelisted Go functions to GoMini terms. -/
namespace ZapVerif.Gen.TransConsole
open ZapVerif.GoMini

/-- zapcore/console_encoder.go: func (consoleEncoder) addSeparatorIfNecessary
    p0 = line Buffer
    p0 is in-out: its final value is returned
    field #ev ↦ ev []Event
    field CallerKey ↦ callerKey string
    field ConsoleSeparator ↦ consoleSep string
    field EncodeCaller ↦ encCaller opt:CallerEncoder
    field EncodeLevel ↦ encLevel opt:LevelEncoder
    field EncodeName ↦ encName opt:NameEncoder
    field EncodeTime ↦ encTime opt:TimeEncoder
    field FunctionKey ↦ functionKey string
    field LevelKey ↦ levelKey string
    field LineEnding ↦ lineEnding string
    field MessageKey ↦ messageKey string
    field NameKey ↦ nameKey string
    field StacktraceKey ↦ stacktraceKey string
    field TimeKey ↦ timeKey string
-/
def addSeparatorIfNecessary_body : Stmt :=
  (.seq (.ite (.bin .gt (.len (.loc "p0")) (.lit (.int 0)))
      (.assign [(.loc "p0")] [(.call "append..." [(.loc "p0"), (.fld "consoleSep")])])
      .skip)
  (.ret [(.loc "p0")]))

@[reducible] def addSeparatorIfNecessary_params : List String := ["p0"]
@[reducible] def addSeparatorIfNecessary_named : List (String × Val) := []
def addSeparatorIfNecessary : Fun := { params := addSeparatorIfNecessary_params, named := addSeparatorIfNecessary_named, body := addSeparatorIfNecessary_body }

/-- zapcore/console_encoder.go: func (consoleEncoder) writeContext
    p0 = line Buffer
    p1 = extra []Field
    p0 is in-out: its final value is returned
    context = the PRIMARY object from here on (made by jsonEncoder.Clone); c = the second object
    l0 = (result 0 held while the deferred calls run) ?
    field #ev ↦ ev []Event
    field EncoderConfig ↦ cfg opt:Config
    field NewReflectedEncoder ↦ newRefl ReflCtor
    field buf ↦ buf Buffer
    field openNamespaces ↦ openNs int
    field reflectBuf ↦ rbuf opt:Buffer
    field reflectEnc ↦ renc opt:ReflEnc
    field spaced ↦ spaced bool
    receiver value ↦ self JE
-/
def writeContext_body : Stmt :=
  (.seq (.seq (.seq (.assign [(.fld "ev")] [(.call "append" [(.fld "ev"), (.call "tuple" [(.lit (.bytes [106, 115, 111, 110, 69, 110, 99, 111, 100, 101, 114, 46, 67, 108, 111, 110, 101]) /- jsonEncoder.Clone -/), (.fld "o.buf"), (.fld "o.spaced"), (.fld "o.openNs")])])])
      (.callX [(.fld "buf"), (.fld "spaced"), (.fld "openNs"), (.fld "rbuf"), (.fld "renc")] "jsonEncoder.Clone" [(.fld "o.buf"), (.fld "o.spaced"), (.fld "o.openNs")]))
    (.seq .skip
    (.seq (.callX [(.fld "buf"), (.fld "openNs"), (.fld "rbuf"), (.fld "renc")] "addFields" [(.fld "buf"), (.fld "openNs"), (.fld "rbuf"), (.fld "renc"), (.fld "spaced"), (.fld "self"), (.loc "p1")])
    (.seq (.callX [(.fld "buf"), (.fld "openNs")] "closeOpenNamespaces" [(.fld "buf"), (.fld "openNs")])
    (.seq (.ite (.bin .eq (.len (.fld "buf")) (.lit (.int 0)))
        (.seq (.assign [(.loc "l0")] [(.loc "p0")])
        (.seq (.seq (.seq (.assign [(.fld "ev")] [(.call "append" [(.fld "ev"), (.call "tuple" [(.lit (.bytes [66, 117, 102, 102, 101, 114, 46, 70, 114, 101, 101]) /- Buffer.Free -/), (.fld "buf")])])])
            (.callX [] "Buffer.Free" [(.fld "buf")]))
          (.seq (.assign [(.fld "ev")] [(.call "append" [(.fld "ev"), (.call "tuple" [(.lit (.bytes [112, 117, 116, 74, 83, 79, 78, 69, 110, 99, 111, 100, 101, 114]) /- putJSONEncoder -/), (.fld "rbuf"), (.fld "self")])])])
          (.callX [] "putJSONEncoder" [(.fld "rbuf"), (.fld "self")])))
        (.ret [(.loc "l0")])))
        .skip)
    (.seq (.call [(.loc "p0")] "addSeparatorIfNecessary" [(.loc "p0")])
    (.seq (.assign [(.loc "p0")] [(.call "append" [(.loc "p0"), (.lit (.int 123))])])
    (.seq (.assign [(.loc "p0")] [(.call "append..." [(.loc "p0"), (.fld "buf")])])
    (.assign [(.loc "p0")] [(.call "append" [(.loc "p0"), (.lit (.int 125))])])))))))))
  (.seq (.seq (.seq (.assign [(.fld "ev")] [(.call "append" [(.fld "ev"), (.call "tuple" [(.lit (.bytes [66, 117, 102, 102, 101, 114, 46, 70, 114, 101, 101]) /- Buffer.Free -/), (.fld "buf")])])])
      (.callX [] "Buffer.Free" [(.fld "buf")]))
    (.seq (.assign [(.fld "ev")] [(.call "append" [(.fld "ev"), (.call "tuple" [(.lit (.bytes [112, 117, 116, 74, 83, 79, 78, 69, 110, 99, 111, 100, 101, 114]) /- putJSONEncoder -/), (.fld "rbuf"), (.fld "self")])])])
    (.callX [] "putJSONEncoder" [(.fld "rbuf"), (.fld "self")])))
  (.ret [(.loc "p0")])))

@[reducible] def writeContext_params : List String := ["p0", "p1"]
@[reducible] def writeContext_named : List (String × Val) := []
def writeContext : Fun := { params := writeContext_params, named := writeContext_named, body := writeContext_body }

/-- zapcore/console_encoder.go: func (consoleEncoder) EncodeEntry
    p0 = ent struct:Entry
    p1 = fields []Field
    l0 = line Buffer
    l1 = arr struct:SliceEnc
    l2 = nameEncoder opt:NameEncoder
    l3 = i int
    field #ev ↦ ev []Event
    field CallerKey ↦ callerKey string
    field ConsoleSeparator ↦ consoleSep string
    field EncodeCaller ↦ encCaller opt:CallerEncoder
    field EncodeLevel ↦ encLevel opt:LevelEncoder
    field EncodeName ↦ encName opt:NameEncoder
    field EncodeTime ↦ encTime opt:TimeEncoder
    field FunctionKey ↦ functionKey string
    field LevelKey ↦ levelKey string
    field LineEnding ↦ lineEnding string
    field MessageKey ↦ messageKey string
    field NameKey ↦ nameKey string
    field StacktraceKey ↦ stacktraceKey string
    field TimeKey ↦ timeKey string
-/
def EncodeEntry_loop0 : Stmt :=
  (.range (.loc "l3") .blank (.index (.loc "l1") (.lit (.int 0)))
    (.seq (.ite (.bin .gt (.loc "l3") (.lit (.int 0)))
        (.assign [(.loc "l0")] [(.call "append..." [(.loc "l0"), (.fld "consoleSep")])])
        .skip)
    (.callX [(.loc "l0"), .blank, .blank] "fmt.Fprint" [(.loc "l0"), (.index (.index (.loc "l1") (.lit (.int 0))) (.loc "l3"))])))

def EncodeEntry_body : Stmt :=
  (.seq (.seq (.assign [(.fld "ev")] [(.call "append" [(.fld "ev"), (.call "tuple" [(.lit (.bytes [98, 117, 102, 102, 101, 114, 112, 111, 111, 108, 46, 71, 101, 116]) /- bufferpool.Get -/)])])])
    (.callX [(.loc "l0")] "bufferpool.Get" []))
  (.seq (.seq (.assign [(.fld "ev")] [(.call "append" [(.fld "ev"), (.call "tuple" [(.lit (.bytes [103, 101, 116, 83, 108, 105, 99, 101, 69, 110, 99, 111, 100, 101, 114]) /- getSliceEncoder -/)])])])
    (.callX [(.loc "l1")] "getSliceEncoder" []))
  (.seq (.ite (.and (.and (.bin .ne (.fld "timeKey") (.lit (.bytes []))) (.bin .ne (.len (.fld "encTime")) (.lit (.int 0)))) (.un .not (.call "Time.IsZero" [(.index (.loc "p0") (.lit (.int 1)))])))
      (.callX [(.loc "l1")] "TimeEncoder.col" [(.fld "encTime"), (.index (.loc "p0") (.lit (.int 1))), (.loc "l1")])
      .skip)
  (.seq (.ite (.and (.bin .ne (.fld "levelKey") (.lit (.bytes []))) (.bin .ne (.len (.fld "encLevel")) (.lit (.int 0))))
      (.callX [(.loc "l1")] "LevelEncoder.col" [(.fld "encLevel"), (.index (.loc "p0") (.lit (.int 0))), (.loc "l1")])
      .skip)
  (.seq (.ite (.and (.bin .ne (.index (.loc "p0") (.lit (.int 2))) (.lit (.bytes []))) (.bin .ne (.fld "nameKey") (.lit (.bytes []))))
      (.seq (.assign [(.loc "l2")] [(.fld "encName")])
      (.seq (.ite (.bin .eq (.len (.loc "l2")) (.lit (.int 0)))
          (.assign [(.loc "l2")] [(.lit (.list [.int 0]))])
          .skip)
      (.callX [(.loc "l1")] "NameEncoder.col" [(.loc "l2"), (.index (.loc "p0") (.lit (.int 2))), (.loc "l1")])))
      .skip)
  (.seq (.ite (.index (.index (.loc "p0") (.lit (.int 4))) (.lit (.int 0)))
      (.seq (.ite (.and (.bin .ne (.fld "callerKey") (.lit (.bytes []))) (.bin .ne (.len (.fld "encCaller")) (.lit (.int 0))))
          (.callX [(.loc "l1")] "CallerEncoder.col" [(.fld "encCaller"), (.index (.loc "p0") (.lit (.int 4))), (.loc "l1")])
          .skip)
      (.ite (.bin .ne (.fld "functionKey") (.lit (.bytes [])))
        (.assign [(.loc "l1")] [(.call "SliceEnc.AppendString" [(.loc "l1"), (.index (.index (.loc "p0") (.lit (.int 4))) (.lit (.int 1)))])])
        .skip))
      .skip)
  (.seq EncodeEntry_loop0
  (.seq (.seq (.assign [(.fld "ev")] [(.call "append" [(.fld "ev"), (.call "tuple" [(.lit (.bytes [112, 117, 116, 83, 108, 105, 99, 101, 69, 110, 99, 111, 100, 101, 114]) /- putSliceEncoder -/), (.loc "l1")])])])
    (.callX [] "putSliceEncoder" [(.loc "l1")]))
  (.seq (.ite (.bin .ne (.fld "messageKey") (.lit (.bytes [])))
      (.seq (.call [(.loc "l0")] "addSeparatorIfNecessary" [(.loc "l0")])
      (.assign [(.loc "l0")] [(.call "append..." [(.loc "l0"), (.index (.loc "p0") (.lit (.int 3)))])]))
      .skip)
  (.seq (.call [(.loc "l0")] "writeContext" [(.loc "l0"), (.loc "p1")])
  (.seq (.ite (.and (.bin .ne (.index (.loc "p0") (.lit (.int 5))) (.lit (.bytes []))) (.bin .ne (.fld "stacktraceKey") (.lit (.bytes []))))
      (.seq (.assign [(.loc "l0")] [(.call "append" [(.loc "l0"), (.lit (.int 10))])])
      (.assign [(.loc "l0")] [(.call "append..." [(.loc "l0"), (.index (.loc "p0") (.lit (.int 5)))])]))
      .skip)
  (.seq (.assign [(.loc "l0")] [(.call "append..." [(.loc "l0"), (.fld "lineEnding")])])
  (.ret [(.loc "l0"), (.lit (.list []))])))))))))))))

@[reducible] def EncodeEntry_params : List String := ["p0", "p1"]
@[reducible] def EncodeEntry_named : List (String × Val) := []
def EncodeEntry : Fun := { params := EncodeEntry_params, named := EncodeEntry_named, body := EncodeEntry_body }

/-- the translated functions of this table by name -/
def funs : String → Option Fun
  | "addSeparatorIfNecessary" => some addSeparatorIfNecessary
  | "writeContext" => some writeContext
  | "EncodeEntry" => some EncodeEntry
  | _ => none

/-- the table entry by entry: the defining equations of `funs` -/
theorem funs_table :
    funs "addSeparatorIfNecessary" = some addSeparatorIfNecessary ∧
    funs "writeContext" = some writeContext ∧
    funs "EncodeEntry" = some EncodeEntry :=
  ⟨funs.eq_1, funs.eq_2, funs.eq_3⟩

/-! lookup facts for symbolic execution (`funs_f` is entry f of `funs_table`) -/
@[simp] theorem funs_addSeparatorIfNecessary : funs "addSeparatorIfNecessary" = some addSeparatorIfNecessary := funs_table.1
@[simp] theorem addSeparatorIfNecessary_params_eq : addSeparatorIfNecessary.params = addSeparatorIfNecessary_params := rfl
@[simp] theorem addSeparatorIfNecessary_named_eq : addSeparatorIfNecessary.named = addSeparatorIfNecessary_named := rfl
@[simp] theorem addSeparatorIfNecessary_body_eq : addSeparatorIfNecessary.body = addSeparatorIfNecessary_body := rfl
@[simp] theorem funs_writeContext : funs "writeContext" = some writeContext := funs_table.2.1
@[simp] theorem writeContext_params_eq : writeContext.params = writeContext_params := rfl
@[simp] theorem writeContext_named_eq : writeContext.named = writeContext_named := rfl
@[simp] theorem writeContext_body_eq : writeContext.body = writeContext_body := rfl
@[simp] theorem funs_EncodeEntry : funs "EncodeEntry" = some EncodeEntry := funs_table.2.2
@[simp] theorem EncodeEntry_params_eq : EncodeEntry.params = EncodeEntry_params := rfl
@[simp] theorem EncodeEntry_named_eq : EncodeEntry.named = EncodeEntry_named := rfl
@[simp] theorem EncodeEntry_body_eq : EncodeEntry.body = EncodeEntry_body := rfl

end ZapVerif.Gen.TransConsole
