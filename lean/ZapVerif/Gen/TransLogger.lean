/- GENERATED by zvgen from /repo — do not edit; regenerated on every check run. -/
import ZapVerif.Model.GoMini
/-! Mechanical translation (gen/trans.go) of whitelisted Go functions to GoMini terms. -/
namespace ZapVerif.Gen.TransLogger
open ZapVerif.GoMini

/-- logger.go: func terminalHookOverride
    p0 = defaultHook opt:Hook
    p1 = override opt:Hook
-/
def terminalHookOverride_body : Stmt :=
  (.seq (.ite (.or (.bin .eq (.len (.loc "p1")) (.lit (.int 0))) (.bin .eq (.loc "p1") (.lit (.list [.int 0]))))
      (.ret [(.loc "p0")])
      .skip)
  (.ret [(.loc "p1")]))

@[reducible] def terminalHookOverride_params : List String := ["p0", "p1"]
@[reducible] def terminalHookOverride_named : List (String × Val) := []
def terminalHookOverride : Fun := { params := terminalHookOverride_params, named := terminalHookOverride_named, body := terminalHookOverride_body }

/-- logger.go: func (Logger) check
    p0 = lvl i8
    p1 = msg string
    l0 = (value of log.clock.Now(…) inside an expression) Time
    l1 = ent struct:Entry
    l2 = ce ptr:struct:CE
    l3 = willWrite bool
    l4 = (value of terminalHookOverride(…) inside an expression) opt:Hook
    l5 = (value of terminalHookOverride(…) inside an expression) opt:Hook
    l6 = (value of terminalHookOverride(…) inside an expression) opt:Hook
    CUT: everything from `ce.ErrorOutput = log.errorOutput` on is the recorded intrinsic Logger.annotate
    l7 = (result of the tail intrinsic) ptr:struct:CE
    field #ev ↦ ev []Event
    field clock ↦ clock Clock
    field core ↦ core Core
    field development ↦ dev bool
    field name ↦ name string
    field onFatal ↦ onFatal opt:Hook
    field onPanic ↦ onPanic opt:Hook
-/
def Logger_check_body : Stmt :=
  (.seq .skip
  (.seq (.ite (.and (.bin .lt (.loc "p0") (.lit (.int 3))) (.un .not (.call "Core.Enabled" [(.fld "core"), (.loc "p0")])))
      (.ret [(.lit (.list []))])
      .skip)
  (.seq (.seq (.seq (.assign [(.fld "ev")] [(.call "append" [(.fld "ev"), (.call "tuple" [(.lit (.bytes [67, 108, 111, 99, 107, 46, 78, 111, 119]) /- Clock.Now -/), (.fld "clock")])])])
      (.callX [(.loc "l0")] "Clock.Now" [(.fld "clock")]))
    (.assign [(.loc "l1")] [(.call "tuple" [(.fld "name"), (.loc "l0"), (.loc "p0"), (.loc "p1")])]))
  (.seq (.seq (.assign [(.fld "ev")] [(.call "append" [(.fld "ev"), (.call "tuple" [(.lit (.bytes [67, 111, 114, 101, 46, 67, 104, 101, 99, 107]) /- Core.Check -/), (.fld "core"), (.loc "l1"), (.lit (.list []))])])])
    (.callX [(.loc "l2")] "Core.Check" [(.fld "core"), (.loc "l1"), (.lit (.list []))]))
  (.seq (.assign [(.loc "l3")] [(.bin .ne (.len (.loc "l2")) (.lit (.int 0)))])
  (.seq (.switch (.index (.loc "l1") (.lit (.int 2)))
      (.case [(.lit (.int 4))]
        (.seq (.call [(.loc "l4")] "terminalHookOverride" [(.lit (.list [.int 2])), (.fld "onPanic")])
        (.assign [(.loc "l2")] [(.call "CE.After" [(.loc "l2"), (.loc "l1"), (.loc "l4")])]))
      (.case [(.lit (.int 5))]
        (.seq (.call [(.loc "l5")] "terminalHookOverride" [(.lit (.list [.int 3])), (.fld "onFatal")])
        (.assign [(.loc "l2")] [(.call "CE.After" [(.loc "l2"), (.loc "l1"), (.loc "l5")])]))
      (.case [(.lit (.int 3))]
        (.ite (.fld "dev")
          (.seq (.call [(.loc "l6")] "terminalHookOverride" [(.lit (.list [.int 2])), (.fld "onPanic")])
          (.assign [(.loc "l2")] [(.call "CE.After" [(.loc "l2"), (.loc "l1"), (.loc "l6")])]))
          .skip)
      (.default .skip)))))
  (.seq (.ite (.un .not (.loc "l3"))
      (.ret [(.loc "l2")])
      .skip)
  (.seq (.assign [(.fld "ev")] [(.call "append" [(.fld "ev"), (.call "tuple" [(.lit (.bytes [76, 111, 103, 103, 101, 114, 46, 97, 110, 110, 111, 116, 97, 116, 101]) /- Logger.annotate -/), (.loc "l2"), (.loc "l1")])])])
  (.seq (.callX [(.loc "l7")] "Logger.annotate" [(.loc "l2"), (.loc "l1")])
  (.ret [(.loc "l7")]))))))))))

@[reducible] def Logger_check_params : List String := ["p0", "p1"]
@[reducible] def Logger_check_named : List (String × Val) := []
def Logger_check : Fun := { params := Logger_check_params, named := Logger_check_named, body := Logger_check_body }

/-- sugar.go: func (SugaredLogger) log
    p0 = lvl i8
    p1 = template string
    p2 = fmtArgs []Any
    p3 = context []Any
    CUT: everything from `msg := getMessage(template, fmtArgs)` on is the recorded intrinsic Sugar.formatCheckWrite
    field #ev ↦ ev []Event
-/
def Sugar_log_body : Stmt :=
  (.seq (.ite (.and (.bin .lt (.loc "p0") (.lit (.int 3))) (.un .not (.call "Core.Enabled" [(.loc "p0")])))
      (.ret [])
      .skip)
  (.seq (.assign [(.fld "ev")] [(.call "append" [(.fld "ev"), (.call "tuple" [(.lit (.bytes [83, 117, 103, 97, 114, 46, 102, 111, 114, 109, 97, 116, 67, 104, 101, 99, 107, 87, 114, 105, 116, 101]) /- Sugar.formatCheckWrite -/), (.loc "p0")])])])
  (.seq (.callX [] "Sugar.formatCheckWrite" [(.loc "p0")])
  (.ret []))))

@[reducible] def Sugar_log_params : List String := ["p0", "p1", "p2", "p3"]
@[reducible] def Sugar_log_named : List (String × Val) := []
def Sugar_log : Fun := { params := Sugar_log_params, named := Sugar_log_named, body := Sugar_log_body }

/-- sugar.go: func (SugaredLogger) logln
    p0 = lvl i8
    p1 = fmtArgs []Any
    p2 = context []Any
    CUT: everything from `msg := getMessageln(fmtArgs)` on is the recorded intrinsic Sugar.formatCheckWrite
    field #ev ↦ ev []Event
-/
def Sugar_logln_body : Stmt :=
  (.seq (.ite (.and (.bin .lt (.loc "p0") (.lit (.int 3))) (.un .not (.call "Core.Enabled" [(.loc "p0")])))
      (.ret [])
      .skip)
  (.seq (.assign [(.fld "ev")] [(.call "append" [(.fld "ev"), (.call "tuple" [(.lit (.bytes [83, 117, 103, 97, 114, 46, 102, 111, 114, 109, 97, 116, 67, 104, 101, 99, 107, 87, 114, 105, 116, 101]) /- Sugar.formatCheckWrite -/), (.loc "p0")])])])
  (.seq (.callX [] "Sugar.formatCheckWrite" [(.loc "p0")])
  (.ret []))))

@[reducible] def Sugar_logln_params : List String := ["p0", "p1", "p2"]
@[reducible] def Sugar_logln_named : List (String × Val) := []
def Sugar_logln : Fun := { params := Sugar_logln_params, named := Sugar_logln_named, body := Sugar_logln_body }

/-- the translated functions of this table by name -/
def funs : String → Option Fun
  | "terminalHookOverride" => some terminalHookOverride
  | "Logger_check" => some Logger_check
  | "Sugar_log" => some Sugar_log
  | "Sugar_logln" => some Sugar_logln
  | _ => none

/-- the table entry by entry: the defining equations of `funs` -/
theorem funs_table :
    funs "terminalHookOverride" = some terminalHookOverride ∧
    funs "Logger_check" = some Logger_check ∧
    funs "Sugar_log" = some Sugar_log ∧
    funs "Sugar_logln" = some Sugar_logln :=
  ⟨funs.eq_1, funs.eq_2, funs.eq_3, funs.eq_4⟩

/-! lookup facts for symbolic execution (`funs_f` is entry f of `funs_table`) -/
@[simp] theorem funs_terminalHookOverride : funs "terminalHookOverride" = some terminalHookOverride := funs_table.1
@[simp] theorem terminalHookOverride_params_eq : terminalHookOverride.params = terminalHookOverride_params := rfl
@[simp] theorem terminalHookOverride_named_eq : terminalHookOverride.named = terminalHookOverride_named := rfl
@[simp] theorem terminalHookOverride_body_eq : terminalHookOverride.body = terminalHookOverride_body := rfl
@[simp] theorem funs_Logger_check : funs "Logger_check" = some Logger_check := funs_table.2.1
@[simp] theorem Logger_check_params_eq : Logger_check.params = Logger_check_params := rfl
@[simp] theorem Logger_check_named_eq : Logger_check.named = Logger_check_named := rfl
@[simp] theorem Logger_check_body_eq : Logger_check.body = Logger_check_body := rfl
@[simp] theorem funs_Sugar_log : funs "Sugar_log" = some Sugar_log := funs_table.2.2.1
@[simp] theorem Sugar_log_params_eq : Sugar_log.params = Sugar_log_params := rfl
@[simp] theorem Sugar_log_named_eq : Sugar_log.named = Sugar_log_named := rfl
@[simp] theorem Sugar_log_body_eq : Sugar_log.body = Sugar_log_body := rfl
@[simp] theorem funs_Sugar_logln : funs "Sugar_logln" = some Sugar_logln := funs_table.2.2.2
@[simp] theorem Sugar_logln_params_eq : Sugar_logln.params = Sugar_logln_params := rfl
@[simp] theorem Sugar_logln_named_eq : Sugar_logln.named = Sugar_logln_named := rfl
@[simp] theorem Sugar_logln_body_eq : Sugar_logln.body = Sugar_logln_body := rfl

end ZapVerif.Gen.TransLogger
