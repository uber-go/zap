/- GENERATED by zvgen from /repo — do not edit; regenerated on every check run. -/
import ZapVerif.Model.GoMini
/-! Mechanical translation (gen/trans.go) of whitelisted Go functions to GoMini terms. -/
namespace ZapVerif.Gen.TransCEAdd
open ZapVerif.GoMini

/-- zapcore/entry.go: func (CheckedEntry) AddCore
    p0 = ent Entry
    p1 = core Core
    field Entry ↦ entry Entry
    field ErrorOutput ↦ eo opt:WriteSyncer
    field after ↦ after opt:Hook
    field cores ↦ cores []Core
    field dirty ↦ dirty bool
    receiver value ↦ self CE
-/
def AddCore_body : Stmt :=
  (.seq (.ite (.fld "isnil")
      (.seq (.assign [(.fld "isnil"), (.fld "dirty"), (.fld "eo"), (.fld "after"), (.fld "cores")] [(.lit (.bool false)), (.lit (.bool false)), (.lit (.list [])), (.lit (.list [])), (.lit (.list []))])
      (.assign [(.fld "entry")] [(.loc "p0")]))
      .skip)
  (.seq (.assign [(.fld "cores")] [(.call "append" [(.fld "cores"), (.loc "p1")])])
  (.ret [(.fld "self")])))

@[reducible] def AddCore_params : List String := ["p0", "p1"]
@[reducible] def AddCore_named : List (String × Val) := []
def AddCore : Fun := { params := AddCore_params, named := AddCore_named, body := AddCore_body }

/-- zapcore/entry.go: func (CheckedEntry) After
    p0 = ent Entry
    p1 = hook opt:Hook
    field Entry ↦ entry Entry
    field ErrorOutput ↦ eo opt:WriteSyncer
    field after ↦ after opt:Hook
    field cores ↦ cores []Core
    field dirty ↦ dirty bool
    receiver value ↦ self CE
-/
def After_body : Stmt :=
  (.seq (.ite (.fld "isnil")
      (.seq (.assign [(.fld "isnil"), (.fld "dirty"), (.fld "eo"), (.fld "after"), (.fld "cores")] [(.lit (.bool false)), (.lit (.bool false)), (.lit (.list [])), (.lit (.list [])), (.lit (.list []))])
      (.assign [(.fld "entry")] [(.loc "p0")]))
      .skip)
  (.seq (.assign [(.fld "after")] [(.loc "p1")])
  (.ret [(.fld "self")])))

@[reducible] def After_params : List String := ["p0", "p1"]
@[reducible] def After_named : List (String × Val) := []
def After : Fun := { params := After_params, named := After_named, body := After_body }

/-- zapcore/entry.go: func (CheckedEntry) Should
    p0 = ent Entry
    p1 = should opt:Hook
    l0 = (value of the returned call) CE
    field Entry ↦ entry Entry
    field ErrorOutput ↦ eo opt:WriteSyncer
    field after ↦ after opt:Hook
    field cores ↦ cores []Core
    field dirty ↦ dirty bool
    receiver value ↦ self CE
-/
def Should_body : Stmt :=
  (.seq (.call [(.loc "l0")] "After" [(.loc "p0"), (.loc "p1")])
  (.ret [(.loc "l0")]))

@[reducible] def Should_params : List String := ["p0", "p1"]
@[reducible] def Should_named : List (String × Val) := []
def Should : Fun := { params := Should_params, named := Should_named, body := Should_body }

/-- the translated functions of this table by name -/
def funs : String → Option Fun
  | "AddCore" => some AddCore
  | "After" => some After
  | "Should" => some Should
  | _ => none

/-- the table entry by entry: the defining equations of `funs` -/
theorem funs_table :
    funs "AddCore" = some AddCore ∧
    funs "After" = some After ∧
    funs "Should" = some Should :=
  ⟨funs.eq_1, funs.eq_2, funs.eq_3⟩

/-! lookup facts for symbolic execution (`funs_f` is entry f of `funs_table`) -/
@[simp] theorem funs_AddCore : funs "AddCore" = some AddCore := funs_table.1
@[simp] theorem AddCore_params_eq : AddCore.params = AddCore_params := rfl
@[simp] theorem AddCore_named_eq : AddCore.named = AddCore_named := rfl
@[simp] theorem AddCore_body_eq : AddCore.body = AddCore_body := rfl
@[simp] theorem funs_After : funs "After" = some After := funs_table.2.1
@[simp] theorem After_params_eq : After.params = After_params := rfl
@[simp] theorem After_named_eq : After.named = After_named := rfl
@[simp] theorem After_body_eq : After.body = After_body := rfl
@[simp] theorem funs_Should : funs "Should" = some Should := funs_table.2.2
@[simp] theorem Should_params_eq : Should.params = Should_params := rfl
@[simp] theorem Should_named_eq : Should.named = Should_named := rfl
@[simp] theorem Should_body_eq : Should.body = Should_body := rfl

end ZapVerif.Gen.TransCEAdd
