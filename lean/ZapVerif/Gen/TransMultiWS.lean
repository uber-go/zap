/- GENERATED by zvgen from /repo — do not edit; regenerated on every check run. -/
import ZapVerif.Model.GoMini
/-! Mechanical translation (gen/trans.go) of whitelisted Go functions to GoMini terms. -/
namespace ZapVerif.Gen.TransMultiWS
open ZapVerif.GoMini

/-- zapcore/write_syncer.go: func (multiWriteSyncer) Write
    p0 = p bytes
    l0 = writeErr error
    l1 = nWritten int
    l2 = i int
    l3 = w WriteSyncer
    l4 = n int
    l5 = err error
    field #writes ↦ writes []Call
    receiver value ↦ ws []WriteSyncer
-/
def Write_loop0 : Stmt :=
  (.range (.loc "l2") (.loc "l3") (.fld "ws")
    (.seq (.seq (.assign [(.fld "writes")] [(.call "append" [(.fld "writes"), (.call "tuple" [(.lit (.bytes [115, 105, 110, 107, 46, 87, 114, 105, 116, 101]) /- sink.Write -/), (.loc "l3"), (.loc "p0")])])])
      (.callX [(.loc "l4"), (.loc "l5")] "sink.Write" [(.loc "l3"), (.loc "p0")]))
    (.seq (.assign [(.loc "l0")] [(.call "append..." [(.loc "l0"), (.loc "l5")])])
    (.ite (.or (.bin .eq (.loc "l2") (.lit (.int 0))) (.bin .lt (.loc "l4") (.loc "l1")))
      (.assign [(.loc "l1")] [(.loc "l4")])
      .skip))))

def Write_body : Stmt :=
  (.seq (.assign [(.loc "l0")] [(.lit (.list []))])
  (.seq (.assign [(.loc "l1")] [(.lit (.int 0))])
  (.seq Write_loop0
  (.ret [(.loc "l1"), (.loc "l0")]))))

@[reducible] def Write_params : List String := ["p0"]
@[reducible] def Write_named : List (String × Val) := []
def Write : Fun := { params := Write_params, named := Write_named, body := Write_body }

/-- zapcore/write_syncer.go: func (multiWriteSyncer) Sync
    l0 = err error
    l1 = w WriteSyncer
    receiver value ↦ ws []WriteSyncer
-/
def Sync_loop0 : Stmt :=
  (.range .blank (.loc "l1") (.fld "ws")
    (.assign [(.loc "l0")] [(.call "append..." [(.loc "l0"), (.call "sink.Sync" [(.loc "l1")])])]))

def Sync_body : Stmt :=
  (.seq (.assign [(.loc "l0")] [(.lit (.list []))])
  (.seq Sync_loop0
  (.ret [(.loc "l0")])))

@[reducible] def Sync_params : List String := []
@[reducible] def Sync_named : List (String × Val) := []
def Sync : Fun := { params := Sync_params, named := Sync_named, body := Sync_body }

/-- the translated functions of this table by name -/
def funs : String → Option Fun
  | "Write" => some Write
  | "Sync" => some Sync
  | _ => none

/-- the table entry by entry: the defining equations of `funs` -/
theorem funs_table :
    funs "Write" = some Write ∧
    funs "Sync" = some Sync :=
  ⟨funs.eq_1, funs.eq_2⟩

/-! lookup facts for symbolic execution (`funs_f` is entry f of `funs_table`) -/
@[simp] theorem funs_Write : funs "Write" = some Write := funs_table.1
@[simp] theorem Write_params_eq : Write.params = Write_params := rfl
@[simp] theorem Write_named_eq : Write.named = Write_named := rfl
@[simp] theorem Write_body_eq : Write.body = Write_body := rfl
@[simp] theorem funs_Sync : funs "Sync" = some Sync := funs_table.2
@[simp] theorem Sync_params_eq : Sync.params = Sync_params := rfl
@[simp] theorem Sync_named_eq : Sync.named = Sync_named := rfl
@[simp] theorem Sync_body_eq : Sync.body = Sync_body := rfl

end ZapVerif.Gen.TransMultiWS
