/- GENERATED by zvgen from /repo — do not edit; regenerated on every check run. -/
import ZapVerif.Model.GoMini
/-! Mechanical translation (gen/trans.go) of whitelisted Go functions to GoMini terms. -/
namespace ZapVerif.Gen.TransOpen
open ZapVerif.GoMini

/-- writer.go: func open
    p0 = paths []string
    l0 = writers []opt:Sink
    l1 = closers []opt:Sink
    closeAll = a local procedure: calls are its body inlined; as a value it is [source text, captured locals]
    l2 = openErr error
    l3 = path string
    l4 = sink opt:Sink
    l5 = err error
    l6 = c opt:Sink
    field #ev ↦ ev []Event
-/
def openAll_loop0 : Stmt :=
  (.range .blank (.loc "l3") (.loc "p0")
    (.seq (.seq (.assign [(.fld "ev")] [(.call "append" [(.fld "ev"), (.call "tuple" [(.lit (.bytes [115, 105, 110, 107, 82, 101, 103, 105, 115, 116, 114, 121, 46, 110, 101, 119, 83, 105, 110, 107]) /- sinkRegistry.newSink -/), (.loc "l3")])])])
      (.callX [(.loc "l4"), (.loc "l5")] "sinkRegistry.newSink" [(.loc "l3")]))
    (.seq (.ite (.bin .ne (.len (.loc "l5")) (.lit (.int 0)))
        (.seq (.assign [(.loc "l2")] [(.call "append..." [(.loc "l2"), (.call "fmt.Errorf" [(.lit (.bytes [111, 112, 101, 110, 32, 115, 105, 110, 107, 32, 37, 113, 58, 32, 37, 119])), (.loc "l3"), (.loc "l5")])])])
        .cont)
        .skip)
    (.seq (.assign [(.loc "l0")] [(.call "append" [(.loc "l0"), (.loc "l4")])])
    (.assign [(.loc "l1")] [(.call "append" [(.loc "l1"), (.loc "l4")])])))))

def openAll_loop1 : Stmt :=
  (.range .blank (.loc "l6") (.loc "l1")
    (.seq (.assign [(.fld "ev")] [(.call "append" [(.fld "ev"), (.call "tuple" [(.lit (.bytes [83, 105, 110, 107, 46, 67, 108, 111, 115, 101]) /- Sink.Close -/), (.loc "l6")])])])
    (.callX [.blank] "Sink.Close" [(.loc "l6")])))

def openAll_body : Stmt :=
  (.seq (.assign [(.loc "l0")] [(.lit (.list []))])
  (.seq (.assign [(.loc "l1")] [(.lit (.list []))])
  (.seq .skip
  (.seq (.assign [(.loc "l2")] [(.lit (.list []))])
  (.seq openAll_loop0
  (.seq (.ite (.bin .ne (.len (.loc "l2")) (.lit (.int 0)))
      (.seq openAll_loop1
      (.ret [(.lit (.list [])), (.lit (.list [])), (.loc "l2")]))
      .skip)
  (.ret [(.loc "l0"), (.call "tuple" [(.lit (.bytes [102, 117, 110, 99, 40, 41, 32, 123, 10, 9, 102, 111, 114, 32, 95, 44, 32, 99, 32, 58, 61, 32, 114, 97, 110, 103, 101, 32, 99, 108, 111, 115, 101, 114, 115, 32, 123, 10, 9, 9, 95, 32, 61, 32, 99, 46, 67, 108, 111, 115, 101, 40, 41, 10, 9, 125, 10, 125]) /- closure: its source text -/), (.loc "l1")]), (.lit (.list []))])))))))

@[reducible] def openAll_params : List String := ["p0"]
@[reducible] def openAll_named : List (String × Val) := []
def openAll : Fun := { params := openAll_params, named := openAll_named, body := openAll_body }

/-- writer.go: func CombineWriteSyncers
    p0 = writers []opt:Sink
    field #ev ↦ ev []Event
-/
def CombineWriteSyncers_body : Stmt :=
  (.seq (.ite (.bin .eq (.len (.loc "p0")) (.lit (.int 0)))
      (.ret [(.call "zapcore.AddSync" [(.lit (.list [.int 0]))])])
      .skip)
  (.ret [(.call "zapcore.Lock" [(.call "zapcore.NewMultiWriteSyncer" [(.loc "p0")])])]))

@[reducible] def CombineWriteSyncers_params : List String := ["p0"]
@[reducible] def CombineWriteSyncers_named : List (String × Val) := []
def CombineWriteSyncers : Fun := { params := CombineWriteSyncers_params, named := CombineWriteSyncers_named, body := CombineWriteSyncers_body }

/-- writer.go: func Open
    p0 = paths []string
    l0 = writers []opt:Sink
    l1 = closeAll opt:Closure
    l2 = err error
    l3 = writer opt:Sink
    field #ev ↦ ev []Event
-/
def Open_body : Stmt :=
  (.seq (.call [(.loc "l0"), (.loc "l1"), (.loc "l2")] "openAll" [(.loc "p0")])
  (.seq (.ite (.bin .ne (.len (.loc "l2")) (.lit (.int 0)))
      (.ret [(.lit (.list [])), (.lit (.list [])), (.loc "l2")])
      .skip)
  (.seq (.call [(.loc "l3")] "CombineWriteSyncers" [(.loc "l0")])
  (.ret [(.loc "l3"), (.loc "l1"), (.lit (.list []))]))))

@[reducible] def Open_params : List String := ["p0"]
@[reducible] def Open_named : List (String × Val) := []
def Open : Fun := { params := Open_params, named := Open_named, body := Open_body }

/-- config.go: func (Config) buildEncoder
    l0 = (value of the returned call) opt:Encoder
    l1 = (value of the returned call) error
    field #ev ↦ ev []Event
    field EncoderConfig ↦ encoderConfig EncoderConfig
    field Encoding ↦ encoding string
-/
def buildEncoder_body : Stmt :=
  (.seq (.seq (.assign [(.fld "ev")] [(.call "append" [(.fld "ev"), (.call "tuple" [(.lit (.bytes [110, 101, 119, 69, 110, 99, 111, 100, 101, 114]) /- newEncoder -/), (.fld "encoding"), (.fld "encoderConfig")])])])
    (.callX [(.loc "l0"), (.loc "l1")] "newEncoder" [(.fld "encoding"), (.fld "encoderConfig")]))
  (.ret [(.loc "l0"), (.loc "l1")]))

@[reducible] def buildEncoder_params : List String := []
@[reducible] def buildEncoder_named : List (String × Val) := []
def buildEncoder : Fun := { params := buildEncoder_params, named := buildEncoder_named, body := buildEncoder_body }

/-- config.go: func (Config) buildOptions
    p0 = errSink opt:Sink
    l0 = opts []Option
    l1 = stackLevel i8
    l2 = scfg ptr:struct:SamplingConfig
    l3 = fs []Field
    l4 = keys []string
    l5 = k string
    l6 = k string
    field #ev ↦ ev []Event
    field Development ↦ development bool
    field DisableCaller ↦ disableCaller bool
    field DisableStacktrace ↦ disableStacktrace bool
    field InitialFields ↦ initialFields map:string:any
    field Sampling ↦ sampling ptr:struct:SamplingConfig
-/
def buildOptions_loop0 : Stmt :=
  (.range .blank (.loc "l5") (.call "InitialFields.keys" [(.fld "initialFields")])
    (.assign [(.loc "l4")] [(.call "append" [(.loc "l4"), (.loc "l5")])]))

def buildOptions_loop1 : Stmt :=
  (.range .blank (.loc "l6") (.loc "l4")
    (.assign [(.loc "l3")] [(.call "append" [(.loc "l3"), (.call "Any" [(.loc "l6"), (.call "InitialFields.get" [(.fld "initialFields"), (.loc "l6")])])])]))

def buildOptions_body : Stmt :=
  (.seq (.assign [(.loc "l0")] [(.call "tuple" [(.call "ErrorOutput" [(.loc "p0")])])])
  (.seq (.ite (.fld "development")
      (.assign [(.loc "l0")] [(.call "append" [(.loc "l0"), (.call "Development" [])])])
      .skip)
  (.seq (.ite (.un .not (.fld "disableCaller"))
      (.assign [(.loc "l0")] [(.call "append" [(.loc "l0"), (.call "AddCaller" [])])])
      .skip)
  (.seq (.assign [(.loc "l1")] [(.lit (.int 2))])
  (.seq (.ite (.fld "development")
      (.assign [(.loc "l1")] [(.lit (.int 1))])
      .skip)
  (.seq (.ite (.un .not (.fld "disableStacktrace"))
      (.assign [(.loc "l0")] [(.call "append" [(.loc "l0"), (.call "AddStacktrace" [(.loc "l1")])])])
      .skip)
  (.seq (.seq (.assign [(.loc "l2")] [(.fld "sampling")])
    (.ite (.bin .ne (.len (.loc "l2")) (.lit (.int 0)))
      (.assign [(.loc "l0")] [(.call "append" [(.loc "l0"), (.call "WrapCore" [(.call "tuple" [(.lit (.bytes [102, 117, 110, 99, 40, 99, 111, 114, 101, 32, 122, 97, 112, 99, 111, 114, 101, 46, 67, 111, 114, 101, 41, 32, 122, 97, 112, 99, 111, 114, 101, 46, 67, 111, 114, 101, 32, 123, 10, 9, 118, 97, 114, 32, 115, 97, 109, 112, 108, 101, 114, 79, 112, 116, 115, 32, 91, 93, 122, 97, 112, 99, 111, 114, 101, 46, 83, 97, 109, 112, 108, 101, 114, 79, 112, 116, 105, 111, 110, 10, 9, 105, 102, 32, 115, 99, 102, 103, 46, 72, 111, 111, 107, 32, 33, 61, 32, 110, 105, 108, 32, 123, 10, 9, 9, 115, 97, 109, 112, 108, 101, 114, 79, 112, 116, 115, 32, 61, 32, 97, 112, 112, 101, 110, 100, 40, 115, 97, 109, 112, 108, 101, 114, 79, 112, 116, 115, 44, 32, 122, 97, 112, 99, 111, 114, 101, 46, 83, 97, 109, 112, 108, 101, 114, 72, 111, 111, 107, 40, 115, 99, 102, 103, 46, 72, 111, 111, 107, 41, 41, 10, 9, 125, 10, 9, 114, 101, 116, 117, 114, 110, 32, 122, 97, 112, 99, 111, 114, 101, 46, 78, 101, 119, 83, 97, 109, 112, 108, 101, 114, 87, 105, 116, 104, 79, 112, 116, 105, 111, 110, 115, 40, 99, 111, 114, 101, 44, 32, 116, 105, 109, 101, 46, 83, 101, 99, 111, 110, 100, 44, 32, 99, 102, 103, 46, 83, 97, 109, 112, 108, 105, 110, 103, 46, 73, 110, 105, 116, 105, 97, 108, 44, 32, 99, 102, 103, 46, 83, 97, 109, 112, 108, 105, 110, 103, 46, 84, 104, 101, 114, 101, 97, 102, 116, 101, 114, 44, 32, 115, 97, 109, 112, 108, 101, 114, 79, 112, 116, 115, 46, 46, 46, 41, 10, 125]) /- closure: its source text -/), (.loc "l2"), (.fld "sampling")])])])])
      .skip))
  (.seq (.ite (.bin .gt (.len (.fld "initialFields")) (.lit (.int 0)))
      (.seq (.assign [(.loc "l3")] [(.lit (.list []))])
      (.seq (.assign [(.loc "l4")] [(.lit (.list []))])
      (.seq buildOptions_loop0
      (.seq (.callX [(.loc "l4")] "sort.Strings" [(.loc "l4")])
      (.seq buildOptions_loop1
      (.assign [(.loc "l0")] [(.call "append" [(.loc "l0"), (.call "Fields" [(.loc "l3")])])]))))))
      .skip)
  (.ret [(.loc "l0")])))))))))

@[reducible] def buildOptions_params : List String := ["p0"]
@[reducible] def buildOptions_named : List (String × Val) := []
def buildOptions : Fun := { params := buildOptions_params, named := buildOptions_named, body := buildOptions_body }

/-- config.go: func (Config) Build
    p0 = opts []Option
    l0 = enc opt:Encoder
    l1 = err error
    l2 = sink opt:Sink
    l3 = errSink opt:Sink
    l4 = (value of cfg.buildOptions(…) inside an expression) []Option
    l5 = log opt:Logger
    field #ev ↦ ev []Event
    field Development ↦ development bool
    field DisableCaller ↦ disableCaller bool
    field DisableStacktrace ↦ disableStacktrace bool
    field EncoderConfig ↦ encoderConfig EncoderConfig
    field Encoding ↦ encoding string
    field ErrorOutputPaths ↦ errorOutputPaths []string
    field InitialFields ↦ initialFields map:string:any
    field Level ↦ level AtomicLevel
    field OutputPaths ↦ outputPaths []string
    field Sampling ↦ sampling ptr:struct:SamplingConfig
-/
def Build_body : Stmt :=
  (.seq (.call [(.loc "l0"), (.loc "l1")] "buildEncoder" [])
  (.seq (.ite (.bin .ne (.len (.loc "l1")) (.lit (.int 0)))
      (.ret [(.lit (.list [])), (.loc "l1")])
      .skip)
  (.seq (.ite (.bin .eq (.fld "level") (.lit (.list [])))
      (.ret [(.lit (.list [])), (.call "errors.New" [(.lit (.bytes [109, 105, 115, 115, 105, 110, 103, 32, 76, 101, 118, 101, 108]))])])
      .skip)
  (.seq (.call [(.loc "l2"), (.loc "l3"), (.loc "l1")] "openSinks" [])
  (.seq (.ite (.bin .ne (.len (.loc "l1")) (.lit (.int 0)))
      (.ret [(.lit (.list [])), (.loc "l1")])
      .skip)
  (.seq (.seq (.call [(.loc "l4")] "buildOptions" [(.loc "l3")])
    (.assign [(.loc "l5")] [(.call "zap.New" [(.call "zapcore.NewCore" [(.loc "l0"), (.loc "l2"), (.fld "level")]), (.loc "l4")])]))
  (.seq (.ite (.bin .gt (.len (.loc "p0")) (.lit (.int 0)))
      (.assign [(.loc "l5")] [(.call "Logger.WithOptions" [(.loc "l5"), (.loc "p0")])])
      .skip)
  (.ret [(.loc "l5"), (.lit (.list []))]))))))))

@[reducible] def Build_params : List String := ["p0"]
@[reducible] def Build_named : List (String × Val) := []
def Build : Fun := { params := Build_params, named := Build_named, body := Build_body }

/-- config.go: func (Config) openSinks
    l0 = sink opt:Sink
    l1 = closeOut opt:Closure
    l2 = err error
    l3 = errSink opt:Sink
    field #ev ↦ ev []Event
    field ErrorOutputPaths ↦ errorOutputPaths []string
    field OutputPaths ↦ outputPaths []string
-/
def openSinks_body : Stmt :=
  (.seq (.call [(.loc "l0"), (.loc "l1"), (.loc "l2")] "Open" [(.fld "outputPaths")])
  (.seq (.ite (.bin .ne (.len (.loc "l2")) (.lit (.int 0)))
      (.ret [(.lit (.list [])), (.lit (.list [])), (.loc "l2")])
      .skip)
  (.seq (.call [(.loc "l3"), .blank, (.loc "l2")] "Open" [(.fld "errorOutputPaths")])
  (.seq (.ite (.bin .ne (.len (.loc "l2")) (.lit (.int 0)))
      (.seq (.seq (.assign [(.fld "ev")] [(.call "append" [(.fld "ev"), (.call "tuple" [(.lit (.bytes [67, 108, 111, 115, 117, 114, 101, 46, 99, 97, 108, 108]) /- Closure.call -/), (.loc "l1")])])])
        (.callX [] "Closure.call" [(.loc "l1")]))
      (.ret [(.lit (.list [])), (.lit (.list [])), (.loc "l2")]))
      .skip)
  (.ret [(.loc "l0"), (.loc "l3"), (.lit (.list []))])))))

@[reducible] def openSinks_params : List String := []
@[reducible] def openSinks_named : List (String × Val) := []
def openSinks : Fun := { params := openSinks_params, named := openSinks_named, body := openSinks_body }

/-- sink.go: func (sinkRegistry) newFileSinkFromPath
    p0 = path string
    l0 = (value of the returned call) opt:Sink
    l1 = (value of the returned call) error
    field #ev ↦ ev []Event
-/
def newFileSinkFromPath_body : Stmt :=
  (.seq (.switch (.loc "p0")
      (.case [(.lit (.bytes [115, 116, 100, 111, 117, 116]))]
        (.ret [(.lit (.list [.int 1])), (.lit (.list []))])
      (.case [(.lit (.bytes [115, 116, 100, 101, 114, 114]))]
        (.ret [(.lit (.list [.int 2])), (.lit (.list []))])
      (.default .skip))))
  (.seq (.seq (.assign [(.fld "ev")] [(.call "append" [(.fld "ev"), (.call "tuple" [(.lit (.bytes [115, 105, 110, 107, 82, 101, 103, 105, 115, 116, 114, 121, 46, 111, 112, 101, 110, 70, 105, 108, 101]) /- sinkRegistry.openFile -/), (.loc "p0"), (.lit (.int 1089)), (.lit (.int 438))])])])
    (.callX [(.loc "l0"), (.loc "l1")] "sinkRegistry.openFile" [(.loc "p0"), (.lit (.int 1089)), (.lit (.int 438))]))
  (.ret [(.loc "l0"), (.loc "l1")])))

@[reducible] def newFileSinkFromPath_params : List String := ["p0"]
@[reducible] def newFileSinkFromPath_named : List (String × Val) := []
def newFileSinkFromPath : Fun := { params := newFileSinkFromPath_params, named := newFileSinkFromPath_named, body := newFileSinkFromPath_body }

/-- sink.go: func (sinkRegistry) newFileSinkFromURL
    p0 = u ptr:struct:URL
    l0 = hn string
    l1 = (value of the returned call) opt:Sink
    l2 = (value of the returned call) error
    field #ev ↦ ev []Event
-/
def newFileSinkFromURL_body : Stmt :=
  (.seq (.ite (.bin .ne (.len (.index (.loc "p0") (.lit (.int 1)))) (.lit (.int 0)))
      (.ret [(.lit (.list [])), (.call "fmt.Errorf" [(.lit (.bytes [117, 115, 101, 114, 32, 97, 110, 100, 32, 112, 97, 115, 115, 119, 111, 114, 100, 32, 110, 111, 116, 32, 97, 108, 108, 111, 119, 101, 100, 32, 119, 105, 116, 104, 32, 102, 105, 108, 101, 32, 85, 82, 76, 115, 58, 32, 103, 111, 116, 32, 37, 118])), (.loc "p0")])])
      .skip)
  (.seq (.ite (.bin .ne (.index (.loc "p0") (.lit (.int 2))) (.lit (.bytes [])))
      (.ret [(.lit (.list [])), (.call "fmt.Errorf" [(.lit (.bytes [102, 114, 97, 103, 109, 101, 110, 116, 115, 32, 110, 111, 116, 32, 97, 108, 108, 111, 119, 101, 100, 32, 119, 105, 116, 104, 32, 102, 105, 108, 101, 32, 85, 82, 76, 115, 58, 32, 103, 111, 116, 32, 37, 118])), (.loc "p0")])])
      .skip)
  (.seq (.ite (.bin .ne (.index (.loc "p0") (.lit (.int 3))) (.lit (.bytes [])))
      (.ret [(.lit (.list [])), (.call "fmt.Errorf" [(.lit (.bytes [113, 117, 101, 114, 121, 32, 112, 97, 114, 97, 109, 101, 116, 101, 114, 115, 32, 110, 111, 116, 32, 97, 108, 108, 111, 119, 101, 100, 32, 119, 105, 116, 104, 32, 102, 105, 108, 101, 32, 85, 82, 76, 115, 58, 32, 103, 111, 116, 32, 37, 118])), (.loc "p0")])])
      .skip)
  (.seq (.ite (.bin .ne (.call "URL.Port" [(.loc "p0")]) (.lit (.bytes [])))
      (.ret [(.lit (.list [])), (.call "fmt.Errorf" [(.lit (.bytes [112, 111, 114, 116, 115, 32, 110, 111, 116, 32, 97, 108, 108, 111, 119, 101, 100, 32, 119, 105, 116, 104, 32, 102, 105, 108, 101, 32, 85, 82, 76, 115, 58, 32, 103, 111, 116, 32, 37, 118])), (.loc "p0")])])
      .skip)
  (.seq (.seq (.assign [(.loc "l0")] [(.call "URL.Hostname" [(.loc "p0")])])
    (.ite (.and (.bin .ne (.loc "l0") (.lit (.bytes []))) (.bin .ne (.loc "l0") (.lit (.bytes [108, 111, 99, 97, 108, 104, 111, 115, 116]))))
      (.ret [(.lit (.list [])), (.call "fmt.Errorf" [(.lit (.bytes [102, 105, 108, 101, 32, 85, 82, 76, 115, 32, 109, 117, 115, 116, 32, 108, 101, 97, 118, 101, 32, 104, 111, 115, 116, 32, 101, 109, 112, 116, 121, 32, 111, 114, 32, 117, 115, 101, 32, 108, 111, 99, 97, 108, 104, 111, 115, 116, 58, 32, 103, 111, 116, 32, 37, 118])), (.loc "p0")])])
      .skip))
  (.seq (.call [(.loc "l1"), (.loc "l2")] "newFileSinkFromPath" [(.index (.loc "p0") (.lit (.int 4)))])
  (.ret [(.loc "l1"), (.loc "l2")])))))))

@[reducible] def newFileSinkFromURL_params : List String := ["p0"]
@[reducible] def newFileSinkFromURL_named : List (String × Val) := []
def newFileSinkFromURL : Fun := { params := newFileSinkFromURL_params, named := newFileSinkFromURL_named, body := newFileSinkFromURL_body }

/-- sink.go: func (sinkRegistry) newSink
    p0 = rawURL string
    l0 = (value of the returned call) opt:Sink
    l1 = (value of the returned call) error
    l2 = u ptr:struct:URL
    l3 = err error
    l4 = factory SinkFactory
    l5 = ok bool
    l6 = (value of the returned call) opt:Sink
    l7 = (value of the returned call) error
    field #ev ↦ ev []Event
    field factories ↦ factories map:string:SinkFactory
    field mu ↦ mu Mutex
-/
def newSink_body : Stmt :=
  (.seq (.ite (.call "filepath.IsAbs" [(.loc "p0")])
      (.seq (.call [(.loc "l0"), (.loc "l1")] "newFileSinkFromPath" [(.loc "p0")])
      (.ret [(.loc "l0"), (.loc "l1")]))
      .skip)
  (.seq (.callX [(.loc "l2"), (.loc "l3")] "url.Parse" [(.loc "p0")])
  (.seq (.ite (.bin .ne (.len (.loc "l3")) (.lit (.int 0)))
      (.ret [(.lit (.list [])), (.call "fmt.Errorf" [(.lit (.bytes [99, 97, 110, 39, 116, 32, 112, 97, 114, 115, 101, 32, 37, 113, 32, 97, 115, 32, 97, 32, 85, 82, 76, 58, 32, 37, 118])), (.loc "p0"), (.loc "l3")])])
      .skip)
  (.seq (.ite (.bin .eq (.index (.loc "l2") (.lit (.int 0))) (.lit (.bytes [])))
      (.assign [(.loc "l2")] [(.call "tuple" [(.lit (.bytes [102, 105, 108, 101])), (.index (.loc "l2") (.lit (.int 1))), (.index (.loc "l2") (.lit (.int 2))), (.index (.loc "l2") (.lit (.int 3))), (.index (.loc "l2") (.lit (.int 4))), (.index (.loc "l2") (.lit (.int 5)))])])
      .skip)
  (.seq (.seq (.assign [(.fld "ev")] [(.call "append" [(.fld "ev"), (.call "tuple" [(.lit (.bytes [77, 117, 116, 101, 120, 46, 76, 111, 99, 107]) /- Mutex.Lock -/), (.fld "mu")])])])
    (.callX [] "Mutex.Lock" [(.fld "mu")]))
  (.seq (.callX [(.loc "l4"), (.loc "l5")] "factories.get" [(.fld "factories"), (.index (.loc "l2") (.lit (.int 0)))])
  (.seq (.seq (.assign [(.fld "ev")] [(.call "append" [(.fld "ev"), (.call "tuple" [(.lit (.bytes [77, 117, 116, 101, 120, 46, 85, 110, 108, 111, 99, 107]) /- Mutex.Unlock -/), (.fld "mu")])])])
    (.callX [] "Mutex.Unlock" [(.fld "mu")]))
  (.seq (.ite (.un .not (.loc "l5"))
      (.ret [(.lit (.list [])), (.call "errSinkNotFound" [(.index (.loc "l2") (.lit (.int 0)))])])
      .skip)
  (.seq (.seq (.assign [(.fld "ev")] [(.call "append" [(.fld "ev"), (.call "tuple" [(.lit (.bytes [83, 105, 110, 107, 70, 97, 99, 116, 111, 114, 121, 46, 99, 97, 108, 108]) /- SinkFactory.call -/), (.loc "l4"), (.loc "l2")])])])
    (.callX [(.loc "l6"), (.loc "l7")] "SinkFactory.call" [(.loc "l4"), (.loc "l2")]))
  (.ret [(.loc "l6"), (.loc "l7")]))))))))))

@[reducible] def newSink_params : List String := ["p0"]
@[reducible] def newSink_named : List (String × Val) := []
def newSink : Fun := { params := newSink_params, named := newSink_named, body := newSink_body }

/-- sink.go: func normalizeScheme
    p0 = s string
    isLetter = a local function given by one expression: calls on local variables are that expression
    l0 = first u8
    l1 = i int
    l2 = c u8
    field #ev ↦ ev []Event
-/
def normalizeScheme_loop0 : Stmt :=
  (.loop (.bin .lt (.loc "l1") (.len (.loc "p0")))
    (.assign [(.loc "l1")] [(.bin (.add .int) (.loc "l1") (.lit (.int 1)))])
    (.seq (.assign [(.loc "l2")] [(.index (.loc "p0") (.loc "l1"))])
    (.seq (.switch (.lit (.bool true))
        (.case [(.or (.and (.bin .le (.lit (.int 97)) (.loc "l2")) (.bin .le (.loc "l2") (.lit (.int 122)))) (.and (.bin .le (.lit (.int 65)) (.loc "l2")) (.bin .le (.loc "l2") (.lit (.int 90)))))]
          .cont
        (.case [(.and (.bin .le (.lit (.int 48)) (.loc "l2")) (.bin .le (.loc "l2") (.lit (.int 57))))]
          .cont
        (.case [(.or (.or (.bin .eq (.loc "l2") (.lit (.int 46))) (.bin .eq (.loc "l2") (.lit (.int 43)))) (.bin .eq (.loc "l2") (.lit (.int 45))))]
          .cont
        (.default .skip)))))
    (.ret [(.lit (.bytes [])), (.call "fmt.Errorf" [(.lit (.bytes [109, 97, 121, 32, 110, 111, 116, 32, 99, 111, 110, 116, 97, 105, 110, 32, 37, 113])), (.loc "l2")])]))))

def normalizeScheme_body : Stmt :=
  (.seq .skip
  (.seq (.seq (.assign [(.loc "l0")] [(.index (.loc "p0") (.lit (.int 0)))])
    (.ite (.un .not (.or (.and (.bin .le (.lit (.int 97)) (.loc "l0")) (.bin .le (.loc "l0") (.lit (.int 122)))) (.and (.bin .le (.lit (.int 65)) (.loc "l0")) (.bin .le (.loc "l0") (.lit (.int 90))))))
      (.ret [(.lit (.bytes [])), (.call "errors.New" [(.lit (.bytes [109, 117, 115, 116, 32, 115, 116, 97, 114, 116, 32, 119, 105, 116, 104, 32, 97, 32, 108, 101, 116, 116, 101, 114]))])])
      .skip))
  (.seq (.seq (.assign [(.loc "l1")] [(.lit (.int 1))])
    normalizeScheme_loop0)
  (.ret [(.call "strings.ToLower" [(.loc "p0")]), (.lit (.list []))]))))

@[reducible] def normalizeScheme_params : List String := ["p0"]
@[reducible] def normalizeScheme_named : List (String × Val) := []
def normalizeScheme : Fun := { params := normalizeScheme_params, named := normalizeScheme_named, body := normalizeScheme_body }

/-- global.go: func redirectStdLogAt
    p0 = l Logger
    p1 = level i8
    l0 = logger Logger
    l1 = logFunc LogFunc
    l2 = err error
    l3 = flags int
    l4 = prefix string
    field #ev ↦ ev []Event
    field #std.flags ↦ std.flags int
    field #std.out ↦ std.out Writer
    field #std.prefix ↦ std.prefix string
-/
def redirectStdLogAt_body : Stmt :=
  (.seq (.assign [(.loc "l0")] [(.call "Logger.WithOptions" [(.loc "p0"), (.call "AddCallerSkip" [(.lit (.int 3))])])])
  (.seq (.callX [(.loc "l1"), (.loc "l2")] "levelToFunc" [(.loc "l0"), (.loc "p1")])
  (.seq (.ite (.bin .ne (.len (.loc "l2")) (.lit (.int 0)))
      (.ret [(.lit (.list [])), (.loc "l2")])
      .skip)
  (.seq (.assign [(.loc "l3")] [(.call "id" [(.fld "std.flags")])])
  (.seq (.assign [(.loc "l4")] [(.call "id" [(.fld "std.prefix")])])
  (.seq (.callX [(.fld "std.flags")] "set" [(.fld "std.flags"), (.lit (.int 0))])
  (.seq (.callX [(.fld "std.prefix")] "set" [(.fld "std.prefix"), (.lit (.bytes []))])
  (.seq (.callX [(.fld "std.out")] "set" [(.fld "std.out"), (.call "loggerWriter" [(.loc "l1")])])
  (.ret [(.call "tuple" [(.lit (.bytes [102, 117, 110, 99, 40, 41, 32, 123, 10, 9, 108, 111, 103, 46, 83, 101, 116, 70, 108, 97, 103, 115, 40, 102, 108, 97, 103, 115, 41, 10, 9, 108, 111, 103, 46, 83, 101, 116, 80, 114, 101, 102, 105, 120, 40, 112, 114, 101, 102, 105, 120, 41, 10, 9, 108, 111, 103, 46, 83, 101, 116, 79, 117, 116, 112, 117, 116, 40, 111, 115, 46, 83, 116, 100, 101, 114, 114, 41, 10, 125]) /- closure: its source text -/), (.loc "l3"), (.loc "l4")]), (.lit (.list []))])))))))))

@[reducible] def redirectStdLogAt_params : List String := ["p0", "p1"]
@[reducible] def redirectStdLogAt_named : List (String × Val) := []
def redirectStdLogAt : Fun := { params := redirectStdLogAt_params, named := redirectStdLogAt_named, body := redirectStdLogAt_body }

/-- the translated functions of this table by name -/
def funs : String → Option Fun
  | "openAll" => some openAll
  | "CombineWriteSyncers" => some CombineWriteSyncers
  | "Open" => some Open
  | "buildEncoder" => some buildEncoder
  | "buildOptions" => some buildOptions
  | "Build" => some Build
  | "openSinks" => some openSinks
  | "newFileSinkFromPath" => some newFileSinkFromPath
  | "newFileSinkFromURL" => some newFileSinkFromURL
  | "newSink" => some newSink
  | "normalizeScheme" => some normalizeScheme
  | "redirectStdLogAt" => some redirectStdLogAt
  | _ => none

/-- the table entry by entry: the defining equations of `funs` -/
theorem funs_table :
    funs "openAll" = some openAll ∧
    funs "CombineWriteSyncers" = some CombineWriteSyncers ∧
    funs "Open" = some Open ∧
    funs "buildEncoder" = some buildEncoder ∧
    funs "buildOptions" = some buildOptions ∧
    funs "Build" = some Build ∧
    funs "openSinks" = some openSinks ∧
    funs "newFileSinkFromPath" = some newFileSinkFromPath ∧
    funs "newFileSinkFromURL" = some newFileSinkFromURL ∧
    funs "newSink" = some newSink ∧
    funs "normalizeScheme" = some normalizeScheme ∧
    funs "redirectStdLogAt" = some redirectStdLogAt :=
  ⟨funs.eq_1, funs.eq_2, funs.eq_3, funs.eq_4, funs.eq_5, funs.eq_6, funs.eq_7, funs.eq_8, funs.eq_9, funs.eq_10, funs.eq_11, funs.eq_12⟩

/-! lookup facts for symbolic execution (`funs_f` is entry f of `funs_table`) -/
@[simp] theorem funs_openAll : funs "openAll" = some openAll := funs_table.1
@[simp] theorem openAll_params_eq : openAll.params = openAll_params := rfl
@[simp] theorem openAll_named_eq : openAll.named = openAll_named := rfl
@[simp] theorem openAll_body_eq : openAll.body = openAll_body := rfl
@[simp] theorem funs_CombineWriteSyncers : funs "CombineWriteSyncers" = some CombineWriteSyncers := funs_table.2.1
@[simp] theorem CombineWriteSyncers_params_eq : CombineWriteSyncers.params = CombineWriteSyncers_params := rfl
@[simp] theorem CombineWriteSyncers_named_eq : CombineWriteSyncers.named = CombineWriteSyncers_named := rfl
@[simp] theorem CombineWriteSyncers_body_eq : CombineWriteSyncers.body = CombineWriteSyncers_body := rfl
@[simp] theorem funs_Open : funs "Open" = some Open := funs_table.2.2.1
@[simp] theorem Open_params_eq : Open.params = Open_params := rfl
@[simp] theorem Open_named_eq : Open.named = Open_named := rfl
@[simp] theorem Open_body_eq : Open.body = Open_body := rfl
@[simp] theorem funs_buildEncoder : funs "buildEncoder" = some buildEncoder := funs_table.2.2.2.1
@[simp] theorem buildEncoder_params_eq : buildEncoder.params = buildEncoder_params := rfl
@[simp] theorem buildEncoder_named_eq : buildEncoder.named = buildEncoder_named := rfl
@[simp] theorem buildEncoder_body_eq : buildEncoder.body = buildEncoder_body := rfl
@[simp] theorem funs_buildOptions : funs "buildOptions" = some buildOptions := funs_table.2.2.2.2.1
@[simp] theorem buildOptions_params_eq : buildOptions.params = buildOptions_params := rfl
@[simp] theorem buildOptions_named_eq : buildOptions.named = buildOptions_named := rfl
@[simp] theorem buildOptions_body_eq : buildOptions.body = buildOptions_body := rfl
@[simp] theorem funs_Build : funs "Build" = some Build := funs_table.2.2.2.2.2.1
@[simp] theorem Build_params_eq : Build.params = Build_params := rfl
@[simp] theorem Build_named_eq : Build.named = Build_named := rfl
@[simp] theorem Build_body_eq : Build.body = Build_body := rfl
@[simp] theorem funs_openSinks : funs "openSinks" = some openSinks := funs_table.2.2.2.2.2.2.1
@[simp] theorem openSinks_params_eq : openSinks.params = openSinks_params := rfl
@[simp] theorem openSinks_named_eq : openSinks.named = openSinks_named := rfl
@[simp] theorem openSinks_body_eq : openSinks.body = openSinks_body := rfl
@[simp] theorem funs_newFileSinkFromPath : funs "newFileSinkFromPath" = some newFileSinkFromPath := funs_table.2.2.2.2.2.2.2.1
@[simp] theorem newFileSinkFromPath_params_eq : newFileSinkFromPath.params = newFileSinkFromPath_params := rfl
@[simp] theorem newFileSinkFromPath_named_eq : newFileSinkFromPath.named = newFileSinkFromPath_named := rfl
@[simp] theorem newFileSinkFromPath_body_eq : newFileSinkFromPath.body = newFileSinkFromPath_body := rfl
@[simp] theorem funs_newFileSinkFromURL : funs "newFileSinkFromURL" = some newFileSinkFromURL := funs_table.2.2.2.2.2.2.2.2.1
@[simp] theorem newFileSinkFromURL_params_eq : newFileSinkFromURL.params = newFileSinkFromURL_params := rfl
@[simp] theorem newFileSinkFromURL_named_eq : newFileSinkFromURL.named = newFileSinkFromURL_named := rfl
@[simp] theorem newFileSinkFromURL_body_eq : newFileSinkFromURL.body = newFileSinkFromURL_body := rfl
@[simp] theorem funs_newSink : funs "newSink" = some newSink := funs_table.2.2.2.2.2.2.2.2.2.1
@[simp] theorem newSink_params_eq : newSink.params = newSink_params := rfl
@[simp] theorem newSink_named_eq : newSink.named = newSink_named := rfl
@[simp] theorem newSink_body_eq : newSink.body = newSink_body := rfl
@[simp] theorem funs_normalizeScheme : funs "normalizeScheme" = some normalizeScheme := funs_table.2.2.2.2.2.2.2.2.2.2.1
@[simp] theorem normalizeScheme_params_eq : normalizeScheme.params = normalizeScheme_params := rfl
@[simp] theorem normalizeScheme_named_eq : normalizeScheme.named = normalizeScheme_named := rfl
@[simp] theorem normalizeScheme_body_eq : normalizeScheme.body = normalizeScheme_body := rfl
@[simp] theorem funs_redirectStdLogAt : funs "redirectStdLogAt" = some redirectStdLogAt := funs_table.2.2.2.2.2.2.2.2.2.2.2
@[simp] theorem redirectStdLogAt_params_eq : redirectStdLogAt.params = redirectStdLogAt_params := rfl
@[simp] theorem redirectStdLogAt_named_eq : redirectStdLogAt.named = redirectStdLogAt_named := rfl
@[simp] theorem redirectStdLogAt_body_eq : redirectStdLogAt.body = redirectStdLogAt_body := rfl

end ZapVerif.Gen.TransOpen
