/- GENERATED by zvgen from /repo — do not edit; regenerated on every check run. -/
import ZapVerif.Model.GoMini
/-! Mechanical translation (gen/trans.go) of whitelisted Go functions to GoMini terms. -/
namespace ZapVerif.Gen.TransJsonSep
open ZapVerif.GoMini

/-- zapcore/json_encoder.go: func (jsonEncoder) addElementSeparator
    l0 = last int
    field buf ↦ buf Buffer
    field openNamespaces ↦ openNs int
    field spaced ↦ spaced bool
-/
def addElementSeparator_body : Stmt :=
  (.seq (.assign [(.loc "l0")] [(.bin (.sub .int) (.len (.fld "buf")) (.lit (.int 1)))])
  (.seq (.ite (.bin .lt (.loc "l0") (.lit (.int 0)))
      (.ret [])
      .skip)
  (.switch (.index (.fld "buf") (.loc "l0"))
    (.case [(.lit (.int 123)), (.lit (.int 91)), (.lit (.int 58)), (.lit (.int 44)), (.lit (.int 32))]
      (.ret [])
    (.default (.seq (.assign [(.fld "buf")] [(.call "append" [(.fld "buf"), (.lit (.int 44))])])
      (.ite (.fld "spaced")
        (.assign [(.fld "buf")] [(.call "append" [(.fld "buf"), (.lit (.int 32))])])
        .skip)))))))

@[reducible] def addElementSeparator_params : List String := []
@[reducible] def addElementSeparator_named : List (String × Val) := []
def addElementSeparator : Fun := { params := addElementSeparator_params, named := addElementSeparator_named, body := addElementSeparator_body }

/-- zapcore/json_encoder.go: func (jsonEncoder) addKey
    p0 = key string
    field buf ↦ buf Buffer
    field openNamespaces ↦ openNs int
    field spaced ↦ spaced bool
-/
def addKey_body : Stmt :=
  (.seq (.call [] "addElementSeparator" [])
  (.seq (.assign [(.fld "buf")] [(.call "append" [(.fld "buf"), (.lit (.int 34))])])
  (.seq (.callX [(.fld "buf")] "safeAddString" [(.fld "buf"), (.loc "p0")])
  (.seq (.assign [(.fld "buf")] [(.call "append" [(.fld "buf"), (.lit (.int 34))])])
  (.seq (.assign [(.fld "buf")] [(.call "append" [(.fld "buf"), (.lit (.int 58))])])
  (.ite (.fld "spaced")
    (.assign [(.fld "buf")] [(.call "append" [(.fld "buf"), (.lit (.int 32))])])
    .skip))))))

@[reducible] def addKey_params : List String := ["p0"]
@[reducible] def addKey_named : List (String × Val) := []
def addKey : Fun := { params := addKey_params, named := addKey_named, body := addKey_body }

/-- zapcore/json_encoder.go: func (jsonEncoder) closeOpenNamespaces
    l0 = i int
    field buf ↦ buf Buffer
    field openNamespaces ↦ openNs int
    field spaced ↦ spaced bool
-/
def closeOpenNamespaces_loop0 : Stmt :=
  (.loop (.bin .lt (.loc "l0") (.fld "openNs"))
    (.assign [(.loc "l0")] [(.bin (.add .int) (.loc "l0") (.lit (.int 1)))])
    (.assign [(.fld "buf")] [(.call "append" [(.fld "buf"), (.lit (.int 125))])]))

def closeOpenNamespaces_body : Stmt :=
  (.seq (.seq (.assign [(.loc "l0")] [(.lit (.int 0))])
    closeOpenNamespaces_loop0)
  (.assign [(.fld "openNs")] [(.lit (.int 0))]))

@[reducible] def closeOpenNamespaces_params : List String := []
@[reducible] def closeOpenNamespaces_named : List (String × Val) := []
def closeOpenNamespaces : Fun := { params := closeOpenNamespaces_params, named := closeOpenNamespaces_named, body := closeOpenNamespaces_body }

/-- the translated functions of this table by name -/
def funs : String → Option Fun
  | "addElementSeparator" => some addElementSeparator
  | "addKey" => some addKey
  | "closeOpenNamespaces" => some closeOpenNamespaces
  | _ => none

/-- the table entry by entry: the defining equations of `funs` -/
theorem funs_table :
    funs "addElementSeparator" = some addElementSeparator ∧
    funs "addKey" = some addKey ∧
    funs "closeOpenNamespaces" = some closeOpenNamespaces :=
  ⟨funs.eq_1, funs.eq_2, funs.eq_3⟩

/-! lookup facts for symbolic execution (`funs_f` is entry f of `funs_table`) -/
@[simp] theorem funs_addElementSeparator : funs "addElementSeparator" = some addElementSeparator := funs_table.1
@[simp] theorem addElementSeparator_params_eq : addElementSeparator.params = addElementSeparator_params := rfl
@[simp] theorem addElementSeparator_named_eq : addElementSeparator.named = addElementSeparator_named := rfl
@[simp] theorem addElementSeparator_body_eq : addElementSeparator.body = addElementSeparator_body := rfl
@[simp] theorem funs_addKey : funs "addKey" = some addKey := funs_table.2.1
@[simp] theorem addKey_params_eq : addKey.params = addKey_params := rfl
@[simp] theorem addKey_named_eq : addKey.named = addKey_named := rfl
@[simp] theorem addKey_body_eq : addKey.body = addKey_body := rfl
@[simp] theorem funs_closeOpenNamespaces : funs "closeOpenNamespaces" = some closeOpenNamespaces := funs_table.2.2
@[simp] theorem closeOpenNamespaces_params_eq : closeOpenNamespaces.params = closeOpenNamespaces_params := rfl
@[simp] theorem closeOpenNamespaces_named_eq : closeOpenNamespaces.named = closeOpenNamespaces_named := rfl
@[simp] theorem closeOpenNamespaces_body_eq : closeOpenNamespaces.body = closeOpenNamespaces_body := rfl

end ZapVerif.Gen.TransJsonSep
