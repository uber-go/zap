/- GENERATED by zvgen from /repo — do not edit; regenerated on every check run. -/
import ZapVerif.Model.GoMini
/-! Mechanical translation (gen/trans.go) of whitelisted Go functions to GoMini terms. -/
namespace ZapVerif.Gen.TransCores
open ZapVerif.GoMini

/-- zapcore/core.go: func (ioCore) Sync
    l0 = (value of the returned call) error
    field #ev ↦ ev []Event
    field enc ↦ enc Encoder
    field out ↦ out WriteSyncer
    receiver value ↦ self Core
-/
def ioCore_Sync_body : Stmt :=
  (.seq (.seq (.assign [(.fld "ev")] [(.call "append" [(.fld "ev"), (.call "tuple" [(.lit (.bytes [87, 114, 105, 116, 101, 83, 121, 110, 99, 101, 114, 46, 83, 121, 110, 99]) /- WriteSyncer.Sync -/), (.fld "out")])])])
    (.callX [(.loc "l0")] "WriteSyncer.Sync" [(.fld "out")]))
  (.ret [(.loc "l0")]))

@[reducible] def ioCore_Sync_params : List String := []
@[reducible] def ioCore_Sync_named : List (String × Val) := []
def ioCore_Sync : Fun := { params := ioCore_Sync_params, named := ioCore_Sync_named, body := ioCore_Sync_body }

/-- zapcore/core.go: func (ioCore) Write
    p0 = ent struct:Entry
    p1 = fields []Field
    l0 = buf Buffer
    l1 = err error
    field #ev ↦ ev []Event
    field enc ↦ enc Encoder
    field out ↦ out WriteSyncer
    receiver value ↦ self Core
-/
def ioCore_Write_body : Stmt :=
  (.seq (.seq (.assign [(.fld "ev")] [(.call "append" [(.fld "ev"), (.call "tuple" [(.lit (.bytes [69, 110, 99, 111, 100, 101, 114, 46, 69, 110, 99, 111, 100, 101, 69, 110, 116, 114, 121]) /- Encoder.EncodeEntry -/), (.fld "enc"), (.loc "p0"), (.loc "p1")])])])
    (.callX [(.loc "l0"), (.loc "l1")] "Encoder.EncodeEntry" [(.fld "enc"), (.loc "p0"), (.loc "p1")]))
  (.seq (.ite (.bin .ne (.len (.loc "l1")) (.lit (.int 0)))
      (.ret [(.loc "l1")])
      .skip)
  (.seq (.seq (.assign [(.fld "ev")] [(.call "append" [(.fld "ev"), (.call "tuple" [(.lit (.bytes [87, 114, 105, 116, 101, 83, 121, 110, 99, 101, 114, 46, 87, 114, 105, 116, 101]) /- WriteSyncer.Write -/), (.fld "out"), (.loc "l0")])])])
    (.callX [.blank, (.loc "l1")] "WriteSyncer.Write" [(.fld "out"), (.loc "l0")]))
  (.seq .skip
  (.seq (.ite (.bin .ne (.len (.loc "l1")) (.lit (.int 0)))
      (.ret [(.loc "l1")])
      .skip)
  (.seq (.ite (.bin .gt (.index (.loc "p0") (.lit (.int 0))) (.lit (.int 2)))
      (.call [.blank] "ioCore_Sync" [])
      .skip)
  (.ret [(.lit (.list []))])))))))

@[reducible] def ioCore_Write_params : List String := ["p0", "p1"]
@[reducible] def ioCore_Write_named : List (String × Val) := []
def ioCore_Write : Fun := { params := ioCore_Write_params, named := ioCore_Write_named, body := ioCore_Write_body }

/-- zapcore/core.go: func (ioCore) Check
    p0 = ent struct:Entry
    p1 = ce ptr:struct:CE
    field #ev ↦ ev []Event
    field enc ↦ enc Encoder
    field out ↦ out WriteSyncer
    receiver value ↦ self Core
-/
def ioCore_Check_body : Stmt :=
  (.seq (.ite (.call "LevelEnabler.Enabled" [(.index (.loc "p0") (.lit (.int 0)))])
      (.ret [(.call "CE.AddCore" [(.loc "p1"), (.loc "p0"), (.fld "self")])])
      .skip)
  (.ret [(.loc "p1")]))

@[reducible] def ioCore_Check_params : List String := ["p0", "p1"]
@[reducible] def ioCore_Check_named : List (String × Val) := []
def ioCore_Check : Fun := { params := ioCore_Check_params, named := ioCore_Check_named, body := ioCore_Check_body }

/-- zapcore/tee.go: func (multiCore) Write
    p0 = ent struct:Entry
    p1 = fields []Field
    l0 = err error
    l1 = i int
    l2 = (value of mc[i].Write(…) inside an expression) error
    field #ev ↦ ev []Event
    receiver value ↦ mc []Core
-/
def multiCore_Write_loop0 : Stmt :=
  (.range (.loc "l1") .blank (.fld "mc")
    (.seq (.seq (.assign [(.fld "ev")] [(.call "append" [(.fld "ev"), (.call "tuple" [(.lit (.bytes [67, 111, 114, 101, 46, 87, 114, 105, 116, 101]) /- Core.Write -/), (.index (.fld "mc") (.loc "l1")), (.loc "p0"), (.loc "p1")])])])
      (.callX [(.loc "l2")] "Core.Write" [(.index (.fld "mc") (.loc "l1")), (.loc "p0"), (.loc "p1")]))
    (.assign [(.loc "l0")] [(.call "append..." [(.loc "l0"), (.loc "l2")])])))

def multiCore_Write_body : Stmt :=
  (.seq (.assign [(.loc "l0")] [(.lit (.list []))])
  (.seq multiCore_Write_loop0
  (.ret [(.loc "l0")])))

@[reducible] def multiCore_Write_params : List String := ["p0", "p1"]
@[reducible] def multiCore_Write_named : List (String × Val) := []
def multiCore_Write : Fun := { params := multiCore_Write_params, named := multiCore_Write_named, body := multiCore_Write_body }

/-- zapcore/tee.go: func (multiCore) Sync
    l0 = err error
    l1 = i int
    l2 = (value of mc[i].Sync(…) inside an expression) error
    field #ev ↦ ev []Event
    receiver value ↦ mc []Core
-/
def multiCore_Sync_loop0 : Stmt :=
  (.range (.loc "l1") .blank (.fld "mc")
    (.seq (.seq (.assign [(.fld "ev")] [(.call "append" [(.fld "ev"), (.call "tuple" [(.lit (.bytes [67, 111, 114, 101, 46, 83, 121, 110, 99]) /- Core.Sync -/), (.index (.fld "mc") (.loc "l1"))])])])
      (.callX [(.loc "l2")] "Core.Sync" [(.index (.fld "mc") (.loc "l1"))]))
    (.assign [(.loc "l0")] [(.call "append..." [(.loc "l0"), (.loc "l2")])])))

def multiCore_Sync_body : Stmt :=
  (.seq (.assign [(.loc "l0")] [(.lit (.list []))])
  (.seq multiCore_Sync_loop0
  (.ret [(.loc "l0")])))

@[reducible] def multiCore_Sync_params : List String := []
@[reducible] def multiCore_Sync_named : List (String × Val) := []
def multiCore_Sync : Fun := { params := multiCore_Sync_params, named := multiCore_Sync_named, body := multiCore_Sync_body }

/-- zapcore/tee.go: func (multiCore) Check
    p0 = ent struct:Entry
    p1 = ce ptr:struct:CE
    l0 = i int
    field #ev ↦ ev []Event
    receiver value ↦ mc []Core
-/
def multiCore_Check_loop0 : Stmt :=
  (.range (.loc "l0") .blank (.fld "mc")
    (.assign [(.loc "p1")] [(.call "Core.Check" [(.index (.fld "mc") (.loc "l0")), (.loc "p0"), (.loc "p1")])]))

def multiCore_Check_body : Stmt :=
  (.seq multiCore_Check_loop0
  (.ret [(.loc "p1")]))

@[reducible] def multiCore_Check_params : List String := ["p0", "p1"]
@[reducible] def multiCore_Check_named : List (String × Val) := []
def multiCore_Check : Fun := { params := multiCore_Check_params, named := multiCore_Check_named, body := multiCore_Check_body }

/-- zapcore/tee.go: func (multiCore) Enabled
    p0 = lvl i8
    l0 = i int
    field #ev ↦ ev []Event
    receiver value ↦ mc []Core
-/
def multiCore_Enabled_loop0 : Stmt :=
  (.range (.loc "l0") .blank (.fld "mc")
    (.ite (.call "Core.Enabled" [(.index (.fld "mc") (.loc "l0")), (.loc "p0")])
      (.ret [(.lit (.bool true))])
      .skip))

def multiCore_Enabled_body : Stmt :=
  (.seq multiCore_Enabled_loop0
  (.ret [(.lit (.bool false))]))

@[reducible] def multiCore_Enabled_params : List String := ["p0"]
@[reducible] def multiCore_Enabled_named : List (String × Val) := []
def multiCore_Enabled : Fun := { params := multiCore_Enabled_params, named := multiCore_Enabled_named, body := multiCore_Enabled_body }

/-- zapcore/hook.go: func (hooked) Check
    p0 = ent struct:Entry
    p1 = ce ptr:struct:CE
    l0 = before int
    l1 = downstream ptr:struct:CE
    field #ev ↦ ev []Event
    field Core ↦ core Core
    field funcs ↦ funcs []HookFn
    receiver value ↦ self Core
-/
def hooked_Check_body : Stmt :=
  (.seq (.assign [(.loc "l0")] [(.lit (.int 0))])
  (.seq (.ite (.bin .ne (.len (.loc "p1")) (.lit (.int 0)))
      (.assign [(.loc "l0")] [(.len (.index (.loc "p1") (.lit (.int 0))))])
      .skip)
  (.seq (.assign [(.loc "l1")] [(.call "Core.Check" [(.fld "core"), (.loc "p0"), (.loc "p1")])])
  (.seq (.ite (.bin .eq (.len (.loc "l1")) (.lit (.int 0)))
      (.ret [(.loc "p1")])
      .skip)
  (.seq (.ite (.bin .gt (.len (.index (.loc "l1") (.lit (.int 0)))) (.loc "l0"))
      (.ret [(.call "CE.AddCore" [(.loc "l1"), (.loc "p0"), (.fld "self")])])
      .skip)
  (.ret [(.loc "l1")]))))))

@[reducible] def hooked_Check_params : List String := ["p0", "p1"]
@[reducible] def hooked_Check_named : List (String × Val) := []
def hooked_Check : Fun := { params := hooked_Check_params, named := hooked_Check_named, body := hooked_Check_body }

/-- zapcore/hook.go: func (hooked) Write
    p0 = ent struct:Entry
    p1 = _ []Field
    l0 = err error
    l1 = i int
    l2 = (value of h.funcs[i](…) inside an expression) error
    field #ev ↦ ev []Event
    field Core ↦ core Core
    field funcs ↦ funcs []HookFn
    receiver value ↦ self Core
-/
def hooked_Write_loop0 : Stmt :=
  (.range (.loc "l1") .blank (.fld "funcs")
    (.seq (.seq (.assign [(.fld "ev")] [(.call "append" [(.fld "ev"), (.call "tuple" [(.lit (.bytes [72, 111, 111, 107, 70, 110]) /- HookFn -/), (.index (.fld "funcs") (.loc "l1")), (.loc "p0")])])])
      (.callX [(.loc "l2")] "HookFn" [(.index (.fld "funcs") (.loc "l1")), (.loc "p0")]))
    (.assign [(.loc "l0")] [(.call "append..." [(.loc "l0"), (.loc "l2")])])))

def hooked_Write_body : Stmt :=
  (.seq (.assign [(.loc "l0")] [(.lit (.list []))])
  (.seq hooked_Write_loop0
  (.ret [(.loc "l0")])))

@[reducible] def hooked_Write_params : List String := ["p0", "p1"]
@[reducible] def hooked_Write_named : List (String × Val) := []
def hooked_Write : Fun := { params := hooked_Write_params, named := hooked_Write_named, body := hooked_Write_body }

/-- zapcore/increase_level.go: func (levelFilterCore) Enabled
    p0 = lvl i8
    field #ev ↦ ev []Event
    field core ↦ core Core
    field level ↦ level LevelEnabler
    receiver value ↦ self Core
-/
def levelFilterCore_Enabled_body : Stmt :=
  (.ret [(.call "LevelEnabler.Enabled" [(.fld "level"), (.loc "p0")])])

@[reducible] def levelFilterCore_Enabled_params : List String := ["p0"]
@[reducible] def levelFilterCore_Enabled_named : List (String × Val) := []
def levelFilterCore_Enabled : Fun := { params := levelFilterCore_Enabled_params, named := levelFilterCore_Enabled_named, body := levelFilterCore_Enabled_body }

/-- zapcore/increase_level.go: func (levelFilterCore) Check
    p0 = ent struct:Entry
    p1 = ce ptr:struct:CE
    l0 = (value of c.Enabled(…) inside an expression) bool
    field #ev ↦ ev []Event
    field core ↦ core Core
    field level ↦ level LevelEnabler
    receiver value ↦ self Core
-/
def levelFilterCore_Check_body : Stmt :=
  (.seq (.seq (.call [(.loc "l0")] "levelFilterCore_Enabled" [(.index (.loc "p0") (.lit (.int 0)))])
    (.ite (.un .not (.loc "l0"))
      (.ret [(.loc "p1")])
      .skip))
  (.ret [(.call "Core.Check" [(.fld "core"), (.loc "p0"), (.loc "p1")])]))

@[reducible] def levelFilterCore_Check_params : List String := ["p0", "p1"]
@[reducible] def levelFilterCore_Check_named : List (String × Val) := []
def levelFilterCore_Check : Fun := { params := levelFilterCore_Check_params, named := levelFilterCore_Check_named, body := levelFilterCore_Check_body }

/-- the translated functions of this table by name -/
def funs : String → Option Fun
  | "ioCore_Sync" => some ioCore_Sync
  | "ioCore_Write" => some ioCore_Write
  | "ioCore_Check" => some ioCore_Check
  | "multiCore_Write" => some multiCore_Write
  | "multiCore_Sync" => some multiCore_Sync
  | "multiCore_Check" => some multiCore_Check
  | "multiCore_Enabled" => some multiCore_Enabled
  | "hooked_Check" => some hooked_Check
  | "hooked_Write" => some hooked_Write
  | "levelFilterCore_Enabled" => some levelFilterCore_Enabled
  | "levelFilterCore_Check" => some levelFilterCore_Check
  | _ => none

/-- the table entry by entry: the defining equations of `funs` -/
theorem funs_table :
    funs "ioCore_Sync" = some ioCore_Sync ∧
    funs "ioCore_Write" = some ioCore_Write ∧
    funs "ioCore_Check" = some ioCore_Check ∧
    funs "multiCore_Write" = some multiCore_Write ∧
    funs "multiCore_Sync" = some multiCore_Sync ∧
    funs "multiCore_Check" = some multiCore_Check ∧
    funs "multiCore_Enabled" = some multiCore_Enabled ∧
    funs "hooked_Check" = some hooked_Check ∧
    funs "hooked_Write" = some hooked_Write ∧
    funs "levelFilterCore_Enabled" = some levelFilterCore_Enabled ∧
    funs "levelFilterCore_Check" = some levelFilterCore_Check :=
  ⟨funs.eq_1, funs.eq_2, funs.eq_3, funs.eq_4, funs.eq_5, funs.eq_6, funs.eq_7, funs.eq_8, funs.eq_9, funs.eq_10, funs.eq_11⟩

/-! lookup facts for symbolic execution (`funs_f` is entry f of `funs_table`) -/
@[simp] theorem funs_ioCore_Sync : funs "ioCore_Sync" = some ioCore_Sync := funs_table.1
@[simp] theorem ioCore_Sync_params_eq : ioCore_Sync.params = ioCore_Sync_params := rfl
@[simp] theorem ioCore_Sync_named_eq : ioCore_Sync.named = ioCore_Sync_named := rfl
@[simp] theorem ioCore_Sync_body_eq : ioCore_Sync.body = ioCore_Sync_body := rfl
@[simp] theorem funs_ioCore_Write : funs "ioCore_Write" = some ioCore_Write := funs_table.2.1
@[simp] theorem ioCore_Write_params_eq : ioCore_Write.params = ioCore_Write_params := rfl
@[simp] theorem ioCore_Write_named_eq : ioCore_Write.named = ioCore_Write_named := rfl
@[simp] theorem ioCore_Write_body_eq : ioCore_Write.body = ioCore_Write_body := rfl
@[simp] theorem funs_ioCore_Check : funs "ioCore_Check" = some ioCore_Check := funs_table.2.2.1
@[simp] theorem ioCore_Check_params_eq : ioCore_Check.params = ioCore_Check_params := rfl
@[simp] theorem ioCore_Check_named_eq : ioCore_Check.named = ioCore_Check_named := rfl
@[simp] theorem ioCore_Check_body_eq : ioCore_Check.body = ioCore_Check_body := rfl
@[simp] theorem funs_multiCore_Write : funs "multiCore_Write" = some multiCore_Write := funs_table.2.2.2.1
@[simp] theorem multiCore_Write_params_eq : multiCore_Write.params = multiCore_Write_params := rfl
@[simp] theorem multiCore_Write_named_eq : multiCore_Write.named = multiCore_Write_named := rfl
@[simp] theorem multiCore_Write_body_eq : multiCore_Write.body = multiCore_Write_body := rfl
@[simp] theorem funs_multiCore_Sync : funs "multiCore_Sync" = some multiCore_Sync := funs_table.2.2.2.2.1
@[simp] theorem multiCore_Sync_params_eq : multiCore_Sync.params = multiCore_Sync_params := rfl
@[simp] theorem multiCore_Sync_named_eq : multiCore_Sync.named = multiCore_Sync_named := rfl
@[simp] theorem multiCore_Sync_body_eq : multiCore_Sync.body = multiCore_Sync_body := rfl
@[simp] theorem funs_multiCore_Check : funs "multiCore_Check" = some multiCore_Check := funs_table.2.2.2.2.2.1
@[simp] theorem multiCore_Check_params_eq : multiCore_Check.params = multiCore_Check_params := rfl
@[simp] theorem multiCore_Check_named_eq : multiCore_Check.named = multiCore_Check_named := rfl
@[simp] theorem multiCore_Check_body_eq : multiCore_Check.body = multiCore_Check_body := rfl
@[simp] theorem funs_multiCore_Enabled : funs "multiCore_Enabled" = some multiCore_Enabled := funs_table.2.2.2.2.2.2.1
@[simp] theorem multiCore_Enabled_params_eq : multiCore_Enabled.params = multiCore_Enabled_params := rfl
@[simp] theorem multiCore_Enabled_named_eq : multiCore_Enabled.named = multiCore_Enabled_named := rfl
@[simp] theorem multiCore_Enabled_body_eq : multiCore_Enabled.body = multiCore_Enabled_body := rfl
@[simp] theorem funs_hooked_Check : funs "hooked_Check" = some hooked_Check := funs_table.2.2.2.2.2.2.2.1
@[simp] theorem hooked_Check_params_eq : hooked_Check.params = hooked_Check_params := rfl
@[simp] theorem hooked_Check_named_eq : hooked_Check.named = hooked_Check_named := rfl
@[simp] theorem hooked_Check_body_eq : hooked_Check.body = hooked_Check_body := rfl
@[simp] theorem funs_hooked_Write : funs "hooked_Write" = some hooked_Write := funs_table.2.2.2.2.2.2.2.2.1
@[simp] theorem hooked_Write_params_eq : hooked_Write.params = hooked_Write_params := rfl
@[simp] theorem hooked_Write_named_eq : hooked_Write.named = hooked_Write_named := rfl
@[simp] theorem hooked_Write_body_eq : hooked_Write.body = hooked_Write_body := rfl
@[simp] theorem funs_levelFilterCore_Enabled : funs "levelFilterCore_Enabled" = some levelFilterCore_Enabled := funs_table.2.2.2.2.2.2.2.2.2.1
@[simp] theorem levelFilterCore_Enabled_params_eq : levelFilterCore_Enabled.params = levelFilterCore_Enabled_params := rfl
@[simp] theorem levelFilterCore_Enabled_named_eq : levelFilterCore_Enabled.named = levelFilterCore_Enabled_named := rfl
@[simp] theorem levelFilterCore_Enabled_body_eq : levelFilterCore_Enabled.body = levelFilterCore_Enabled_body := rfl
@[simp] theorem funs_levelFilterCore_Check : funs "levelFilterCore_Check" = some levelFilterCore_Check := funs_table.2.2.2.2.2.2.2.2.2.2
@[simp] theorem levelFilterCore_Check_params_eq : levelFilterCore_Check.params = levelFilterCore_Check_params := rfl
@[simp] theorem levelFilterCore_Check_named_eq : levelFilterCore_Check.named = levelFilterCore_Check_named := rfl
@[simp] theorem levelFilterCore_Check_body_eq : levelFilterCore_Check.body = levelFilterCore_Check_body := rfl

end ZapVerif.Gen.TransCores
