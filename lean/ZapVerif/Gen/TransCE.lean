/- GENERATED by zvgen from /repo — do not edit; regenerated on every check run. -/
import ZapVerif.Model.GoMini
/-! Mechanical translation (gen/trans.go) of whitelisted Go functions to GoMini terms. -/
namespace ZapVerif.Gen.TransCE
open ZapVerif.GoMini

/-- zapcore/entry.go: func (CheckedEntry) Write
    p0 = fields []Field
    l0 = err error
    l1 = i int
    l2 = (value of ce.cores[i].Write(…) inside an expression) error
    l3 = hook opt:Hook
    field #ev ↦ ev []Event
    field Entry ↦ entry Entry
    field ErrorOutput ↦ eo opt:WriteSyncer
    field Time ↦ time Time
    field after ↦ after opt:Hook
    field cores ↦ cores []Core
    field dirty ↦ dirty bool
    receiver value ↦ self CE
-/
def Write_loop0 : Stmt :=
  (.range (.loc "l1") .blank (.fld "cores")
    (.seq (.seq (.assign [(.fld "ev")] [(.call "append" [(.fld "ev"), (.call "tuple" [(.lit (.bytes [67, 111, 114, 101, 46, 87, 114, 105, 116, 101]) /- Core.Write -/), (.index (.fld "cores") (.loc "l1")), (.fld "entry"), (.loc "p0")])])])
      (.callX [(.loc "l2")] "Core.Write" [(.index (.fld "cores") (.loc "l1")), (.fld "entry"), (.loc "p0")]))
    (.assign [(.loc "l0")] [(.call "append..." [(.loc "l0"), (.loc "l2")])])))

def Write_body : Stmt :=
  (.seq (.ite (.fld "isnil")
      (.ret [])
      .skip)
  (.seq (.ite (.fld "dirty")
      (.seq (.ite (.bin .ne (.len (.fld "eo")) (.lit (.int 0)))
          (.seq (.seq (.assign [(.fld "ev")] [(.call "append" [(.fld "ev"), (.call "tuple" [(.lit (.bytes [102, 109, 116, 46, 70, 112, 114, 105, 110, 116, 102]) /- fmt.Fprintf -/), (.fld "eo"), (.lit (.bytes [37, 118, 32, 85, 110, 115, 97, 102, 101, 32, 67, 104, 101, 99, 107, 101, 100, 69, 110, 116, 114, 121, 32, 114, 101, 45, 117, 115, 101, 32, 110, 101, 97, 114, 32, 69, 110, 116, 114, 121, 32, 37, 43, 118, 46, 10])), (.fld "time"), (.fld "entry")])])])
            (.callX [.blank, .blank] "fmt.Fprintf" [(.fld "eo"), (.lit (.bytes [37, 118, 32, 85, 110, 115, 97, 102, 101, 32, 67, 104, 101, 99, 107, 101, 100, 69, 110, 116, 114, 121, 32, 114, 101, 45, 117, 115, 101, 32, 110, 101, 97, 114, 32, 69, 110, 116, 114, 121, 32, 37, 43, 118, 46, 10])), (.fld "time"), (.fld "entry")]))
          (.seq (.assign [(.fld "ev")] [(.call "append" [(.fld "ev"), (.call "tuple" [(.lit (.bytes [69, 114, 114, 111, 114, 79, 117, 116, 112, 117, 116, 46, 83, 121, 110, 99]) /- ErrorOutput.Sync -/), (.fld "eo")])])])
          (.callX [.blank] "ErrorOutput.Sync" [(.fld "eo")])))
          .skip)
      (.ret []))
      .skip)
  (.seq (.assign [(.fld "dirty")] [(.lit (.bool true))])
  (.seq (.assign [(.loc "l0")] [(.lit (.list []))])
  (.seq Write_loop0
  (.seq (.ite (.and (.bin .ne (.len (.loc "l0")) (.lit (.int 0))) (.bin .ne (.len (.fld "eo")) (.lit (.int 0))))
      (.seq (.seq (.assign [(.fld "ev")] [(.call "append" [(.fld "ev"), (.call "tuple" [(.lit (.bytes [102, 109, 116, 46, 70, 112, 114, 105, 110, 116, 102]) /- fmt.Fprintf -/), (.fld "eo"), (.lit (.bytes [37, 118, 32, 119, 114, 105, 116, 101, 32, 101, 114, 114, 111, 114, 58, 32, 37, 118, 10])), (.fld "time"), (.loc "l0")])])])
        (.callX [.blank, .blank] "fmt.Fprintf" [(.fld "eo"), (.lit (.bytes [37, 118, 32, 119, 114, 105, 116, 101, 32, 101, 114, 114, 111, 114, 58, 32, 37, 118, 10])), (.fld "time"), (.loc "l0")]))
      (.seq (.assign [(.fld "ev")] [(.call "append" [(.fld "ev"), (.call "tuple" [(.lit (.bytes [69, 114, 114, 111, 114, 79, 117, 116, 112, 117, 116, 46, 83, 121, 110, 99]) /- ErrorOutput.Sync -/), (.fld "eo")])])])
      (.callX [.blank] "ErrorOutput.Sync" [(.fld "eo")])))
      .skip)
  (.seq (.assign [(.loc "l3")] [(.fld "after")])
  (.seq (.ite (.bin .ne (.len (.loc "l3")) (.lit (.int 0)))
      (.seq (.assign [(.fld "ev")] [(.call "append" [(.fld "ev"), (.call "tuple" [(.lit (.bytes [104, 111, 111, 107, 46, 79, 110, 87, 114, 105, 116, 101]) /- hook.OnWrite -/), (.loc "l3"), (.fld "self"), (.loc "p0")])])])
      (.callX [] "hook.OnWrite" [(.loc "l3"), (.fld "self"), (.loc "p0")]))
      .skip)
  (.seq (.assign [(.fld "ev")] [(.call "append" [(.fld "ev"), (.call "tuple" [(.lit (.bytes [112, 117, 116, 67, 104, 101, 99, 107, 101, 100, 69, 110, 116, 114, 121]) /- putCheckedEntry -/), (.fld "self")])])])
  (.callX [] "putCheckedEntry" [(.fld "self")]))))))))))

@[reducible] def Write_params : List String := ["p0"]
@[reducible] def Write_named : List (String × Val) := []
def Write : Fun := { params := Write_params, named := Write_named, body := Write_body }

/-- the translated functions of this table by name -/
def funs : String → Option Fun
  | "Write" => some Write
  | _ => none

/-- the table entry by entry: the defining equations of `funs` -/
theorem funs_table :
    funs "Write" = some Write :=
  funs.eq_1

/-! lookup facts for symbolic execution (`funs_f` is entry f of `funs_table`) -/
@[simp] theorem funs_Write : funs "Write" = some Write := funs_table
@[simp] theorem Write_params_eq : Write.params = Write_params := rfl
@[simp] theorem Write_named_eq : Write.named = Write_named := rfl
@[simp] theorem Write_body_eq : Write.body = Write_body := rfl

end ZapVerif.Gen.TransCE
