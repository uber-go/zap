/- GENERATED by zvgen from /repo — do not edit; regenerated on every check run. -/
import ZapVerif.Model.GoMini
/-! Mechanical translation (gen/trans.go) of whitelisted Go functions to GoMini terms. -/
namespace ZapVerif.Gen.TransCaller
open ZapVerif.GoMini

/-- zapcore/entry.go: func (EntryCaller) FullPath
    l0 = buf Buffer
    l1 = caller string
    field Defined ↦ defined bool
    field File ↦ file string
    field Line ↦ line int
-/
def FullPath_body : Stmt :=
  (.seq (.ite (.un .not (.fld "defined"))
      (.ret [(.lit (.bytes [117, 110, 100, 101, 102, 105, 110, 101, 100]))])
      .skip)
  (.seq (.assign [(.loc "l0")] [(.lit (.bytes []))])
  (.seq (.assign [(.loc "l0")] [(.call "append..." [(.loc "l0"), (.fld "file")])])
  (.seq (.assign [(.loc "l0")] [(.call "append" [(.loc "l0"), (.lit (.int 58))])])
  (.seq (.assign [(.loc "l0")] [(.call "Buffer.AppendInt" [(.loc "l0"), (.conv .i64 (.fld "line"))])])
  (.seq (.assign [(.loc "l1")] [(.loc "l0")])
  (.seq .skip
  (.ret [(.loc "l1")]))))))))

@[reducible] def FullPath_params : List String := []
@[reducible] def FullPath_named : List (String × Val) := []
def FullPath : Fun := { params := FullPath_params, named := FullPath_named, body := FullPath_body }

/-- zapcore/entry.go: func (EntryCaller) TrimmedPath
    l0 = idx int
    l1 = (value of the returned call) string
    l2 = (value of the returned call) string
    l3 = buf Buffer
    l4 = caller string
    field Defined ↦ defined bool
    field File ↦ file string
    field Line ↦ line int
-/
def TrimmedPath_body : Stmt :=
  (.seq (.ite (.un .not (.fld "defined"))
      (.ret [(.lit (.bytes [117, 110, 100, 101, 102, 105, 110, 101, 100]))])
      .skip)
  (.seq (.assign [(.loc "l0")] [(.call "strings.LastIndexByte" [(.fld "file"), (.lit (.int 47))])])
  (.seq (.ite (.bin .eq (.loc "l0") (.lit (.int (-1))))
      (.seq (.call [(.loc "l1")] "FullPath" [])
      (.ret [(.loc "l1")]))
      .skip)
  (.seq (.assign [(.loc "l0")] [(.call "strings.LastIndexByte" [(.slice (.fld "file") none (some (.loc "l0"))), (.lit (.int 47))])])
  (.seq (.ite (.bin .eq (.loc "l0") (.lit (.int (-1))))
      (.seq (.call [(.loc "l2")] "FullPath" [])
      (.ret [(.loc "l2")]))
      .skip)
  (.seq (.assign [(.loc "l3")] [(.lit (.bytes []))])
  (.seq (.assign [(.loc "l3")] [(.call "append..." [(.loc "l3"), (.slice (.fld "file") (some (.bin (.add .int) (.loc "l0") (.lit (.int 1)))) none)])])
  (.seq (.assign [(.loc "l3")] [(.call "append" [(.loc "l3"), (.lit (.int 58))])])
  (.seq (.assign [(.loc "l3")] [(.call "Buffer.AppendInt" [(.loc "l3"), (.conv .i64 (.fld "line"))])])
  (.seq (.assign [(.loc "l4")] [(.loc "l3")])
  (.seq .skip
  (.ret [(.loc "l4")]))))))))))))

@[reducible] def TrimmedPath_params : List String := []
@[reducible] def TrimmedPath_named : List (String × Val) := []
def TrimmedPath : Fun := { params := TrimmedPath_params, named := TrimmedPath_named, body := TrimmedPath_body }

/-- the translated functions of this table by name -/
def funs : String → Option Fun
  | "FullPath" => some FullPath
  | "TrimmedPath" => some TrimmedPath
  | _ => none

/-- the table entry by entry: the defining equations of `funs` -/
theorem funs_table :
    funs "FullPath" = some FullPath ∧
    funs "TrimmedPath" = some TrimmedPath :=
  ⟨funs.eq_1, funs.eq_2⟩

/-! lookup facts for symbolic execution (`funs_f` is entry f of `funs_table`) -/
@[simp] theorem funs_FullPath : funs "FullPath" = some FullPath := funs_table.1
@[simp] theorem FullPath_params_eq : FullPath.params = FullPath_params := rfl
@[simp] theorem FullPath_named_eq : FullPath.named = FullPath_named := rfl
@[simp] theorem FullPath_body_eq : FullPath.body = FullPath_body := rfl
@[simp] theorem funs_TrimmedPath : funs "TrimmedPath" = some TrimmedPath := funs_table.2
@[simp] theorem TrimmedPath_params_eq : TrimmedPath.params = TrimmedPath_params := rfl
@[simp] theorem TrimmedPath_named_eq : TrimmedPath.named = TrimmedPath_named := rfl
@[simp] theorem TrimmedPath_body_eq : TrimmedPath.body = TrimmedPath_body := rfl

end ZapVerif.Gen.TransCaller
