/- GENERATED by zvgen from /repo — do not edit; regenerated on every check run. -/
import ZapVerif.Model.GoMini
/-! Mechanical translation (gen/trans.go) of whitelisted Go functions to GoMini terms. -/
namespace ZapVerif.Gen.TransWriters
open ZapVerif.GoMini

/-- global.go: func (loggerWriter) Write
    p0 = p bytes
    l0 = n int
    field #ev ↦ ev []Event
    field logFunc ↦ logFunc LogFunc
-/
def loggerWriter_Write_body : Stmt :=
  (.seq (.assign [(.loc "l0")] [(.len (.loc "p0"))])
  (.seq (.assign [(.loc "p0")] [(.call "bytes.TrimSpace" [(.loc "p0")])])
  (.seq (.seq (.assign [(.fld "ev")] [(.call "append" [(.fld "ev"), (.call "tuple" [(.lit (.bytes [76, 111, 103, 70, 117, 110, 99, 46, 99, 97, 108, 108]) /- LogFunc.call -/), (.fld "logFunc"), (.loc "p0")])])])
    (.callX [] "LogFunc.call" [(.fld "logFunc"), (.loc "p0")]))
  (.ret [(.loc "l0"), (.lit (.list []))]))))

@[reducible] def loggerWriter_Write_params : List String := ["p0"]
@[reducible] def loggerWriter_Write_named : List (String × Val) := []
def loggerWriter_Write : Fun := { params := loggerWriter_Write_params, named := loggerWriter_Write_named, body := loggerWriter_Write_body }

/-- zaptest/logger.go: func (TestingWriter) Write
    p0 = p bytes
    r0 = n int (named result)
    r1 = err error (named result)
    field #ev ↦ ev []Event
    field markFailed ↦ markFailed bool
    field t ↦ t TB
-/
def TestingWriter_Write_body : Stmt :=
  (.seq (.assign [(.loc "r0")] [(.len (.loc "p0"))])
  (.seq (.assign [(.loc "p0")] [(.call "bytes.TrimRight" [(.loc "p0"), (.lit (.bytes [10]))])])
  (.seq (.seq (.assign [(.fld "ev")] [(.call "append" [(.fld "ev"), (.call "tuple" [(.lit (.bytes [84, 66, 46, 76, 111, 103, 102]) /- TB.Logf -/), (.fld "t"), (.lit (.bytes [37, 115])), (.loc "p0")])])])
    (.callX [] "TB.Logf" [(.fld "t"), (.lit (.bytes [37, 115])), (.loc "p0")]))
  (.seq (.ite (.fld "markFailed")
      (.seq (.assign [(.fld "ev")] [(.call "append" [(.fld "ev"), (.call "tuple" [(.lit (.bytes [84, 66, 46, 70, 97, 105, 108]) /- TB.Fail -/), (.fld "t")])])])
      (.callX [] "TB.Fail" [(.fld "t")]))
      .skip)
  (.ret [(.loc "r0"), (.lit (.list []))])))))

@[reducible] def TestingWriter_Write_params : List String := ["p0"]
@[reducible] def TestingWriter_Write_named : List (String × Val) := [("r0", .int 0), ("r1", .list [])]
def TestingWriter_Write : Fun := { params := TestingWriter_Write_params, named := TestingWriter_Write_named, body := TestingWriter_Write_body }

/-- zapcore/write_syncer.go: func AddSync
    p0 = w opt:Writer
    l0 = w opt:Writer
    l1, l2 = (value, ok) of the type-switch case WriteSyncer
    l3 = w opt:WriteSyncer
    field #ev ↦ ev []Event
-/
def AddSync_body : Stmt :=
  (.seq (.callX [(.loc "l1"), (.loc "l2")] "assert.WriteSyncer" [(.loc "p0")])
  (.ite (.loc "l2")
    (.seq (.assign [(.loc "l3")] [(.loc "l1")])
    (.ret [(.loc "l3")]))
    (.seq (.assign [(.loc "l0")] [(.loc "p0")])
    (.ret [(.call "tuple" [(.call "tuple" [(.loc "l0")])])]))))

@[reducible] def AddSync_params : List String := ["p0"]
@[reducible] def AddSync_named : List (String × Val) := []
def AddSync : Fun := { params := AddSync_params, named := AddSync_named, body := AddSync_body }

/-- zapcore/write_syncer.go: func (writerWrapper) Sync
    field #ev ↦ ev []Event
    field Writer ↦ w opt:Writer
-/
def writerWrapper_Sync_body : Stmt :=
  (.ret [(.lit (.list []))])

@[reducible] def writerWrapper_Sync_params : List String := []
@[reducible] def writerWrapper_Sync_named : List (String × Val) := []
def writerWrapper_Sync : Fun := { params := writerWrapper_Sync_params, named := writerWrapper_Sync_named, body := writerWrapper_Sync_body }

/-- zapcore/write_syncer.go: func Lock
    p0 = ws opt:WriteSyncer
    l0 = ok bool
    field #ev ↦ ev []Event
-/
def Lock_body : Stmt :=
  (.seq (.seq (.callX [.blank, (.loc "l0")] "assert.lockedWriteSyncer" [(.loc "p0")])
    (.ite (.loc "l0")
      (.ret [(.loc "p0")])
      .skip))
  (.ret [(.call "tuple" [(.call "tuple" [(.lit (.list [])), (.loc "p0")])])]))

@[reducible] def Lock_params : List String := ["p0"]
@[reducible] def Lock_named : List (String × Val) := []
def Lock : Fun := { params := Lock_params, named := Lock_named, body := Lock_body }

/-- zapcore/write_syncer.go: func NewMultiWriteSyncer
    p0 = ws []opt:WriteSyncer
    field #ev ↦ ev []Event
-/
def NewMultiWriteSyncer_body : Stmt :=
  (.seq (.ite (.bin .eq (.len (.loc "p0")) (.lit (.int 1)))
      (.ret [(.index (.loc "p0") (.lit (.int 0)))])
      .skip)
  (.ret [(.call "tuple" [(.loc "p0")])]))

@[reducible] def NewMultiWriteSyncer_params : List String := ["p0"]
@[reducible] def NewMultiWriteSyncer_named : List (String × Val) := []
def NewMultiWriteSyncer : Fun := { params := NewMultiWriteSyncer_params, named := NewMultiWriteSyncer_named, body := NewMultiWriteSyncer_body }

/-- the translated functions of this table by name -/
def funs : String → Option Fun
  | "loggerWriter_Write" => some loggerWriter_Write
  | "TestingWriter_Write" => some TestingWriter_Write
  | "AddSync" => some AddSync
  | "writerWrapper_Sync" => some writerWrapper_Sync
  | "Lock" => some Lock
  | "NewMultiWriteSyncer" => some NewMultiWriteSyncer
  | _ => none

/-- the table entry by entry: the defining equations of `funs` -/
theorem funs_table :
    funs "loggerWriter_Write" = some loggerWriter_Write ∧
    funs "TestingWriter_Write" = some TestingWriter_Write ∧
    funs "AddSync" = some AddSync ∧
    funs "writerWrapper_Sync" = some writerWrapper_Sync ∧
    funs "Lock" = some Lock ∧
    funs "NewMultiWriteSyncer" = some NewMultiWriteSyncer :=
  ⟨funs.eq_1, funs.eq_2, funs.eq_3, funs.eq_4, funs.eq_5, funs.eq_6⟩

/-! lookup facts for symbolic execution (`funs_f` is entry f of `funs_table`) -/
@[simp] theorem funs_loggerWriter_Write : funs "loggerWriter_Write" = some loggerWriter_Write := funs_table.1
@[simp] theorem loggerWriter_Write_params_eq : loggerWriter_Write.params = loggerWriter_Write_params := rfl
@[simp] theorem loggerWriter_Write_named_eq : loggerWriter_Write.named = loggerWriter_Write_named := rfl
@[simp] theorem loggerWriter_Write_body_eq : loggerWriter_Write.body = loggerWriter_Write_body := rfl
@[simp] theorem funs_TestingWriter_Write : funs "TestingWriter_Write" = some TestingWriter_Write := funs_table.2.1
@[simp] theorem TestingWriter_Write_params_eq : TestingWriter_Write.params = TestingWriter_Write_params := rfl
@[simp] theorem TestingWriter_Write_named_eq : TestingWriter_Write.named = TestingWriter_Write_named := rfl
@[simp] theorem TestingWriter_Write_body_eq : TestingWriter_Write.body = TestingWriter_Write_body := rfl
@[simp] theorem funs_AddSync : funs "AddSync" = some AddSync := funs_table.2.2.1
@[simp] theorem AddSync_params_eq : AddSync.params = AddSync_params := rfl
@[simp] theorem AddSync_named_eq : AddSync.named = AddSync_named := rfl
@[simp] theorem AddSync_body_eq : AddSync.body = AddSync_body := rfl
@[simp] theorem funs_writerWrapper_Sync : funs "writerWrapper_Sync" = some writerWrapper_Sync := funs_table.2.2.2.1
@[simp] theorem writerWrapper_Sync_params_eq : writerWrapper_Sync.params = writerWrapper_Sync_params := rfl
@[simp] theorem writerWrapper_Sync_named_eq : writerWrapper_Sync.named = writerWrapper_Sync_named := rfl
@[simp] theorem writerWrapper_Sync_body_eq : writerWrapper_Sync.body = writerWrapper_Sync_body := rfl
@[simp] theorem funs_Lock : funs "Lock" = some Lock := funs_table.2.2.2.2.1
@[simp] theorem Lock_params_eq : Lock.params = Lock_params := rfl
@[simp] theorem Lock_named_eq : Lock.named = Lock_named := rfl
@[simp] theorem Lock_body_eq : Lock.body = Lock_body := rfl
@[simp] theorem funs_NewMultiWriteSyncer : funs "NewMultiWriteSyncer" = some NewMultiWriteSyncer := funs_table.2.2.2.2.2
@[simp] theorem NewMultiWriteSyncer_params_eq : NewMultiWriteSyncer.params = NewMultiWriteSyncer_params := rfl
@[simp] theorem NewMultiWriteSyncer_named_eq : NewMultiWriteSyncer.named = NewMultiWriteSyncer_named := rfl
@[simp] theorem NewMultiWriteSyncer_body_eq : NewMultiWriteSyncer.body = NewMultiWriteSyncer_body := rfl

end ZapVerif.Gen.TransWriters
