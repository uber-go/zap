/- GENERATED by zvgen from /repo — do not edit; regenerated on every check run. -/
import ZapVerif.Model.GoMini
/-! Mechanical translation (gen/trans.go) of whitelisted Go functions to GoMini terms. -/
namespace ZapVerif.Gen.TransDerive
open ZapVerif.GoMini

/-- logger.go: func (Logger) clone
    clone = the SECOND object, a struct copy of the receiver
    field #ev ↦ ev []Event
    field addCaller ↦ addCaller LgaddCaller
    field addStack ↦ addStack LgaddStack
    field callerSkip ↦ callerSkip LgcallerSkip
    field clock ↦ clock Lgclock
    field core ↦ core Core
    field development ↦ development Lgdevelopment
    field errorOutput ↦ errorOutput LgerrorOutput
    field name ↦ name string
    field onFatal ↦ onFatal LgonFatal
    field onPanic ↦ onPanic LgonPanic
    receiver value ↦ self Logger
-/
def Logger_clone_body : Stmt :=
  (.seq (.seq (.assign [(.fld "o.addCaller")] [(.fld "addCaller")])
    (.seq (.assign [(.fld "o.addStack")] [(.fld "addStack")])
    (.seq (.assign [(.fld "o.callerSkip")] [(.fld "callerSkip")])
    (.seq (.assign [(.fld "o.clock")] [(.fld "clock")])
    (.seq (.assign [(.fld "o.core")] [(.fld "core")])
    (.seq (.assign [(.fld "o.development")] [(.fld "development")])
    (.seq (.assign [(.fld "o.errorOutput")] [(.fld "errorOutput")])
    (.seq (.assign [(.fld "o.name")] [(.fld "name")])
    (.seq (.assign [(.fld "o.onFatal")] [(.fld "onFatal")])
    (.assign [(.fld "o.onPanic")] [(.fld "onPanic")]))))))))))
  (.ret [(.fld "o.self")]))

@[reducible] def Logger_clone_params : List String := []
@[reducible] def Logger_clone_named : List (String × Val) := []
def Logger_clone : Fun := { params := Logger_clone_params, named := Logger_clone_named, body := Logger_clone_body }

/-- logger.go: func (Logger) Named
    p0 = s string
    l = the SECOND object, filled by the translated Logger_clone
    field #ev ↦ ev []Event
    field addCaller ↦ addCaller LgaddCaller
    field addStack ↦ addStack LgaddStack
    field callerSkip ↦ callerSkip LgcallerSkip
    field clock ↦ clock Lgclock
    field core ↦ core Core
    field development ↦ development Lgdevelopment
    field errorOutput ↦ errorOutput LgerrorOutput
    field name ↦ name string
    field onFatal ↦ onFatal LgonFatal
    field onPanic ↦ onPanic LgonPanic
    receiver value ↦ self Logger
-/
def Logger_Named_body : Stmt :=
  (.seq (.ite (.bin .eq (.loc "p0") (.lit (.bytes [])))
      (.ret [(.fld "self")])
      .skip)
  (.seq (.call [.blank] "Logger_clone" [])
  (.seq (.ite (.bin .eq (.fld "name") (.lit (.bytes [])))
      (.assign [(.fld "o.name")] [(.loc "p0")])
      (.assign [(.fld "o.name")] [(.call "strings.Join" [(.call "tuple" [(.fld "o.name"), (.loc "p0")]), (.lit (.bytes [46]))])]))
  (.ret [(.fld "o.self")]))))

@[reducible] def Logger_Named_params : List String := ["p0"]
@[reducible] def Logger_Named_named : List (String × Val) := []
def Logger_Named : Fun := { params := Logger_Named_params, named := Logger_Named_named, body := Logger_Named_body }

/-- logger.go: func (Logger) With
    p0 = fields []Field
    l = the SECOND object, filled by the translated Logger_clone
    field #ev ↦ ev []Event
    field addCaller ↦ addCaller LgaddCaller
    field addStack ↦ addStack LgaddStack
    field callerSkip ↦ callerSkip LgcallerSkip
    field clock ↦ clock Lgclock
    field core ↦ core Core
    field development ↦ development Lgdevelopment
    field errorOutput ↦ errorOutput LgerrorOutput
    field name ↦ name string
    field onFatal ↦ onFatal LgonFatal
    field onPanic ↦ onPanic LgonPanic
    receiver value ↦ self Logger
-/
def Logger_With_body : Stmt :=
  (.seq (.ite (.bin .eq (.len (.loc "p0")) (.lit (.int 0)))
      (.ret [(.fld "self")])
      .skip)
  (.seq (.call [.blank] "Logger_clone" [])
  (.seq (.assign [(.fld "o.core")] [(.call "Core.With" [(.fld "o.core"), (.loc "p0")])])
  (.ret [(.fld "o.self")]))))

@[reducible] def Logger_With_params : List String := ["p0"]
@[reducible] def Logger_With_named : List (String × Val) := []
def Logger_With : Fun := { params := Logger_With_params, named := Logger_With_named, body := Logger_With_body }

/-- logger.go: func (Logger) WithOptions
    p0 = opts []Option
    c = the PRIMARY object from here on (made by Logger.clone); log = the second object
    l0 = opt Option
    field #ev ↦ ev []Event
    field addCaller ↦ addCaller LgaddCaller
    field addStack ↦ addStack LgaddStack
    field callerSkip ↦ callerSkip LgcallerSkip
    field clock ↦ clock Lgclock
    field core ↦ core Core
    field development ↦ development Lgdevelopment
    field errorOutput ↦ errorOutput LgerrorOutput
    field name ↦ name string
    field onFatal ↦ onFatal LgonFatal
    field onPanic ↦ onPanic LgonPanic
    receiver value ↦ self Logger
-/
def Logger_WithOptions_loop0 : Stmt :=
  (.range .blank (.loc "l0") (.loc "p0")
    (.callX [(.fld "core"), (.fld "development"), (.fld "addCaller"), (.fld "onPanic"), (.fld "onFatal"), (.fld "name"), (.fld "errorOutput"), (.fld "addStack"), (.fld "callerSkip"), (.fld "clock")] "Option.apply" [(.fld "core"), (.fld "development"), (.fld "addCaller"), (.fld "onPanic"), (.fld "onFatal"), (.fld "name"), (.fld "errorOutput"), (.fld "addStack"), (.fld "callerSkip"), (.fld "clock"), (.loc "l0"), (.fld "self")]))

def Logger_WithOptions_body : Stmt :=
  (.seq (.callX [(.fld "core"), (.fld "development"), (.fld "addCaller"), (.fld "onPanic"), (.fld "onFatal"), (.fld "name"), (.fld "errorOutput"), (.fld "addStack"), (.fld "callerSkip"), (.fld "clock")] "Logger.clone" [(.fld "o.core"), (.fld "o.development"), (.fld "o.addCaller"), (.fld "o.onPanic"), (.fld "o.onFatal"), (.fld "o.name"), (.fld "o.errorOutput"), (.fld "o.addStack"), (.fld "o.callerSkip"), (.fld "o.clock")])
  (.seq Logger_WithOptions_loop0
  (.ret [(.fld "self")])))

@[reducible] def Logger_WithOptions_params : List String := ["p0"]
@[reducible] def Logger_WithOptions_named : List (String × Val) := []
def Logger_WithOptions : Fun := { params := Logger_WithOptions_params, named := Logger_WithOptions_named, body := Logger_WithOptions_body }

/-- logger.go: func (Logger) WithLazy
    p0 = fields []Field
    field #ev ↦ ev []Event
    field addCaller ↦ addCaller LgaddCaller
    field addStack ↦ addStack LgaddStack
    field callerSkip ↦ callerSkip LgcallerSkip
    field clock ↦ clock Lgclock
    field core ↦ core Core
    field development ↦ development Lgdevelopment
    field errorOutput ↦ errorOutput LgerrorOutput
    field name ↦ name string
    field onFatal ↦ onFatal LgonFatal
    field onPanic ↦ onPanic LgonPanic
    receiver value ↦ self Logger
-/
def Logger_WithLazy_body : Stmt :=
  (.seq (.ite (.bin .eq (.len (.loc "p0")) (.lit (.int 0)))
      (.ret [(.fld "self")])
      .skip)
  (.ret [(.call "Logger.WithOptions" [(.fld "core"), (.fld "development"), (.fld "addCaller"), (.fld "onPanic"), (.fld "onFatal"), (.fld "name"), (.fld "errorOutput"), (.fld "addStack"), (.fld "callerSkip"), (.fld "clock"), (.call "WrapCore" [(.call "tuple" [(.lit (.bytes [102, 117, 110, 99, 40, 99, 111, 114, 101, 32, 122, 97, 112, 99, 111, 114, 101, 46, 67, 111, 114, 101, 41, 32, 122, 97, 112, 99, 111, 114, 101, 46, 67, 111, 114, 101, 32, 123, 10, 9, 114, 101, 116, 117, 114, 110, 32, 122, 97, 112, 99, 111, 114, 101, 46, 78, 101, 119, 76, 97, 122, 121, 87, 105, 116, 104, 40, 99, 111, 114, 101, 44, 32, 102, 105, 101, 108, 100, 115, 41, 10, 125]) /- closure: its source text -/), (.loc "p0")])])])]))

@[reducible] def Logger_WithLazy_params : List String := ["p0"]
@[reducible] def Logger_WithLazy_named : List (String × Val) := []
def Logger_WithLazy : Fun := { params := Logger_WithLazy_params, named := Logger_WithLazy_named, body := Logger_WithLazy_body }

/-- zapcore/core.go: func (ioCore) clone
    field #ev ↦ ev []Event
    field LevelEnabler ↦ en opt:LevelEnabler
    field enc ↦ enc opt:Encoder
    field out ↦ out opt:WriteSyncer
-/
def ioCore_clone_body : Stmt :=
  (.ret [(.call "tuple" [(.fld "en"), (.call "Encoder.Clone" [(.fld "enc")]), (.fld "out")])])

@[reducible] def ioCore_clone_params : List String := []
@[reducible] def ioCore_clone_named : List (String × Val) := []
def ioCore_clone : Fun := { params := ioCore_clone_params, named := ioCore_clone_named, body := ioCore_clone_body }

/-- zapcore/core.go: func (ioCore) With
    p0 = fields []Field
    l0 = clone ptr:struct:IoCore
    l1 = (new value of clone.enc)
    field #ev ↦ ev []Event
    field LevelEnabler ↦ en opt:LevelEnabler
    field enc ↦ enc opt:Encoder
    field out ↦ out opt:WriteSyncer
-/
def ioCore_With_body : Stmt :=
  (.seq (.call [(.loc "l0")] "ioCore_clone" [])
  (.seq (.seq (.callX [(.loc "l1")] "addFields" [(.index (.loc "l0") (.lit (.int 1))), (.loc "p0")])
    (.assign [(.loc "l0")] [(.call "tuple" [(.index (.loc "l0") (.lit (.int 0))), (.loc "l1"), (.index (.loc "l0") (.lit (.int 2)))])]))
  (.ret [(.call "tuple" [(.loc "l0")])])))

@[reducible] def ioCore_With_params : List String := ["p0"]
@[reducible] def ioCore_With_named : List (String × Val) := []
def ioCore_With : Fun := { params := ioCore_With_params, named := ioCore_With_named, body := ioCore_With_body }

/-- zapcore/tee.go: func (multiCore) With
    p0 = fields []Field
    l0 = clone []opt:Core
    l1 = i int
    field #ev ↦ ev []Event
    receiver value ↦ mc []opt:Core
-/
def multiCore_With_loop0 : Stmt :=
  (.range (.loc "l1") .blank (.fld "mc")
    (.assign [(.loc "l0")] [(.call "slice.set" [(.loc "l0"), (.loc "l1"), (.call "Core.With" [(.index (.fld "mc") (.loc "l1")), (.loc "p0")])])]))

def multiCore_With_body : Stmt :=
  (.seq (.assign [(.loc "l0")] [(.call "make.cores" [(.len (.fld "mc"))])])
  (.seq multiCore_With_loop0
  (.ret [(.call "tuple" [(.loc "l0")])])))

@[reducible] def multiCore_With_params : List String := ["p0"]
@[reducible] def multiCore_With_named : List (String × Val) := []
def multiCore_With : Fun := { params := multiCore_With_params, named := multiCore_With_named, body := multiCore_With_body }

/-- zapcore/sampler.go: func (sampler) With
    p0 = fields []Field
    field #ev ↦ ev []Event
    field Core ↦ core opt:Core
    field counts ↦ counts opt:Counters
    field first ↦ first opt:U64
    field hook ↦ hook opt:SamplerHook
    field thereafter ↦ thereafter opt:U64
    field tick ↦ tick opt:Tick
-/
def sampler_With_body : Stmt :=
  (.ret [(.call "tuple" [(.call "tuple" [(.call "Core.With" [(.fld "core"), (.loc "p0")]), (.fld "counts"), (.fld "tick"), (.fld "first"), (.fld "thereafter"), (.fld "hook")])])])

@[reducible] def sampler_With_params : List String := ["p0"]
@[reducible] def sampler_With_named : List (String × Val) := []
def sampler_With : Fun := { params := sampler_With_params, named := sampler_With_named, body := sampler_With_body }

/-- zapcore/hook.go: func (hooked) With
    p0 = fields []Field
    field #ev ↦ ev []Event
    field Core ↦ core opt:Core
    field funcs ↦ funcs opt:HookFns
-/
def hooked_With_body : Stmt :=
  (.ret [(.call "tuple" [(.call "tuple" [(.call "Core.With" [(.fld "core"), (.loc "p0")]), (.fld "funcs")])])])

@[reducible] def hooked_With_params : List String := ["p0"]
@[reducible] def hooked_With_named : List (String × Val) := []
def hooked_With : Fun := { params := hooked_With_params, named := hooked_With_named, body := hooked_With_body }

/-- zapcore/increase_level.go: func (levelFilterCore) With
    p0 = fields []Field
    field #ev ↦ ev []Event
    field core ↦ core opt:Core
    field level ↦ level opt:LevelEnabler
-/
def levelFilterCore_With_body : Stmt :=
  (.ret [(.call "tuple" [(.call "tuple" [(.call "Core.With" [(.fld "core"), (.loc "p0")]), (.fld "level")])])])

@[reducible] def levelFilterCore_With_params : List String := ["p0"]
@[reducible] def levelFilterCore_With_named : List (String × Val) := []
def levelFilterCore_With : Fun := { params := levelFilterCore_With_params, named := levelFilterCore_With_named, body := levelFilterCore_With_body }

/-- zaptest/observer/observer.go: func (contextObserver) With
    p0 = fields []Field
    field #ev ↦ ev []Event
    field LevelEnabler ↦ en opt:LevelEnabler
    field context ↦ context []Field
    field logs ↦ logs opt:ObservedLogs
-/
def contextObserver_With_body : Stmt :=
  (.ret [(.call "tuple" [(.call "tuple" [(.fld "en"), (.fld "logs"), (.call "append..." [(.fld "context"), (.loc "p0")])])])])

@[reducible] def contextObserver_With_params : List String := ["p0"]
@[reducible] def contextObserver_With_named : List (String × Val) := []
def contextObserver_With : Fun := { params := contextObserver_With_params, named := contextObserver_With_named, body := contextObserver_With_body }

/-- zapcore/lazy_with.go: func (lazyWithCore) initOnce
    field #ev ↦ ev []Event
    field Once ↦ done bool
    field core ↦ core opt:Core
    field fields ↦ fields []Field
    field originalCore ↦ orig opt:Core
-/
def lazyWithCore_initOnce_body : Stmt :=
  (.ite (.un .not (.fld "done"))
    (.seq (.assign [(.fld "core")] [(.call "Core.With" [(.fld "orig"), (.fld "fields")])])
    (.assign [(.fld "done")] [(.lit (.bool true))]))
    .skip)

@[reducible] def lazyWithCore_initOnce_params : List String := []
@[reducible] def lazyWithCore_initOnce_named : List (String × Val) := []
def lazyWithCore_initOnce : Fun := { params := lazyWithCore_initOnce_params, named := lazyWithCore_initOnce_named, body := lazyWithCore_initOnce_body }

/-- zapcore/lazy_with.go: func (lazyWithCore) With
    p0 = fields []Field
    field #ev ↦ ev []Event
    field Once ↦ done bool
    field core ↦ core opt:Core
    field fields ↦ fields []Field
    field originalCore ↦ orig opt:Core
-/
def lazyWithCore_With_body : Stmt :=
  (.seq (.call [] "lazyWithCore_initOnce" [])
  (.ret [(.call "Core.With" [(.fld "core"), (.loc "p0")])]))

@[reducible] def lazyWithCore_With_params : List String := ["p0"]
@[reducible] def lazyWithCore_With_named : List (String × Val) := []
def lazyWithCore_With : Fun := { params := lazyWithCore_With_params, named := lazyWithCore_With_named, body := lazyWithCore_With_body }

/-- zapcore/lazy_with.go: func (lazyWithCore) Check
    p0 = e struct:Entry
    p1 = ce opt:CE
    field #ev ↦ ev []Event
    field Once ↦ done bool
    field core ↦ core opt:Core
    field fields ↦ fields []Field
    field originalCore ↦ orig opt:Core
-/
def lazyWithCore_Check_body : Stmt :=
  (.seq (.ite (.un .not (.call "Core.Enabled" [(.fld "orig"), (.index (.loc "p0") (.lit (.int 0)))]))
      (.ret [(.loc "p1")])
      .skip)
  (.seq (.call [] "lazyWithCore_initOnce" [])
  (.ret [(.call "Core.Check" [(.fld "core"), (.loc "p0"), (.loc "p1")])])))

@[reducible] def lazyWithCore_Check_params : List String := ["p0", "p1"]
@[reducible] def lazyWithCore_Check_named : List (String × Val) := []
def lazyWithCore_Check : Fun := { params := lazyWithCore_Check_params, named := lazyWithCore_Check_named, body := lazyWithCore_Check_body }

/-- zapcore/lazy_with.go: func (lazyWithCore) Enabled
    p0 = level i8
    field #ev ↦ ev []Event
    field Once ↦ done bool
    field core ↦ core opt:Core
    field fields ↦ fields []Field
    field originalCore ↦ orig opt:Core
-/
def lazyWithCore_Enabled_body : Stmt :=
  (.ret [(.call "Core.Enabled" [(.fld "orig"), (.loc "p0")])])

@[reducible] def lazyWithCore_Enabled_params : List String := ["p0"]
@[reducible] def lazyWithCore_Enabled_named : List (String × Val) := []
def lazyWithCore_Enabled : Fun := { params := lazyWithCore_Enabled_params, named := lazyWithCore_Enabled_named, body := lazyWithCore_Enabled_body }

/-- zapcore/lazy_with.go: func (lazyWithCore) Write
    p0 = e struct:Entry
    p1 = fields []Field
    l0 = (value of the returned call) error
    field #ev ↦ ev []Event
    field Once ↦ done bool
    field core ↦ core opt:Core
    field fields ↦ fields []Field
    field originalCore ↦ orig opt:Core
-/
def lazyWithCore_Write_body : Stmt :=
  (.seq (.call [] "lazyWithCore_initOnce" [])
  (.seq (.seq (.assign [(.fld "ev")] [(.call "append" [(.fld "ev"), (.call "tuple" [(.lit (.bytes [67, 111, 114, 101, 46, 87, 114, 105, 116, 101]) /- Core.Write -/), (.fld "core"), (.loc "p0"), (.loc "p1")])])])
    (.callX [(.loc "l0")] "Core.Write" [(.fld "core"), (.loc "p0"), (.loc "p1")]))
  (.ret [(.loc "l0")])))

@[reducible] def lazyWithCore_Write_params : List String := ["p0", "p1"]
@[reducible] def lazyWithCore_Write_named : List (String × Val) := []
def lazyWithCore_Write : Fun := { params := lazyWithCore_Write_params, named := lazyWithCore_Write_named, body := lazyWithCore_Write_body }

/-- zapcore/lazy_with.go: func (lazyWithCore) Sync
    l0 = (value of the returned call) error
    field #ev ↦ ev []Event
    field Once ↦ done bool
    field core ↦ core opt:Core
    field fields ↦ fields []Field
    field originalCore ↦ orig opt:Core
-/
def lazyWithCore_Sync_body : Stmt :=
  (.seq (.call [] "lazyWithCore_initOnce" [])
  (.seq (.seq (.assign [(.fld "ev")] [(.call "append" [(.fld "ev"), (.call "tuple" [(.lit (.bytes [67, 111, 114, 101, 46, 83, 121, 110, 99]) /- Core.Sync -/), (.fld "core")])])])
    (.callX [(.loc "l0")] "Core.Sync" [(.fld "core")]))
  (.ret [(.loc "l0")])))

@[reducible] def lazyWithCore_Sync_params : List String := []
@[reducible] def lazyWithCore_Sync_named : List (String × Val) := []
def lazyWithCore_Sync : Fun := { params := lazyWithCore_Sync_params, named := lazyWithCore_Sync_named, body := lazyWithCore_Sync_body }

/-- the translated functions of this table by name -/
def funs : String → Option Fun
  | "Logger_clone" => some Logger_clone
  | "Logger_Named" => some Logger_Named
  | "Logger_With" => some Logger_With
  | "Logger_WithOptions" => some Logger_WithOptions
  | "Logger_WithLazy" => some Logger_WithLazy
  | "ioCore_clone" => some ioCore_clone
  | "ioCore_With" => some ioCore_With
  | "multiCore_With" => some multiCore_With
  | "sampler_With" => some sampler_With
  | "hooked_With" => some hooked_With
  | "levelFilterCore_With" => some levelFilterCore_With
  | "contextObserver_With" => some contextObserver_With
  | "lazyWithCore_initOnce" => some lazyWithCore_initOnce
  | "lazyWithCore_With" => some lazyWithCore_With
  | "lazyWithCore_Check" => some lazyWithCore_Check
  | "lazyWithCore_Enabled" => some lazyWithCore_Enabled
  | "lazyWithCore_Write" => some lazyWithCore_Write
  | "lazyWithCore_Sync" => some lazyWithCore_Sync
  | _ => none

/-- the table entry by entry: the defining equations of `funs` -/
theorem funs_table :
    funs "Logger_clone" = some Logger_clone ∧
    funs "Logger_Named" = some Logger_Named ∧
    funs "Logger_With" = some Logger_With ∧
    funs "Logger_WithOptions" = some Logger_WithOptions ∧
    funs "Logger_WithLazy" = some Logger_WithLazy ∧
    funs "ioCore_clone" = some ioCore_clone ∧
    funs "ioCore_With" = some ioCore_With ∧
    funs "multiCore_With" = some multiCore_With ∧
    funs "sampler_With" = some sampler_With ∧
    funs "hooked_With" = some hooked_With ∧
    funs "levelFilterCore_With" = some levelFilterCore_With ∧
    funs "contextObserver_With" = some contextObserver_With ∧
    funs "lazyWithCore_initOnce" = some lazyWithCore_initOnce ∧
    funs "lazyWithCore_With" = some lazyWithCore_With ∧
    funs "lazyWithCore_Check" = some lazyWithCore_Check ∧
    funs "lazyWithCore_Enabled" = some lazyWithCore_Enabled ∧
    funs "lazyWithCore_Write" = some lazyWithCore_Write ∧
    funs "lazyWithCore_Sync" = some lazyWithCore_Sync :=
  ⟨funs.eq_1, funs.eq_2, funs.eq_3, funs.eq_4, funs.eq_5, funs.eq_6, funs.eq_7, funs.eq_8, funs.eq_9, funs.eq_10, funs.eq_11, funs.eq_12, funs.eq_13, funs.eq_14, funs.eq_15, funs.eq_16, funs.eq_17, funs.eq_18⟩

/-! lookup facts for symbolic execution (`funs_f` is entry f of `funs_table`) -/
@[simp] theorem funs_Logger_clone : funs "Logger_clone" = some Logger_clone := funs_table.1
@[simp] theorem Logger_clone_params_eq : Logger_clone.params = Logger_clone_params := rfl
@[simp] theorem Logger_clone_named_eq : Logger_clone.named = Logger_clone_named := rfl
@[simp] theorem Logger_clone_body_eq : Logger_clone.body = Logger_clone_body := rfl
@[simp] theorem funs_Logger_Named : funs "Logger_Named" = some Logger_Named := funs_table.2.1
@[simp] theorem Logger_Named_params_eq : Logger_Named.params = Logger_Named_params := rfl
@[simp] theorem Logger_Named_named_eq : Logger_Named.named = Logger_Named_named := rfl
@[simp] theorem Logger_Named_body_eq : Logger_Named.body = Logger_Named_body := rfl
@[simp] theorem funs_Logger_With : funs "Logger_With" = some Logger_With := funs_table.2.2.1
@[simp] theorem Logger_With_params_eq : Logger_With.params = Logger_With_params := rfl
@[simp] theorem Logger_With_named_eq : Logger_With.named = Logger_With_named := rfl
@[simp] theorem Logger_With_body_eq : Logger_With.body = Logger_With_body := rfl
@[simp] theorem funs_Logger_WithOptions : funs "Logger_WithOptions" = some Logger_WithOptions := funs_table.2.2.2.1
@[simp] theorem Logger_WithOptions_params_eq : Logger_WithOptions.params = Logger_WithOptions_params := rfl
@[simp] theorem Logger_WithOptions_named_eq : Logger_WithOptions.named = Logger_WithOptions_named := rfl
@[simp] theorem Logger_WithOptions_body_eq : Logger_WithOptions.body = Logger_WithOptions_body := rfl
@[simp] theorem funs_Logger_WithLazy : funs "Logger_WithLazy" = some Logger_WithLazy := funs_table.2.2.2.2.1
@[simp] theorem Logger_WithLazy_params_eq : Logger_WithLazy.params = Logger_WithLazy_params := rfl
@[simp] theorem Logger_WithLazy_named_eq : Logger_WithLazy.named = Logger_WithLazy_named := rfl
@[simp] theorem Logger_WithLazy_body_eq : Logger_WithLazy.body = Logger_WithLazy_body := rfl
@[simp] theorem funs_ioCore_clone : funs "ioCore_clone" = some ioCore_clone := funs_table.2.2.2.2.2.1
@[simp] theorem ioCore_clone_params_eq : ioCore_clone.params = ioCore_clone_params := rfl
@[simp] theorem ioCore_clone_named_eq : ioCore_clone.named = ioCore_clone_named := rfl
@[simp] theorem ioCore_clone_body_eq : ioCore_clone.body = ioCore_clone_body := rfl
@[simp] theorem funs_ioCore_With : funs "ioCore_With" = some ioCore_With := funs_table.2.2.2.2.2.2.1
@[simp] theorem ioCore_With_params_eq : ioCore_With.params = ioCore_With_params := rfl
@[simp] theorem ioCore_With_named_eq : ioCore_With.named = ioCore_With_named := rfl
@[simp] theorem ioCore_With_body_eq : ioCore_With.body = ioCore_With_body := rfl
@[simp] theorem funs_multiCore_With : funs "multiCore_With" = some multiCore_With := funs_table.2.2.2.2.2.2.2.1
@[simp] theorem multiCore_With_params_eq : multiCore_With.params = multiCore_With_params := rfl
@[simp] theorem multiCore_With_named_eq : multiCore_With.named = multiCore_With_named := rfl
@[simp] theorem multiCore_With_body_eq : multiCore_With.body = multiCore_With_body := rfl
@[simp] theorem funs_sampler_With : funs "sampler_With" = some sampler_With := funs_table.2.2.2.2.2.2.2.2.1
@[simp] theorem sampler_With_params_eq : sampler_With.params = sampler_With_params := rfl
@[simp] theorem sampler_With_named_eq : sampler_With.named = sampler_With_named := rfl
@[simp] theorem sampler_With_body_eq : sampler_With.body = sampler_With_body := rfl
@[simp] theorem funs_hooked_With : funs "hooked_With" = some hooked_With := funs_table.2.2.2.2.2.2.2.2.2.1
@[simp] theorem hooked_With_params_eq : hooked_With.params = hooked_With_params := rfl
@[simp] theorem hooked_With_named_eq : hooked_With.named = hooked_With_named := rfl
@[simp] theorem hooked_With_body_eq : hooked_With.body = hooked_With_body := rfl
@[simp] theorem funs_levelFilterCore_With : funs "levelFilterCore_With" = some levelFilterCore_With := funs_table.2.2.2.2.2.2.2.2.2.2.1
@[simp] theorem levelFilterCore_With_params_eq : levelFilterCore_With.params = levelFilterCore_With_params := rfl
@[simp] theorem levelFilterCore_With_named_eq : levelFilterCore_With.named = levelFilterCore_With_named := rfl
@[simp] theorem levelFilterCore_With_body_eq : levelFilterCore_With.body = levelFilterCore_With_body := rfl
@[simp] theorem funs_contextObserver_With : funs "contextObserver_With" = some contextObserver_With := funs_table.2.2.2.2.2.2.2.2.2.2.2.1
@[simp] theorem contextObserver_With_params_eq : contextObserver_With.params = contextObserver_With_params := rfl
@[simp] theorem contextObserver_With_named_eq : contextObserver_With.named = contextObserver_With_named := rfl
@[simp] theorem contextObserver_With_body_eq : contextObserver_With.body = contextObserver_With_body := rfl
@[simp] theorem funs_lazyWithCore_initOnce : funs "lazyWithCore_initOnce" = some lazyWithCore_initOnce := funs_table.2.2.2.2.2.2.2.2.2.2.2.2.1
@[simp] theorem lazyWithCore_initOnce_params_eq : lazyWithCore_initOnce.params = lazyWithCore_initOnce_params := rfl
@[simp] theorem lazyWithCore_initOnce_named_eq : lazyWithCore_initOnce.named = lazyWithCore_initOnce_named := rfl
@[simp] theorem lazyWithCore_initOnce_body_eq : lazyWithCore_initOnce.body = lazyWithCore_initOnce_body := rfl
@[simp] theorem funs_lazyWithCore_With : funs "lazyWithCore_With" = some lazyWithCore_With := funs_table.2.2.2.2.2.2.2.2.2.2.2.2.2.1
@[simp] theorem lazyWithCore_With_params_eq : lazyWithCore_With.params = lazyWithCore_With_params := rfl
@[simp] theorem lazyWithCore_With_named_eq : lazyWithCore_With.named = lazyWithCore_With_named := rfl
@[simp] theorem lazyWithCore_With_body_eq : lazyWithCore_With.body = lazyWithCore_With_body := rfl
@[simp] theorem funs_lazyWithCore_Check : funs "lazyWithCore_Check" = some lazyWithCore_Check := funs_table.2.2.2.2.2.2.2.2.2.2.2.2.2.2.1
@[simp] theorem lazyWithCore_Check_params_eq : lazyWithCore_Check.params = lazyWithCore_Check_params := rfl
@[simp] theorem lazyWithCore_Check_named_eq : lazyWithCore_Check.named = lazyWithCore_Check_named := rfl
@[simp] theorem lazyWithCore_Check_body_eq : lazyWithCore_Check.body = lazyWithCore_Check_body := rfl
@[simp] theorem funs_lazyWithCore_Enabled : funs "lazyWithCore_Enabled" = some lazyWithCore_Enabled := funs_table.2.2.2.2.2.2.2.2.2.2.2.2.2.2.2.1
@[simp] theorem lazyWithCore_Enabled_params_eq : lazyWithCore_Enabled.params = lazyWithCore_Enabled_params := rfl
@[simp] theorem lazyWithCore_Enabled_named_eq : lazyWithCore_Enabled.named = lazyWithCore_Enabled_named := rfl
@[simp] theorem lazyWithCore_Enabled_body_eq : lazyWithCore_Enabled.body = lazyWithCore_Enabled_body := rfl
@[simp] theorem funs_lazyWithCore_Write : funs "lazyWithCore_Write" = some lazyWithCore_Write := funs_table.2.2.2.2.2.2.2.2.2.2.2.2.2.2.2.2.1
@[simp] theorem lazyWithCore_Write_params_eq : lazyWithCore_Write.params = lazyWithCore_Write_params := rfl
@[simp] theorem lazyWithCore_Write_named_eq : lazyWithCore_Write.named = lazyWithCore_Write_named := rfl
@[simp] theorem lazyWithCore_Write_body_eq : lazyWithCore_Write.body = lazyWithCore_Write_body := rfl
@[simp] theorem funs_lazyWithCore_Sync : funs "lazyWithCore_Sync" = some lazyWithCore_Sync := funs_table.2.2.2.2.2.2.2.2.2.2.2.2.2.2.2.2.2
@[simp] theorem lazyWithCore_Sync_params_eq : lazyWithCore_Sync.params = lazyWithCore_Sync_params := rfl
@[simp] theorem lazyWithCore_Sync_named_eq : lazyWithCore_Sync.named = lazyWithCore_Sync_named := rfl
@[simp] theorem lazyWithCore_Sync_body_eq : lazyWithCore_Sync.body = lazyWithCore_Sync_body := rfl

end ZapVerif.Gen.TransDerive
