/- GENERATED by zvgen from /repo — do not edit; regenerated on every check run. -/
import ZapVerif.Model.GoMini
/-! Mechanical translation (gen/trans.go) of whitelisted Go functions to GoMini terms. -/
namespace ZapVerif.Gen.TransCtor
open ZapVerif.GoMini

/-- zapcore/increase_level.go: func NewIncreaseLevelCore
    p0 = core opt:Core
    p1 = level opt:LevelEnabler
    l0 = l i8
-/
def NewIncreaseLevelCore_loop0 : Stmt :=
  (.loop (.bin .ge (.loc "l0") (.lit (.int (-1))))
    (.assign [(.loc "l0")] [(.bin (.sub .i8) (.loc "l0") (.lit (.int 1)))])
    (.ite (.and (.un .not (.call "Core.Enabled" [(.loc "p0"), (.loc "l0")])) (.call "LevelEnabler.Enabled" [(.loc "p1"), (.loc "l0")]))
      (.ret [(.lit (.list [])), (.call "fmt.Errorf" [(.lit (.bytes [105, 110, 118, 97, 108, 105, 100, 32, 105, 110, 99, 114, 101, 97, 115, 101, 32, 108, 101, 118, 101, 108, 44, 32, 97, 115, 32, 108, 101, 118, 101, 108, 32, 37, 113, 32, 105, 115, 32, 97, 108, 108, 111, 119, 101, 100, 32, 98, 121, 32, 105, 110, 99, 114, 101, 97, 115, 101, 100, 32, 108, 101, 118, 101, 108, 44, 32, 98, 117, 116, 32, 110, 111, 116, 32, 98, 121, 32, 101, 120, 105, 115, 116, 105, 110, 103, 32, 99, 111, 114, 101])), (.loc "l0")])])
      .skip))

def NewIncreaseLevelCore_body : Stmt :=
  (.seq (.seq (.assign [(.loc "l0")] [(.lit (.int 5))])
    NewIncreaseLevelCore_loop0)
  (.ret [(.call "tuple" [(.call "tuple" [(.loc "p0"), (.loc "p1")])]), (.lit (.list []))]))

@[reducible] def NewIncreaseLevelCore_params : List String := ["p0", "p1"]
@[reducible] def NewIncreaseLevelCore_named : List (String × Val) := []
def NewIncreaseLevelCore : Fun := { params := NewIncreaseLevelCore_params, named := NewIncreaseLevelCore_named, body := NewIncreaseLevelCore_body }

/-- zapcore/increase_level.go: func (levelFilterCore) Level
    field core ↦ core opt:Core
    field level ↦ level opt:LevelEnabler
-/
def levelFilterCore_Level_body : Stmt :=
  (.ret [(.call "LevelOf" [(.fld "level")])])

@[reducible] def levelFilterCore_Level_params : List String := []
@[reducible] def levelFilterCore_Level_named : List (String × Val) := []
def levelFilterCore_Level : Fun := { params := levelFilterCore_Level_params, named := levelFilterCore_Level_named, body := levelFilterCore_Level_body }

/-- zapcore/tee.go: func NewTee
    p0 = cores []opt:Core
-/
def NewTee_body : Stmt :=
  (.switch (.len (.loc "p0"))
    (.case [(.lit (.int 0))]
      (.ret [(.call "NewNopCore" [])])
    (.case [(.lit (.int 1))]
      (.ret [(.index (.loc "p0") (.lit (.int 0)))])
    (.default (.ret [(.call "tuple" [(.loc "p0")])])))))

@[reducible] def NewTee_params : List String := ["p0"]
@[reducible] def NewTee_named : List (String × Val) := []
def NewTee : Fun := { params := NewTee_params, named := NewTee_named, body := NewTee_body }

/-- zapcore/tee.go: func (multiCore) Level
    l0 = minLvl i8
    l1 = i int
    l2 = lvl i8
    receiver value ↦ mc []opt:Core
-/
def multiCore_Level_loop0 : Stmt :=
  (.range (.loc "l1") .blank (.fld "mc")
    (.seq (.assign [(.loc "l2")] [(.call "LevelOf" [(.index (.fld "mc") (.loc "l1"))])])
    (.ite (.bin .lt (.loc "l2") (.loc "l0"))
      (.assign [(.loc "l0")] [(.loc "l2")])
      .skip)))

def multiCore_Level_body : Stmt :=
  (.seq (.assign [(.loc "l0")] [(.lit (.int 6))])
  (.seq multiCore_Level_loop0
  (.ret [(.loc "l0")])))

@[reducible] def multiCore_Level_params : List String := []
@[reducible] def multiCore_Level_named : List (String × Val) := []
def multiCore_Level : Fun := { params := multiCore_Level_params, named := multiCore_Level_named, body := multiCore_Level_body }

/-- the translated functions of this table by name -/
def funs : String → Option Fun
  | "NewIncreaseLevelCore" => some NewIncreaseLevelCore
  | "levelFilterCore_Level" => some levelFilterCore_Level
  | "NewTee" => some NewTee
  | "multiCore_Level" => some multiCore_Level
  | _ => none

/-- the table entry by entry: the defining equations of `funs` -/
theorem funs_table :
    funs "NewIncreaseLevelCore" = some NewIncreaseLevelCore ∧
    funs "levelFilterCore_Level" = some levelFilterCore_Level ∧
    funs "NewTee" = some NewTee ∧
    funs "multiCore_Level" = some multiCore_Level :=
  ⟨funs.eq_1, funs.eq_2, funs.eq_3, funs.eq_4⟩

/-! lookup facts for symbolic execution (`funs_f` is entry f of `funs_table`) -/
@[simp] theorem funs_NewIncreaseLevelCore : funs "NewIncreaseLevelCore" = some NewIncreaseLevelCore := funs_table.1
@[simp] theorem NewIncreaseLevelCore_params_eq : NewIncreaseLevelCore.params = NewIncreaseLevelCore_params := rfl
@[simp] theorem NewIncreaseLevelCore_named_eq : NewIncreaseLevelCore.named = NewIncreaseLevelCore_named := rfl
@[simp] theorem NewIncreaseLevelCore_body_eq : NewIncreaseLevelCore.body = NewIncreaseLevelCore_body := rfl
@[simp] theorem funs_levelFilterCore_Level : funs "levelFilterCore_Level" = some levelFilterCore_Level := funs_table.2.1
@[simp] theorem levelFilterCore_Level_params_eq : levelFilterCore_Level.params = levelFilterCore_Level_params := rfl
@[simp] theorem levelFilterCore_Level_named_eq : levelFilterCore_Level.named = levelFilterCore_Level_named := rfl
@[simp] theorem levelFilterCore_Level_body_eq : levelFilterCore_Level.body = levelFilterCore_Level_body := rfl
@[simp] theorem funs_NewTee : funs "NewTee" = some NewTee := funs_table.2.2.1
@[simp] theorem NewTee_params_eq : NewTee.params = NewTee_params := rfl
@[simp] theorem NewTee_named_eq : NewTee.named = NewTee_named := rfl
@[simp] theorem NewTee_body_eq : NewTee.body = NewTee_body := rfl
@[simp] theorem funs_multiCore_Level : funs "multiCore_Level" = some multiCore_Level := funs_table.2.2.2
@[simp] theorem multiCore_Level_params_eq : multiCore_Level.params = multiCore_Level_params := rfl
@[simp] theorem multiCore_Level_named_eq : multiCore_Level.named = multiCore_Level_named := rfl
@[simp] theorem multiCore_Level_body_eq : multiCore_Level.body = multiCore_Level_body := rfl

end ZapVerif.Gen.TransCtor
