/- GENERATED by zvgen from /repo — do not edit; regenerated on every check run. -/
import ZapVerif.Model.GoMini
/-! Mechanical translation (gen/trans.go) of whitelisted Go functions to GoMini terms. -/
namespace ZapVerif.Gen.TransLocked
open ZapVerif.GoMini

/-- zapcore/write_syncer.go: func (lockedWriteSyncer) Write
    p0 = bs bytes
    l0 = n int
    l1 = err error
    field #ev ↦ ev []Event
    field ws ↦ ws WriteSyncer
-/
def lockedWriteSyncer_Write_body : Stmt :=
  (.seq (.seq (.assign [(.fld "ev")] [(.call "append" [(.fld "ev"), (.call "tuple" [(.lit (.bytes [77, 117, 116, 101, 120, 46, 76, 111, 99, 107]) /- Mutex.Lock -/)])])])
    (.callX [] "Mutex.Lock" []))
  (.seq (.seq (.assign [(.fld "ev")] [(.call "append" [(.fld "ev"), (.call "tuple" [(.lit (.bytes [87, 114, 105, 116, 101, 83, 121, 110, 99, 101, 114, 46, 87, 114, 105, 116, 101]) /- WriteSyncer.Write -/), (.fld "ws"), (.loc "p0")])])])
    (.callX [(.loc "l0"), (.loc "l1")] "WriteSyncer.Write" [(.fld "ws"), (.loc "p0")]))
  (.seq (.seq (.assign [(.fld "ev")] [(.call "append" [(.fld "ev"), (.call "tuple" [(.lit (.bytes [77, 117, 116, 101, 120, 46, 85, 110, 108, 111, 99, 107]) /- Mutex.Unlock -/)])])])
    (.callX [] "Mutex.Unlock" []))
  (.ret [(.loc "l0"), (.loc "l1")]))))

@[reducible] def lockedWriteSyncer_Write_params : List String := ["p0"]
@[reducible] def lockedWriteSyncer_Write_named : List (String × Val) := []
def lockedWriteSyncer_Write : Fun := { params := lockedWriteSyncer_Write_params, named := lockedWriteSyncer_Write_named, body := lockedWriteSyncer_Write_body }

/-- zapcore/write_syncer.go: func (lockedWriteSyncer) Sync
    l0 = err error
    field #ev ↦ ev []Event
    field ws ↦ ws WriteSyncer
-/
def lockedWriteSyncer_Sync_body : Stmt :=
  (.seq (.seq (.assign [(.fld "ev")] [(.call "append" [(.fld "ev"), (.call "tuple" [(.lit (.bytes [77, 117, 116, 101, 120, 46, 76, 111, 99, 107]) /- Mutex.Lock -/)])])])
    (.callX [] "Mutex.Lock" []))
  (.seq (.seq (.assign [(.fld "ev")] [(.call "append" [(.fld "ev"), (.call "tuple" [(.lit (.bytes [87, 114, 105, 116, 101, 83, 121, 110, 99, 101, 114, 46, 83, 121, 110, 99]) /- WriteSyncer.Sync -/), (.fld "ws")])])])
    (.callX [(.loc "l0")] "WriteSyncer.Sync" [(.fld "ws")]))
  (.seq (.seq (.assign [(.fld "ev")] [(.call "append" [(.fld "ev"), (.call "tuple" [(.lit (.bytes [77, 117, 116, 101, 120, 46, 85, 110, 108, 111, 99, 107]) /- Mutex.Unlock -/)])])])
    (.callX [] "Mutex.Unlock" []))
  (.ret [(.loc "l0")]))))

@[reducible] def lockedWriteSyncer_Sync_params : List String := []
@[reducible] def lockedWriteSyncer_Sync_named : List (String × Val) := []
def lockedWriteSyncer_Sync : Fun := { params := lockedWriteSyncer_Sync_params, named := lockedWriteSyncer_Sync_named, body := lockedWriteSyncer_Sync_body }

/-- zapcore/buffered_write_syncer.go: func (BufferedWriteSyncer) Write
    p0 = bs bytes
    l0 = err error
    l1 = (result 0 held while the deferred calls run) int
    l2 = (result 1 held while the deferred calls run) error
    l3 = (value of the returned call) int
    l4 = (value of the returned call) error
    l5 = (result 0 held while the deferred calls run) int
    l6 = (result 1 held while the deferred calls run) error
    field #ev ↦ ev []Event
    field Size ↦ size int
    field WS ↦ ws WriteSyncer
    field initialized ↦ initialized bool
    field mu ↦ mu Mutex
    field writer ↦ writer BufioWriter
-/
def BufferedWriteSyncer_Write_body : Stmt :=
  (.seq (.seq (.assign [(.fld "ev")] [(.call "append" [(.fld "ev"), (.call "tuple" [(.lit (.bytes [77, 117, 116, 101, 120, 46, 76, 111, 99, 107]) /- Mutex.Lock -/), (.fld "mu")])])])
    (.callX [] "Mutex.Lock" [(.fld "mu")]))
  (.seq .skip
  (.seq (.ite (.un .not (.fld "initialized"))
      (.callX [(.fld "initialized"), (.fld "writer"), (.fld "ws"), (.fld "size")] "BufferedWriteSyncer.initialize" [(.fld "initialized"), (.fld "writer"), (.fld "ws"), (.fld "size")])
      .skip)
  (.seq (.ite (.and (.bin .gt (.len (.loc "p0")) (.call "bufio.Available" [(.fld "writer")])) (.bin .gt (.call "bufio.Buffered" [(.fld "writer")]) (.lit (.int 0))))
      (.seq (.seq (.assign [(.fld "ev")] [(.call "append" [(.fld "ev"), (.call "tuple" [(.lit (.bytes [98, 117, 102, 105, 111, 46, 70, 108, 117, 115, 104]) /- bufio.Flush -/), (.fld "writer")])])])
        (.callX [(.fld "writer"), (.loc "l0")] "bufio.Flush" [(.fld "writer")]))
      (.ite (.bin .ne (.len (.loc "l0")) (.lit (.int 0)))
        (.seq (.assign [(.loc "l1"), (.loc "l2")] [(.lit (.int 0)), (.loc "l0")])
        (.seq (.seq (.assign [(.fld "ev")] [(.call "append" [(.fld "ev"), (.call "tuple" [(.lit (.bytes [77, 117, 116, 101, 120, 46, 85, 110, 108, 111, 99, 107]) /- Mutex.Unlock -/), (.fld "mu")])])])
          (.callX [] "Mutex.Unlock" [(.fld "mu")]))
        (.ret [(.loc "l1"), (.loc "l2")])))
        .skip))
      .skip)
  (.seq (.seq (.assign [(.fld "ev")] [(.call "append" [(.fld "ev"), (.call "tuple" [(.lit (.bytes [98, 117, 102, 105, 111, 46, 87, 114, 105, 116, 101]) /- bufio.Write -/), (.fld "writer"), (.loc "p0")])])])
    (.callX [(.fld "writer"), (.loc "l3"), (.loc "l4")] "bufio.Write" [(.fld "writer"), (.loc "p0")]))
  (.seq (.assign [(.loc "l5"), (.loc "l6")] [(.loc "l3"), (.loc "l4")])
  (.seq (.seq (.assign [(.fld "ev")] [(.call "append" [(.fld "ev"), (.call "tuple" [(.lit (.bytes [77, 117, 116, 101, 120, 46, 85, 110, 108, 111, 99, 107]) /- Mutex.Unlock -/), (.fld "mu")])])])
    (.callX [] "Mutex.Unlock" [(.fld "mu")]))
  (.ret [(.loc "l5"), (.loc "l6")]))))))))

@[reducible] def BufferedWriteSyncer_Write_params : List String := ["p0"]
@[reducible] def BufferedWriteSyncer_Write_named : List (String × Val) := []
def BufferedWriteSyncer_Write : Fun := { params := BufferedWriteSyncer_Write_params, named := BufferedWriteSyncer_Write_named, body := BufferedWriteSyncer_Write_body }

/-- zapcore/buffered_write_syncer.go: func (BufferedWriteSyncer) Sync
    l0 = err error
    l1 = (value of s.WS.Sync(…) inside an expression) error
    l2 = (result 0 held while the deferred calls run) error
    field #ev ↦ ev []Event
    field Size ↦ size int
    field WS ↦ ws WriteSyncer
    field initialized ↦ initialized bool
    field mu ↦ mu Mutex
    field writer ↦ writer BufioWriter
-/
def BufferedWriteSyncer_Sync_body : Stmt :=
  (.seq (.seq (.assign [(.fld "ev")] [(.call "append" [(.fld "ev"), (.call "tuple" [(.lit (.bytes [77, 117, 116, 101, 120, 46, 76, 111, 99, 107]) /- Mutex.Lock -/), (.fld "mu")])])])
    (.callX [] "Mutex.Lock" [(.fld "mu")]))
  (.seq .skip
  (.seq (.assign [(.loc "l0")] [(.lit (.list []))])
  (.seq (.ite (.fld "initialized")
      (.seq (.assign [(.fld "ev")] [(.call "append" [(.fld "ev"), (.call "tuple" [(.lit (.bytes [98, 117, 102, 105, 111, 46, 70, 108, 117, 115, 104]) /- bufio.Flush -/), (.fld "writer")])])])
      (.callX [(.fld "writer"), (.loc "l0")] "bufio.Flush" [(.fld "writer")]))
      .skip)
  (.seq (.seq (.assign [(.fld "ev")] [(.call "append" [(.fld "ev"), (.call "tuple" [(.lit (.bytes [87, 114, 105, 116, 101, 83, 121, 110, 99, 101, 114, 46, 83, 121, 110, 99]) /- WriteSyncer.Sync -/), (.fld "ws")])])])
    (.callX [(.loc "l1")] "WriteSyncer.Sync" [(.fld "ws")]))
  (.seq (.assign [(.loc "l2")] [(.call "append..." [(.loc "l0"), (.loc "l1")])])
  (.seq (.seq (.assign [(.fld "ev")] [(.call "append" [(.fld "ev"), (.call "tuple" [(.lit (.bytes [77, 117, 116, 101, 120, 46, 85, 110, 108, 111, 99, 107]) /- Mutex.Unlock -/), (.fld "mu")])])])
    (.callX [] "Mutex.Unlock" [(.fld "mu")]))
  (.ret [(.loc "l2")]))))))))

@[reducible] def BufferedWriteSyncer_Sync_params : List String := []
@[reducible] def BufferedWriteSyncer_Sync_named : List (String × Val) := []
def BufferedWriteSyncer_Sync : Fun := { params := BufferedWriteSyncer_Sync_params, named := BufferedWriteSyncer_Sync_named, body := BufferedWriteSyncer_Sync_body }

/-- the translated functions of this table by name -/
def funs : String → Option Fun
  | "lockedWriteSyncer_Write" => some lockedWriteSyncer_Write
  | "lockedWriteSyncer_Sync" => some lockedWriteSyncer_Sync
  | "BufferedWriteSyncer_Write" => some BufferedWriteSyncer_Write
  | "BufferedWriteSyncer_Sync" => some BufferedWriteSyncer_Sync
  | _ => none

/-- the table entry by entry: the defining equations of `funs` -/
theorem funs_table :
    funs "lockedWriteSyncer_Write" = some lockedWriteSyncer_Write ∧
    funs "lockedWriteSyncer_Sync" = some lockedWriteSyncer_Sync ∧
    funs "BufferedWriteSyncer_Write" = some BufferedWriteSyncer_Write ∧
    funs "BufferedWriteSyncer_Sync" = some BufferedWriteSyncer_Sync :=
  ⟨funs.eq_1, funs.eq_2, funs.eq_3, funs.eq_4⟩

/-! lookup facts for symbolic execution (`funs_f` is entry f of `funs_table`) -/
@[simp] theorem funs_lockedWriteSyncer_Write : funs "lockedWriteSyncer_Write" = some lockedWriteSyncer_Write := funs_table.1
@[simp] theorem lockedWriteSyncer_Write_params_eq : lockedWriteSyncer_Write.params = lockedWriteSyncer_Write_params := rfl
@[simp] theorem lockedWriteSyncer_Write_named_eq : lockedWriteSyncer_Write.named = lockedWriteSyncer_Write_named := rfl
@[simp] theorem lockedWriteSyncer_Write_body_eq : lockedWriteSyncer_Write.body = lockedWriteSyncer_Write_body := rfl
@[simp] theorem funs_lockedWriteSyncer_Sync : funs "lockedWriteSyncer_Sync" = some lockedWriteSyncer_Sync := funs_table.2.1
@[simp] theorem lockedWriteSyncer_Sync_params_eq : lockedWriteSyncer_Sync.params = lockedWriteSyncer_Sync_params := rfl
@[simp] theorem lockedWriteSyncer_Sync_named_eq : lockedWriteSyncer_Sync.named = lockedWriteSyncer_Sync_named := rfl
@[simp] theorem lockedWriteSyncer_Sync_body_eq : lockedWriteSyncer_Sync.body = lockedWriteSyncer_Sync_body := rfl
@[simp] theorem funs_BufferedWriteSyncer_Write : funs "BufferedWriteSyncer_Write" = some BufferedWriteSyncer_Write := funs_table.2.2.1
@[simp] theorem BufferedWriteSyncer_Write_params_eq : BufferedWriteSyncer_Write.params = BufferedWriteSyncer_Write_params := rfl
@[simp] theorem BufferedWriteSyncer_Write_named_eq : BufferedWriteSyncer_Write.named = BufferedWriteSyncer_Write_named := rfl
@[simp] theorem BufferedWriteSyncer_Write_body_eq : BufferedWriteSyncer_Write.body = BufferedWriteSyncer_Write_body := rfl
@[simp] theorem funs_BufferedWriteSyncer_Sync : funs "BufferedWriteSyncer_Sync" = some BufferedWriteSyncer_Sync := funs_table.2.2.2
@[simp] theorem BufferedWriteSyncer_Sync_params_eq : BufferedWriteSyncer_Sync.params = BufferedWriteSyncer_Sync_params := rfl
@[simp] theorem BufferedWriteSyncer_Sync_named_eq : BufferedWriteSyncer_Sync.named = BufferedWriteSyncer_Sync_named := rfl
@[simp] theorem BufferedWriteSyncer_Sync_body_eq : BufferedWriteSyncer_Sync.body = BufferedWriteSyncer_Sync_body := rfl

end ZapVerif.Gen.TransLocked
