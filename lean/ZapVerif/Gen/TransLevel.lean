/- GENERATED by zvgen from /repo — do not edit; regenerated on every check run. -/
import ZapVerif.Model.GoMini
/-! Mechanical translation (gen/trans.go) of whitelisted Go functions to GoMini terms. -/
namespace ZapVerif.Gen.TransLevel
open ZapVerif.GoMini

/-- zapcore/level.go: func (Level) unmarshalText
    p0 = text bytes
    receiver value ↦ lvl i8
-/
def unmarshalText_body : Stmt :=
  (.seq (.switch (.loc "p0")
      (.case [(.lit (.bytes [100, 101, 98, 117, 103]))]
        (.assign [(.fld "lvl")] [(.lit (.int (-1)))])
      (.case [(.lit (.bytes [105, 110, 102, 111])), (.lit (.bytes []))]
        (.assign [(.fld "lvl")] [(.lit (.int 0))])
      (.case [(.lit (.bytes [119, 97, 114, 110])), (.lit (.bytes [119, 97, 114, 110, 105, 110, 103]))]
        (.assign [(.fld "lvl")] [(.lit (.int 1))])
      (.case [(.lit (.bytes [101, 114, 114, 111, 114]))]
        (.assign [(.fld "lvl")] [(.lit (.int 2))])
      (.case [(.lit (.bytes [100, 112, 97, 110, 105, 99]))]
        (.assign [(.fld "lvl")] [(.lit (.int 3))])
      (.case [(.lit (.bytes [112, 97, 110, 105, 99]))]
        (.assign [(.fld "lvl")] [(.lit (.int 4))])
      (.case [(.lit (.bytes [102, 97, 116, 97, 108]))]
        (.assign [(.fld "lvl")] [(.lit (.int 5))])
      (.default (.ret [(.lit (.bool false))]))))))))))
  (.ret [(.lit (.bool true))]))

@[reducible] def unmarshalText_params : List String := ["p0"]
@[reducible] def unmarshalText_named : List (String × Val) := []
def unmarshalText : Fun := { params := unmarshalText_params, named := unmarshalText_named, body := unmarshalText_body }

/-- zapcore/level.go: func (Level) String
    receiver value ↦ lvl i8
-/
def LevelString_body : Stmt :=
  (.switch (.fld "lvl")
    (.case [(.lit (.int (-1)))]
      (.ret [(.lit (.bytes [100, 101, 98, 117, 103]))])
    (.case [(.lit (.int 0))]
      (.ret [(.lit (.bytes [105, 110, 102, 111]))])
    (.case [(.lit (.int 1))]
      (.ret [(.lit (.bytes [119, 97, 114, 110]))])
    (.case [(.lit (.int 2))]
      (.ret [(.lit (.bytes [101, 114, 114, 111, 114]))])
    (.case [(.lit (.int 3))]
      (.ret [(.lit (.bytes [100, 112, 97, 110, 105, 99]))])
    (.case [(.lit (.int 4))]
      (.ret [(.lit (.bytes [112, 97, 110, 105, 99]))])
    (.case [(.lit (.int 5))]
      (.ret [(.lit (.bytes [102, 97, 116, 97, 108]))])
    (.default (.ret [(.call "fmt.Sprintf" [(.lit (.bytes [76, 101, 118, 101, 108, 40, 37, 100, 41])), (.fld "lvl")])]))))))))))

@[reducible] def LevelString_params : List String := []
@[reducible] def LevelString_named : List (String × Val) := []
def LevelString : Fun := { params := LevelString_params, named := LevelString_named, body := LevelString_body }

/-- zapcore/level.go: func (Level) CapitalString
    receiver value ↦ lvl i8
-/
def LevelCapitalString_body : Stmt :=
  (.switch (.fld "lvl")
    (.case [(.lit (.int (-1)))]
      (.ret [(.lit (.bytes [68, 69, 66, 85, 71]))])
    (.case [(.lit (.int 0))]
      (.ret [(.lit (.bytes [73, 78, 70, 79]))])
    (.case [(.lit (.int 1))]
      (.ret [(.lit (.bytes [87, 65, 82, 78]))])
    (.case [(.lit (.int 2))]
      (.ret [(.lit (.bytes [69, 82, 82, 79, 82]))])
    (.case [(.lit (.int 3))]
      (.ret [(.lit (.bytes [68, 80, 65, 78, 73, 67]))])
    (.case [(.lit (.int 4))]
      (.ret [(.lit (.bytes [80, 65, 78, 73, 67]))])
    (.case [(.lit (.int 5))]
      (.ret [(.lit (.bytes [70, 65, 84, 65, 76]))])
    (.default (.ret [(.call "fmt.Sprintf" [(.lit (.bytes [76, 69, 86, 69, 76, 40, 37, 100, 41])), (.fld "lvl")])]))))))))))

@[reducible] def LevelCapitalString_params : List String := []
@[reducible] def LevelCapitalString_named : List (String × Val) := []
def LevelCapitalString : Fun := { params := LevelCapitalString_params, named := LevelCapitalString_named, body := LevelCapitalString_body }

/-- zapcore/level.go: func (Level) UnmarshalText
    p0 = text bytes
    l0 = (value of l.unmarshalText(…) inside an expression) bool
    l1 = (value of l.unmarshalText(…) inside an expression) bool
    receiver value ↦ lvl i8
-/
def UnmarshalText_body : Stmt :=
  (.seq (.ite (.fld "isnil")
      (.ret [(.lit (.list [.int 0]))])
      .skip)
  (.seq (.seq (.call [(.loc "l0")] "unmarshalText" [(.loc "p0")])
    (.ite (.un .not (.loc "l0"))
      (.seq (.call [(.loc "l1")] "unmarshalText" [(.call "bytes.ToLower" [(.loc "p0")])])
      (.ite (.un .not (.loc "l1"))
        (.ret [(.call "fmt.Errorf" [(.lit (.bytes [117, 110, 114, 101, 99, 111, 103, 110, 105, 122, 101, 100, 32, 108, 101, 118, 101, 108, 58, 32, 37, 113])), (.loc "p0")])])
        .skip))
      .skip))
  (.ret [(.lit (.list []))])))

@[reducible] def UnmarshalText_params : List String := ["p0"]
@[reducible] def UnmarshalText_named : List (String × Val) := []
def UnmarshalText : Fun := { params := UnmarshalText_params, named := UnmarshalText_named, body := UnmarshalText_body }

/-- zapcore/level.go: func ParseLevel
    p0 = text string
    l0 = level i8
    l1 = err error
-/
def ParseLevel_body : Stmt :=
  (.seq (.assign [(.loc "l0")] [(.lit (.int 0))])
  (.seq (.seq (.assign [(.fld "lvl")] [(.loc "l0")])
    (.seq (.assign [(.fld "isnil")] [(.lit (.bool false))])
    (.seq (.call [(.loc "l1")] "UnmarshalText" [(.loc "p0")])
    (.assign [(.loc "l0")] [(.fld "lvl")]))))
  (.ret [(.loc "l0"), (.loc "l1")])))

@[reducible] def ParseLevel_params : List String := ["p0"]
@[reducible] def ParseLevel_named : List (String × Val) := []
def ParseLevel : Fun := { params := ParseLevel_params, named := ParseLevel_named, body := ParseLevel_body }

/-- zapcore/level.go: func (Level) Enabled
    p0 = lvl i8
    receiver value ↦ lvl i8
-/
def LevelEnabled_body : Stmt :=
  (.ret [(.bin .ge (.loc "p0") (.fld "lvl"))])

@[reducible] def LevelEnabled_params : List String := ["p0"]
@[reducible] def LevelEnabled_named : List (String × Val) := []
def LevelEnabled : Fun := { params := LevelEnabled_params, named := LevelEnabled_named, body := LevelEnabled_body }

/-- zapcore/level.go: func (Level) MarshalText
    l0 = (value of l.String(…) inside an expression) string
    receiver value ↦ lvl i8
-/
def LevelMarshalText_body : Stmt :=
  (.seq (.call [(.loc "l0")] "LevelString" [])
  (.ret [(.loc "l0"), (.lit (.list []))]))

@[reducible] def LevelMarshalText_params : List String := []
@[reducible] def LevelMarshalText_named : List (String × Val) := []
def LevelMarshalText : Fun := { params := LevelMarshalText_params, named := LevelMarshalText_named, body := LevelMarshalText_body }

/-- zapcore/level.go: func (Level) Set
    p0 = s string
    l0 = (value of the returned call) error
    receiver value ↦ lvl i8
-/
def LevelSet_body : Stmt :=
  (.seq (.call [(.loc "l0")] "UnmarshalText" [(.loc "p0")])
  (.ret [(.loc "l0")]))

@[reducible] def LevelSet_params : List String := ["p0"]
@[reducible] def LevelSet_named : List (String × Val) := []
def LevelSet : Fun := { params := LevelSet_params, named := LevelSet_named, body := LevelSet_body }

/-- zapcore/level.go: func LevelOf
    p0 = enab LevelEnabler
    l0 = lvler LeveledEnabler
    l1 = ok bool
    l2 = lvl i8
-/
def LevelOf_loop0 : Stmt :=
  (.loop (.bin .le (.loc "l2") (.lit (.int 5)))
    (.assign [(.loc "l2")] [(.bin (.add .i8) (.loc "l2") (.lit (.int 1)))])
    (.ite (.call "LevelEnabler.Enabled" [(.loc "p0"), (.loc "l2")])
      (.ret [(.loc "l2")])
      .skip))

def LevelOf_body : Stmt :=
  (.seq (.seq (.callX [(.loc "l0"), (.loc "l1")] "assert.leveledEnabler" [(.loc "p0")])
    (.ite (.loc "l1")
      (.ret [(.call "LeveledEnabler.Level" [(.loc "l0")])])
      .skip))
  (.seq (.seq (.assign [(.loc "l2")] [(.lit (.int (-1)))])
    LevelOf_loop0)
  (.ret [(.lit (.int 6))])))

@[reducible] def LevelOf_params : List String := ["p0"]
@[reducible] def LevelOf_named : List (String × Val) := []
def LevelOf : Fun := { params := LevelOf_params, named := LevelOf_named, body := LevelOf_body }

/-- http_handler.go: func decodePutURL
    p0 = r ptr:struct:Request
    l0 = lvl string
    l1 = l i8
    l2 = err error
    field #ev ↦ ev []Event
    field #level ↦ level i8
-/
def decodePutURL_body : Stmt :=
  (.seq (.assign [(.loc "l0")] [(.call "Request.FormValue" [(.loc "p0"), (.lit (.bytes [108, 101, 118, 101, 108]))])])
  (.seq (.ite (.bin .eq (.loc "l0") (.lit (.bytes [])))
      (.ret [(.lit (.int 0)), (.call "errors.New" [(.lit (.bytes [109, 117, 115, 116, 32, 115, 112, 101, 99, 105, 102, 121, 32, 108, 111, 103, 103, 105, 110, 103, 32, 108, 101, 118, 101, 108]))])])
      .skip)
  (.seq (.assign [(.loc "l1")] [(.lit (.int 0))])
  (.seq (.seq (.seq (.assign [(.fld "lvl")] [(.loc "l1")])
      (.seq (.assign [(.fld "isnil")] [(.lit (.bool false))])
      (.seq (.call [(.loc "l2")] "UnmarshalText" [(.loc "l0")])
      (.assign [(.loc "l1")] [(.fld "lvl")]))))
    (.ite (.bin .ne (.len (.loc "l2")) (.lit (.int 0)))
      (.ret [(.lit (.int 0)), (.loc "l2")])
      .skip))
  (.ret [(.loc "l1"), (.lit (.list []))])))))

@[reducible] def decodePutURL_params : List String := ["p0"]
@[reducible] def decodePutURL_named : List (String × Val) := []
def decodePutURL : Fun := { params := decodePutURL_params, named := decodePutURL_named, body := decodePutURL_body }

/-- http_handler.go: func decodePutJSON
    p0 = body Reader
    l0 = pld struct:putPayload
    l1 = err error
    field #ev ↦ ev []Event
    field #level ↦ level i8
-/
def decodePutJSON_body : Stmt :=
  (.seq (.assign [(.loc "l0")] [(.lit (.list [.list []]))])
  (.seq (.seq (.callX [(.loc "l0"), (.loc "l1")] "json.Decode" [(.loc "p0"), (.loc "l0")])
    (.ite (.bin .ne (.len (.loc "l1")) (.lit (.int 0)))
      (.ret [(.lit (.int 0)), (.call "fmt.Errorf" [(.lit (.bytes [109, 97, 108, 102, 111, 114, 109, 101, 100, 32, 114, 101, 113, 117, 101, 115, 116, 32, 98, 111, 100, 121, 58, 32, 37, 118])), (.loc "l1")])])
      .skip))
  (.seq (.ite (.bin .eq (.len (.index (.loc "l0") (.lit (.int 0)))) (.lit (.int 0)))
      (.ret [(.lit (.int 0)), (.call "errors.New" [(.lit (.bytes [109, 117, 115, 116, 32, 115, 112, 101, 99, 105, 102, 121, 32, 108, 111, 103, 103, 105, 110, 103, 32, 108, 101, 118, 101, 108]))])])
      .skip)
  (.ret [(.index (.index (.loc "l0") (.lit (.int 0))) (.lit (.int 0))), (.lit (.list []))]))))

@[reducible] def decodePutJSON_params : List String := ["p0"]
@[reducible] def decodePutJSON_named : List (String × Val) := []
def decodePutJSON : Fun := { params := decodePutJSON_params, named := decodePutJSON_named, body := decodePutJSON_body }

/-- http_handler.go: func decodePutRequest
    p0 = contentType string
    p1 = r ptr:struct:Request
    l0 = (value of the returned call) i8
    l1 = (value of the returned call) error
    l2 = (value of the returned call) i8
    l3 = (value of the returned call) error
    field #ev ↦ ev []Event
    field #level ↦ level i8
-/
def decodePutRequest_body : Stmt :=
  (.seq (.ite (.bin .eq (.loc "p0") (.lit (.bytes [97, 112, 112, 108, 105, 99, 97, 116, 105, 111, 110, 47, 120, 45, 119, 119, 119, 45, 102, 111, 114, 109, 45, 117, 114, 108, 101, 110, 99, 111, 100, 101, 100])))
      (.seq (.call [(.loc "l0"), (.loc "l1")] "decodePutURL" [(.loc "p1")])
      (.ret [(.loc "l0"), (.loc "l1")]))
      .skip)
  (.seq (.call [(.loc "l2"), (.loc "l3")] "decodePutJSON" [(.index (.loc "p1") (.lit (.int 2)))])
  (.ret [(.loc "l2"), (.loc "l3")])))

@[reducible] def decodePutRequest_params : List String := ["p0", "p1"]
@[reducible] def decodePutRequest_named : List (String × Val) := []
def decodePutRequest : Fun := { params := decodePutRequest_params, named := decodePutRequest_named, body := decodePutRequest_body }

/-- http_handler.go: func (AtomicLevel) serveHTTP
    p0 = w ResponseWriter
    p1 = r ptr:struct:Request
    l0 = enc JsonEncoder
    l1 = (value of the returned call) error
    l2 = requestedLvl i8
    l3 = err error
    l4 = (value of the returned call) error
    l5 = (value of the returned call) error
    l6 = (value of the returned call) error
    field #ev ↦ ev []Event
    field #level ↦ level i8
-/
def serveHTTP_body : Stmt :=
  (.seq .skip
  (.seq .skip
  (.seq (.assign [(.loc "l0")] [(.call "json.NewEncoder" [(.loc "p0")])])
  (.switch (.index (.loc "p1") (.lit (.int 0)))
    (.case [(.lit (.bytes [71, 69, 84]))]
      (.seq (.seq (.assign [(.fld "ev")] [(.call "append" [(.fld "ev"), (.call "tuple" [(.lit (.bytes [106, 115, 111, 110, 46, 69, 110, 99, 111, 100, 101]) /- json.Encode -/), (.loc "l0"), (.call "tuple" [(.call "id" [(.fld "level")])])])])])
        (.callX [(.loc "l1")] "json.Encode" [(.loc "l0"), (.call "tuple" [(.call "id" [(.fld "level")])])]))
      (.ret [(.loc "l1")]))
    (.case [(.lit (.bytes [80, 85, 84]))]
      (.seq (.call [(.loc "l2"), (.loc "l3")] "decodePutRequest" [(.call "Header.Get" [(.index (.loc "p1") (.lit (.int 1))), (.lit (.bytes [67, 111, 110, 116, 101, 110, 116, 45, 84, 121, 112, 101]))]), (.loc "p1")])
      (.seq (.ite (.bin .ne (.len (.loc "l3")) (.lit (.int 0)))
          (.seq (.seq (.assign [(.fld "ev")] [(.call "append" [(.fld "ev"), (.call "tuple" [(.lit (.bytes [82, 101, 115, 112, 111, 110, 115, 101, 87, 114, 105, 116, 101, 114, 46, 87, 114, 105, 116, 101, 72, 101, 97, 100, 101, 114]) /- ResponseWriter.WriteHeader -/), (.loc "p0"), (.lit (.int 400))])])])
            (.callX [] "ResponseWriter.WriteHeader" [(.loc "p0"), (.lit (.int 400))]))
          (.seq (.seq (.assign [(.fld "ev")] [(.call "append" [(.fld "ev"), (.call "tuple" [(.lit (.bytes [106, 115, 111, 110, 46, 69, 110, 99, 111, 100, 101]) /- json.Encode -/), (.loc "l0"), (.call "tuple" [(.call "error.Error" [(.loc "l3")])])])])])
            (.callX [(.loc "l4")] "json.Encode" [(.loc "l0"), (.call "tuple" [(.call "error.Error" [(.loc "l3")])])]))
          (.ret [(.loc "l4")])))
          .skip)
      (.seq (.callX [(.fld "level")] "set" [(.fld "level"), (.loc "l2")])
      (.seq (.seq (.assign [(.fld "ev")] [(.call "append" [(.fld "ev"), (.call "tuple" [(.lit (.bytes [106, 115, 111, 110, 46, 69, 110, 99, 111, 100, 101]) /- json.Encode -/), (.loc "l0"), (.call "tuple" [(.call "id" [(.fld "level")])])])])])
        (.callX [(.loc "l5")] "json.Encode" [(.loc "l0"), (.call "tuple" [(.call "id" [(.fld "level")])])]))
      (.ret [(.loc "l5")])))))
    (.default (.seq (.seq (.assign [(.fld "ev")] [(.call "append" [(.fld "ev"), (.call "tuple" [(.lit (.bytes [82, 101, 115, 112, 111, 110, 115, 101, 87, 114, 105, 116, 101, 114, 46, 87, 114, 105, 116, 101, 72, 101, 97, 100, 101, 114]) /- ResponseWriter.WriteHeader -/), (.loc "p0"), (.lit (.int 405))])])])
        (.callX [] "ResponseWriter.WriteHeader" [(.loc "p0"), (.lit (.int 405))]))
      (.seq (.seq (.assign [(.fld "ev")] [(.call "append" [(.fld "ev"), (.call "tuple" [(.lit (.bytes [106, 115, 111, 110, 46, 69, 110, 99, 111, 100, 101]) /- json.Encode -/), (.loc "l0"), (.call "tuple" [(.lit (.bytes [79, 110, 108, 121, 32, 71, 69, 84, 32, 97, 110, 100, 32, 80, 85, 84, 32, 97, 114, 101, 32, 115, 117, 112, 112, 111, 114, 116, 101, 100, 46]))])])])])
        (.callX [(.loc "l6")] "json.Encode" [(.loc "l0"), (.call "tuple" [(.lit (.bytes [79, 110, 108, 121, 32, 71, 69, 84, 32, 97, 110, 100, 32, 80, 85, 84, 32, 97, 114, 101, 32, 115, 117, 112, 112, 111, 114, 116, 101, 100, 46]))])]))
      (.ret [(.loc "l6")]))))))))))

@[reducible] def serveHTTP_params : List String := ["p0", "p1"]
@[reducible] def serveHTTP_named : List (String × Val) := []
def serveHTTP : Fun := { params := serveHTTP_params, named := serveHTTP_named, body := serveHTTP_body }

/-- the translated functions of this table by name -/
def funs : String → Option Fun
  | "unmarshalText" => some unmarshalText
  | "LevelString" => some LevelString
  | "LevelCapitalString" => some LevelCapitalString
  | "UnmarshalText" => some UnmarshalText
  | "ParseLevel" => some ParseLevel
  | "LevelEnabled" => some LevelEnabled
  | "LevelMarshalText" => some LevelMarshalText
  | "LevelSet" => some LevelSet
  | "LevelOf" => some LevelOf
  | "decodePutURL" => some decodePutURL
  | "decodePutJSON" => some decodePutJSON
  | "decodePutRequest" => some decodePutRequest
  | "serveHTTP" => some serveHTTP
  | _ => none

/-- the table entry by entry: the defining equations of `funs` -/
theorem funs_table :
    funs "unmarshalText" = some unmarshalText ∧
    funs "LevelString" = some LevelString ∧
    funs "LevelCapitalString" = some LevelCapitalString ∧
    funs "UnmarshalText" = some UnmarshalText ∧
    funs "ParseLevel" = some ParseLevel ∧
    funs "LevelEnabled" = some LevelEnabled ∧
    funs "LevelMarshalText" = some LevelMarshalText ∧
    funs "LevelSet" = some LevelSet ∧
    funs "LevelOf" = some LevelOf ∧
    funs "decodePutURL" = some decodePutURL ∧
    funs "decodePutJSON" = some decodePutJSON ∧
    funs "decodePutRequest" = some decodePutRequest ∧
    funs "serveHTTP" = some serveHTTP :=
  ⟨funs.eq_1, funs.eq_2, funs.eq_3, funs.eq_4, funs.eq_5, funs.eq_6, funs.eq_7, funs.eq_8, funs.eq_9, funs.eq_10, funs.eq_11, funs.eq_12, funs.eq_13⟩

/-! lookup facts for symbolic execution (`funs_f` is entry f of `funs_table`) -/
@[simp] theorem funs_unmarshalText : funs "unmarshalText" = some unmarshalText := funs_table.1
@[simp] theorem unmarshalText_params_eq : unmarshalText.params = unmarshalText_params := rfl
@[simp] theorem unmarshalText_named_eq : unmarshalText.named = unmarshalText_named := rfl
@[simp] theorem unmarshalText_body_eq : unmarshalText.body = unmarshalText_body := rfl
@[simp] theorem funs_LevelString : funs "LevelString" = some LevelString := funs_table.2.1
@[simp] theorem LevelString_params_eq : LevelString.params = LevelString_params := rfl
@[simp] theorem LevelString_named_eq : LevelString.named = LevelString_named := rfl
@[simp] theorem LevelString_body_eq : LevelString.body = LevelString_body := rfl
@[simp] theorem funs_LevelCapitalString : funs "LevelCapitalString" = some LevelCapitalString := funs_table.2.2.1
@[simp] theorem LevelCapitalString_params_eq : LevelCapitalString.params = LevelCapitalString_params := rfl
@[simp] theorem LevelCapitalString_named_eq : LevelCapitalString.named = LevelCapitalString_named := rfl
@[simp] theorem LevelCapitalString_body_eq : LevelCapitalString.body = LevelCapitalString_body := rfl
@[simp] theorem funs_UnmarshalText : funs "UnmarshalText" = some UnmarshalText := funs_table.2.2.2.1
@[simp] theorem UnmarshalText_params_eq : UnmarshalText.params = UnmarshalText_params := rfl
@[simp] theorem UnmarshalText_named_eq : UnmarshalText.named = UnmarshalText_named := rfl
@[simp] theorem UnmarshalText_body_eq : UnmarshalText.body = UnmarshalText_body := rfl
@[simp] theorem funs_ParseLevel : funs "ParseLevel" = some ParseLevel := funs_table.2.2.2.2.1
@[simp] theorem ParseLevel_params_eq : ParseLevel.params = ParseLevel_params := rfl
@[simp] theorem ParseLevel_named_eq : ParseLevel.named = ParseLevel_named := rfl
@[simp] theorem ParseLevel_body_eq : ParseLevel.body = ParseLevel_body := rfl
@[simp] theorem funs_LevelEnabled : funs "LevelEnabled" = some LevelEnabled := funs_table.2.2.2.2.2.1
@[simp] theorem LevelEnabled_params_eq : LevelEnabled.params = LevelEnabled_params := rfl
@[simp] theorem LevelEnabled_named_eq : LevelEnabled.named = LevelEnabled_named := rfl
@[simp] theorem LevelEnabled_body_eq : LevelEnabled.body = LevelEnabled_body := rfl
@[simp] theorem funs_LevelMarshalText : funs "LevelMarshalText" = some LevelMarshalText := funs_table.2.2.2.2.2.2.1
@[simp] theorem LevelMarshalText_params_eq : LevelMarshalText.params = LevelMarshalText_params := rfl
@[simp] theorem LevelMarshalText_named_eq : LevelMarshalText.named = LevelMarshalText_named := rfl
@[simp] theorem LevelMarshalText_body_eq : LevelMarshalText.body = LevelMarshalText_body := rfl
@[simp] theorem funs_LevelSet : funs "LevelSet" = some LevelSet := funs_table.2.2.2.2.2.2.2.1
@[simp] theorem LevelSet_params_eq : LevelSet.params = LevelSet_params := rfl
@[simp] theorem LevelSet_named_eq : LevelSet.named = LevelSet_named := rfl
@[simp] theorem LevelSet_body_eq : LevelSet.body = LevelSet_body := rfl
@[simp] theorem funs_LevelOf : funs "LevelOf" = some LevelOf := funs_table.2.2.2.2.2.2.2.2.1
@[simp] theorem LevelOf_params_eq : LevelOf.params = LevelOf_params := rfl
@[simp] theorem LevelOf_named_eq : LevelOf.named = LevelOf_named := rfl
@[simp] theorem LevelOf_body_eq : LevelOf.body = LevelOf_body := rfl
@[simp] theorem funs_decodePutURL : funs "decodePutURL" = some decodePutURL := funs_table.2.2.2.2.2.2.2.2.2.1
@[simp] theorem decodePutURL_params_eq : decodePutURL.params = decodePutURL_params := rfl
@[simp] theorem decodePutURL_named_eq : decodePutURL.named = decodePutURL_named := rfl
@[simp] theorem decodePutURL_body_eq : decodePutURL.body = decodePutURL_body := rfl
@[simp] theorem funs_decodePutJSON : funs "decodePutJSON" = some decodePutJSON := funs_table.2.2.2.2.2.2.2.2.2.2.1
@[simp] theorem decodePutJSON_params_eq : decodePutJSON.params = decodePutJSON_params := rfl
@[simp] theorem decodePutJSON_named_eq : decodePutJSON.named = decodePutJSON_named := rfl
@[simp] theorem decodePutJSON_body_eq : decodePutJSON.body = decodePutJSON_body := rfl
@[simp] theorem funs_decodePutRequest : funs "decodePutRequest" = some decodePutRequest := funs_table.2.2.2.2.2.2.2.2.2.2.2.1
@[simp] theorem decodePutRequest_params_eq : decodePutRequest.params = decodePutRequest_params := rfl
@[simp] theorem decodePutRequest_named_eq : decodePutRequest.named = decodePutRequest_named := rfl
@[simp] theorem decodePutRequest_body_eq : decodePutRequest.body = decodePutRequest_body := rfl
@[simp] theorem funs_serveHTTP : funs "serveHTTP" = some serveHTTP := funs_table.2.2.2.2.2.2.2.2.2.2.2.2
@[simp] theorem serveHTTP_params_eq : serveHTTP.params = serveHTTP_params := rfl
@[simp] theorem serveHTTP_named_eq : serveHTTP.named = serveHTTP_named := rfl
@[simp] theorem serveHTTP_body_eq : serveHTTP.body = serveHTTP_body := rfl

end ZapVerif.Gen.TransLevel
