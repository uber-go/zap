/- GENERATED by zvgen from /repo — do not edit; regenerated on every check run. -/
import ZapVerif.Model.GoMini
/-! Mechanical translation (gen/trans.go) of whitelisted Go functions to GoMini terms. -/
namespace ZapVerif.Gen.TransStackFmt
open ZapVerif.GoMini

/-- internal/stacktrace/stack.go: func (Formatter) FormatFrame
    p0 = frame struct:Frame
    field b ↦ b Buffer
    field nonEmpty ↦ nonEmpty bool
-/
def FormatFrame_body : Stmt :=
  (.seq (.ite (.fld "nonEmpty")
      (.assign [(.fld "b")] [(.call "append" [(.fld "b"), (.lit (.int 10))])])
      .skip)
  (.seq (.assign [(.fld "nonEmpty")] [(.lit (.bool true))])
  (.seq (.assign [(.fld "b")] [(.call "append..." [(.fld "b"), (.index (.loc "p0") (.lit (.int 0)))])])
  (.seq (.assign [(.fld "b")] [(.call "append" [(.fld "b"), (.lit (.int 10))])])
  (.seq (.assign [(.fld "b")] [(.call "append" [(.fld "b"), (.lit (.int 9))])])
  (.seq (.assign [(.fld "b")] [(.call "append..." [(.fld "b"), (.index (.loc "p0") (.lit (.int 1)))])])
  (.seq (.assign [(.fld "b")] [(.call "append" [(.fld "b"), (.lit (.int 58))])])
  (.assign [(.fld "b")] [(.call "Buffer.AppendInt" [(.fld "b"), (.conv .i64 (.index (.loc "p0") (.lit (.int 2))))])]))))))))

@[reducible] def FormatFrame_params : List String := ["p0"]
@[reducible] def FormatFrame_named : List (String × Val) := []
def FormatFrame : Fun := { params := FormatFrame_params, named := FormatFrame_named, body := FormatFrame_body }

/-- internal/stacktrace/stack.go: func (Formatter) FormatStack
    p0 = stack StackIter
    l0 = frame struct:Frame
    l1 = more bool
    field b ↦ b Buffer
    field nonEmpty ↦ nonEmpty bool
-/
def FormatStack_loop0 : Stmt :=
  (.loop (.loc "l1")
    (.callX [(.loc "p0"), (.loc "l0"), (.loc "l1")] "Frames.Next" [(.loc "p0")])
    (.call [] "FormatFrame" [(.loc "l0")]))

def FormatStack_body : Stmt :=
  (.seq (.callX [(.loc "p0"), (.loc "l0"), (.loc "l1")] "Frames.Next" [(.loc "p0")])
  FormatStack_loop0)

@[reducible] def FormatStack_params : List String := ["p0"]
@[reducible] def FormatStack_named : List (String × Val) := []
def FormatStack : Fun := { params := FormatStack_params, named := FormatStack_named, body := FormatStack_body }

/-- the translated functions of this table by name -/
def funs : String → Option Fun
  | "FormatFrame" => some FormatFrame
  | "FormatStack" => some FormatStack
  | _ => none

/-- the table entry by entry: the defining equations of `funs` -/
theorem funs_table :
    funs "FormatFrame" = some FormatFrame ∧
    funs "FormatStack" = some FormatStack :=
  ⟨funs.eq_1, funs.eq_2⟩

/-! lookup facts for symbolic execution (`funs_f` is entry f of `funs_table`) -/
@[simp] theorem funs_FormatFrame : funs "FormatFrame" = some FormatFrame := funs_table.1
@[simp] theorem FormatFrame_params_eq : FormatFrame.params = FormatFrame_params := rfl
@[simp] theorem FormatFrame_named_eq : FormatFrame.named = FormatFrame_named := rfl
@[simp] theorem FormatFrame_body_eq : FormatFrame.body = FormatFrame_body := rfl
@[simp] theorem funs_FormatStack : funs "FormatStack" = some FormatStack := funs_table.2
@[simp] theorem FormatStack_params_eq : FormatStack.params = FormatStack_params := rfl
@[simp] theorem FormatStack_named_eq : FormatStack.named = FormatStack_named := rfl
@[simp] theorem FormatStack_body_eq : FormatStack.body = FormatStack_body := rfl

end ZapVerif.Gen.TransStackFmt
