/- GENERATED by zvgen from /repo — do not edit; regenerated on every check run. -/
import ZapVerif.Model.GoMini
/-! Mechanical translation (gen/trans.go) of whitelisted Go functions to GoMini terms. -/
namespace ZapVerif.Gen.TransCapture
open ZapVerif.GoMini

/-- internal/stacktrace/stack.go: func Capture
    p0 = skip int
    p1 = depth int
    stack = THE object of the field environment (from _stackPool.Get())
    l0 = numFrames int
    l1 = pcs []u64
    field frames ↦ frames Frames
    field pcs ↦ pcs []u64
    field storage ↦ storage []u64
    receiver value ↦ self Stack
-/
def Capture_loop0 : Stmt :=
  (.loop (.bin .eq (.loc "l0") (.len (.loc "l1")))
    .skip
    (.seq (.assign [(.loc "l1")] [(.call "make.zeros" [(.bin (.mul .int) (.len (.loc "l1")) (.lit (.int 2)))])])
    (.callX [(.loc "l1"), (.loc "l0")] "runtime.Callers" [(.bin (.add .int) (.loc "p0") (.lit (.int 2))), (.loc "l1")])))

def Capture_body : Stmt :=
  (.seq .skip
  (.seq (.switch (.loc "p1")
      (.case [(.lit (.int 0))]
        (.assign [(.fld "pcs")] [(.slice (.fld "storage") none (some (.lit (.int 1))))])
      (.case [(.lit (.int 1))]
        (.assign [(.fld "pcs")] [(.fld "storage")])
      (.default .skip))))
  (.seq (.callX [(.fld "pcs"), (.loc "l0")] "runtime.Callers" [(.bin (.add .int) (.loc "p0") (.lit (.int 2))), (.fld "pcs")])
  (.seq (.ite (.bin .eq (.loc "p1") (.lit (.int 1)))
      (.seq (.assign [(.loc "l1")] [(.fld "pcs")])
      (.seq Capture_loop0
      (.seq (.assign [(.fld "storage")] [(.loc "l1")])
      (.assign [(.fld "pcs")] [(.slice (.loc "l1") none (some (.loc "l0")))]))))
      (.assign [(.fld "pcs")] [(.slice (.fld "pcs") none (some (.loc "l0")))]))
  (.seq (.assign [(.fld "frames")] [(.call "runtime.CallersFrames" [(.fld "pcs")])])
  (.ret [(.fld "self")]))))))

@[reducible] def Capture_params : List String := ["p0", "p1"]
@[reducible] def Capture_named : List (String × Val) := []
def Capture : Fun := { params := Capture_params, named := Capture_named, body := Capture_body }

/-- the translated functions of this table by name -/
def funs : String → Option Fun
  | "Capture" => some Capture
  | _ => none

/-- the table entry by entry: the defining equations of `funs` -/
theorem funs_table :
    funs "Capture" = some Capture :=
  funs.eq_1

/-! lookup facts for symbolic execution (`funs_f` is entry f of `funs_table`) -/
@[simp] theorem funs_Capture : funs "Capture" = some Capture := funs_table
@[simp] theorem Capture_params_eq : Capture.params = Capture_params := rfl
@[simp] theorem Capture_named_eq : Capture.named = Capture_named := rfl
@[simp] theorem Capture_body_eq : Capture.body = Capture_body := rfl

end ZapVerif.Gen.TransCapture
