/- GENERATED by zvgen from /repo — do not edit; regenerated on every check run. -/
import ZapVerif.Model.GoMini
/-! Mechanical translation (gen/trans.go) of whitelisted Go functions to GoMini terms. -/
namespace ZapVerif.Gen.TransProbe
open ZapVerif.GoMini

/-- @verif/harness/cmd/zvh/trans_probe.go: func probeU32
    p0 = a u32
    p1 = b u32
-/
def probeU32_body : Stmt :=
  (.ret [(.bin (.add .u32) (.loc "p0") (.loc "p1")), (.bin (.sub .u32) (.loc "p0") (.loc "p1")), (.bin (.mul .u32) (.loc "p0") (.loc "p1")), (.bin .bxor (.loc "p0") (.loc "p1")), (.bin .band (.loc "p0") (.loc "p1")), (.bin .bor (.loc "p0") (.loc "p1")), (.bin (.shl .u32) (.loc "p0") (.bin .band (.loc "p1") (.lit (.int 31)))), (.bin .shr (.loc "p0") (.bin .band (.loc "p1") (.lit (.int 31))))])

@[reducible] def probeU32_params : List String := ["p0", "p1"]
@[reducible] def probeU32_named : List (String × Val) := []
def probeU32 : Fun := { params := probeU32_params, named := probeU32_named, body := probeU32_body }

/-- @verif/harness/cmd/zvh/trans_probe.go: func probeU8
    p0 = c u8
    p1 = d u8
-/
def probeU8_body : Stmt :=
  (.ret [(.bin (.add .u8) (.loc "p0") (.loc "p1")), (.bin (.sub .u8) (.loc "p0") (.loc "p1")), (.bin (.mul .u8) (.loc "p0") (.loc "p1")), (.bin .shr (.loc "p0") (.lit (.int 4))), (.bin .band (.loc "p0") (.lit (.int 15))), (.bin (.shl .u8) (.loc "p0") (.lit (.int 1))), (.bin .bor (.bin (.shl .u32) (.conv .u32 (.loc "p0")) (.lit (.int 8))) (.conv .u32 (.loc "p1"))), (.bin (.sub .int) (.conv .int (.loc "p0")) (.conv .int (.loc "p1")))])

@[reducible] def probeU8_params : List String := ["p0", "p1"]
@[reducible] def probeU8_named : List (String × Val) := []
def probeU8 : Fun := { params := probeU8_params, named := probeU8_named, body := probeU8_body }

/-- @verif/harness/cmd/zvh/trans_probe.go: func probeU64
    p0 = u u64
    p1 = v u64
-/
def probeU64_body : Stmt :=
  (.ret [(.bin (.add .u64) (.loc "p0") (.loc "p1")), (.bin (.sub .u64) (.loc "p0") (.loc "p1")), (.bin (.mul .u64) (.loc "p0") (.loc "p1")), (.bin .bxor (.loc "p0") (.loc "p1")), (.bin .shr (.loc "p0") (.bin .band (.loc "p1") (.lit (.int 63)))), (.bin .lt (.loc "p0") (.loc "p1")), (.bin .eq (.loc "p0") (.loc "p1"))])

@[reducible] def probeU64_params : List String := ["p0", "p1"]
@[reducible] def probeU64_named : List (String × Val) := []
def probeU64 : Fun := { params := probeU64_params, named := probeU64_named, body := probeU64_body }

/-- @verif/harness/cmd/zvh/trans_probe.go: func probeInt
    p0 = i int
    p1 = j int
-/
def probeInt_body : Stmt :=
  (.ret [(.bin (.add .int) (.loc "p0") (.loc "p1")), (.bin (.sub .int) (.loc "p0") (.loc "p1")), (.bin (.mul .int) (.loc "p0") (.loc "p1")), (.un (.neg .int) (.loc "p0")), (.bin .lt (.loc "p0") (.loc "p1")), (.bin .le (.loc "p0") (.loc "p1")), (.bin .ne (.loc "p0") (.loc "p1"))])

@[reducible] def probeInt_params : List String := ["p0", "p1"]
@[reducible] def probeInt_named : List (String × Val) := []
def probeInt : Fun := { params := probeInt_params, named := probeInt_named, body := probeInt_body }

/-- @verif/harness/cmd/zvh/trans_probe.go: func probeI64
    p0 = x i64
    p1 = y i64
-/
def probeI64_body : Stmt :=
  (.ret [(.bin (.add .i64) (.loc "p0") (.loc "p1")), (.bin (.sub .i64) (.loc "p0") (.loc "p1")), (.bin (.mul .i64) (.loc "p0") (.loc "p1")), (.un (.neg .i64) (.loc "p0"))])

@[reducible] def probeI64_params : List String := ["p0", "p1"]
@[reducible] def probeI64_named : List (String × Val) := []
def probeI64 : Fun := { params := probeI64_params, named := probeI64_named, body := probeI64_body }

/-- @verif/harness/cmd/zvh/trans_probe.go: func probeDiv
    p0 = i int
    p1 = j int
-/
def probeDiv_body : Stmt :=
  (.ret [(.bin (.div .int) (.loc "p0") (.loc "p1")), (.bin (.rem .int) (.loc "p0") (.loc "p1"))])

@[reducible] def probeDiv_params : List String := ["p0", "p1"]
@[reducible] def probeDiv_named : List (String × Val) := []
def probeDiv : Fun := { params := probeDiv_params, named := probeDiv_named, body := probeDiv_body }

/-- @verif/harness/cmd/zvh/trans_probe.go: func probeDivU
    p0 = u u64
    p1 = v u64
-/
def probeDivU_body : Stmt :=
  (.ret [(.bin (.div .u64) (.loc "p0") (.loc "p1")), (.bin (.rem .u64) (.loc "p0") (.loc "p1"))])

@[reducible] def probeDivU_params : List String := ["p0", "p1"]
@[reducible] def probeDivU_named : List (String × Val) := []
def probeDivU : Fun := { params := probeDivU_params, named := probeDivU_named, body := probeDivU_body }

/-- @verif/harness/cmd/zvh/trans_probe.go: func probeConv
    p0 = i int
    p1 = u u64
    p2 = a u32
    p3 = x i64
-/
def probeConv_body : Stmt :=
  (.ret [(.conv .u32 (.loc "p0")), (.conv .u8 (.loc "p0")), (.conv .u64 (.loc "p0")), (.conv .int (.loc "p1")), (.conv .i64 (.loc "p1")), (.conv .int (.loc "p2")), (.conv .u64 (.loc "p3")), (.conv .u8 (.loc "p2"))])

@[reducible] def probeConv_params : List String := ["p0", "p1", "p2", "p3"]
@[reducible] def probeConv_named : List (String × Val) := []
def probeConv : Fun := { params := probeConv_params, named := probeConv_named, body := probeConv_body }

/-- @verif/harness/cmd/zvh/trans_probe.go: func probeSlice
    p0 = s bytes
    p1 = lo int
    p2 = hi int
-/
def probeSlice_body : Stmt :=
  (.ret [(.slice (.loc "p0") (some (.loc "p1")) (some (.loc "p2")))])

@[reducible] def probeSlice_params : List String := ["p0", "p1", "p2"]
@[reducible] def probeSlice_named : List (String × Val) := []
def probeSlice : Fun := { params := probeSlice_params, named := probeSlice_named, body := probeSlice_body }

/-- @verif/harness/cmd/zvh/trans_probe.go: func probeSliceLo
    p0 = s string
    p1 = lo int
-/
def probeSliceLo_body : Stmt :=
  (.ret [(.slice (.loc "p0") (some (.loc "p1")) none)])

@[reducible] def probeSliceLo_params : List String := ["p0", "p1"]
@[reducible] def probeSliceLo_named : List (String × Val) := []
def probeSliceLo : Fun := { params := probeSliceLo_params, named := probeSliceLo_named, body := probeSliceLo_body }

/-- @verif/harness/cmd/zvh/trans_probe.go: func probeSliceHi
    p0 = s bytes
    p1 = hi int
-/
def probeSliceHi_body : Stmt :=
  (.ret [(.slice (.loc "p0") none (some (.loc "p1")))])

@[reducible] def probeSliceHi_params : List String := ["p0", "p1"]
@[reducible] def probeSliceHi_named : List (String × Val) := []
def probeSliceHi : Fun := { params := probeSliceHi_params, named := probeSliceHi_named, body := probeSliceHi_body }

/-- @verif/harness/cmd/zvh/trans_probe.go: func probeIndex
    p0 = s string
    p1 = i int
-/
def probeIndex_body : Stmt :=
  (.ret [(.index (.loc "p0") (.loc "p1"))])

@[reducible] def probeIndex_params : List String := ["p0", "p1"]
@[reducible] def probeIndex_named : List (String × Val) := []
def probeIndex : Fun := { params := probeIndex_params, named := probeIndex_named, body := probeIndex_body }

/-- @verif/harness/cmd/zvh/trans_probe.go: func probeShort
    p0 = s bytes
    p1 = i int
-/
def probeShort_body : Stmt :=
  (.ret [(.or (.and (.and (.bin .ge (.loc "p1") (.lit (.int 0))) (.bin .lt (.loc "p1") (.len (.loc "p0")))) (.bin .eq (.index (.loc "p0") (.loc "p1")) (.lit (.int 1)))) (.and (.and (.bin .lt (.loc "p1") (.lit (.int 0))) (.bin .lt (.un (.neg .int) (.loc "p1")) (.len (.loc "p0")))) (.bin .ne (.index (.loc "p0") (.un (.neg .int) (.loc "p1"))) (.lit (.int 1)))))])

@[reducible] def probeShort_params : List String := ["p0", "p1"]
@[reducible] def probeShort_named : List (String × Val) := []
def probeShort : Fun := { params := probeShort_params, named := probeShort_named, body := probeShort_body }

/-- @verif/harness/cmd/zvh/trans_probe.go: func probeSwap
    p0 = a u32
    p1 = b u32
    p2 = n int
    l0 = i int
-/
def probeSwap_loop0 : Stmt :=
  (.loop (.bin .lt (.loc "l0") (.loc "p2"))
    (.assign [(.loc "l0")] [(.bin (.add .int) (.loc "l0") (.lit (.int 1)))])
    (.assign [(.loc "p0"), (.loc "p1")] [(.loc "p1"), (.bin (.add .u32) (.loc "p0") (.loc "p1"))]))

def probeSwap_body : Stmt :=
  (.seq (.seq (.assign [(.loc "l0")] [(.lit (.int 0))])
    probeSwap_loop0)
  (.ret [(.loc "p0"), (.loc "p1")]))

@[reducible] def probeSwap_params : List String := ["p0", "p1", "p2"]
@[reducible] def probeSwap_named : List (String × Val) := []
def probeSwap : Fun := { params := probeSwap_params, named := probeSwap_named, body := probeSwap_body }

/-- @verif/harness/cmd/zvh/trans_probe.go: func probeLoop
    p0 = s bytes
    l0 = sum int
    l1 = skipped int
    l2 = i int
-/
def probeLoop_loop0 : Stmt :=
  (.loop (.bin .lt (.loc "l2") (.len (.loc "p0")))
    (.assign [(.loc "l2")] [(.bin (.add .int) (.loc "l2") (.lit (.int 1)))])
    (.seq (.ite (.bin .eq (.index (.loc "p0") (.loc "l2")) (.lit (.int 0)))
        (.seq (.assign [(.loc "l1")] [(.bin (.add .int) (.loc "l1") (.lit (.int 1)))])
        .cont)
        .skip)
    (.seq (.ite (.bin .eq (.index (.loc "p0") (.loc "l2")) (.lit (.int 255)))
        .brk
        .skip)
    (.assign [(.loc "l0")] [(.bin (.add .int) (.loc "l0") (.conv .int (.index (.loc "p0") (.loc "l2"))))]))))

def probeLoop_body : Stmt :=
  (.seq (.assign [(.loc "l0"), (.loc "l1")] [(.lit (.int 0)), (.lit (.int 0))])
  (.seq (.assign [(.loc "l2")] [(.lit (.int 0))])
  (.seq probeLoop_loop0
  (.ret [(.loc "l0"), (.loc "l1"), (.loc "l2")]))))

@[reducible] def probeLoop_params : List String := ["p0"]
@[reducible] def probeLoop_named : List (String × Val) := []
def probeLoop : Fun := { params := probeLoop_params, named := probeLoop_named, body := probeLoop_body }

/-- @verif/harness/cmd/zvh/trans_probe.go: func probeSwitch
    p0 = s bytes
    l0 = x int
    l1 = y int
    l2 = i int
-/
def probeSwitch_loop0 : Stmt :=
  (.loop (.bin .lt (.loc "l2") (.len (.loc "p0")))
    (.assign [(.loc "l2")] [(.bin (.add .int) (.loc "l2") (.lit (.int 1)))])
    (.seq (.switch (.index (.loc "p0") (.loc "l2"))
        (.case [(.lit (.int 97)), (.lit (.int 98))]
          (.assign [(.loc "l0")] [(.bin (.add .int) (.loc "l0") (.lit (.int 1)))])
        (.case [(.lit (.int 99))]
          (.seq (.ite (.bin .eq (.bin (.rem .int) (.loc "l2") (.lit (.int 2))) (.lit (.int 0)))
              .brk
              .skip)
          (.assign [(.loc "l0")] [(.bin (.add .int) (.loc "l0") (.lit (.int 10)))]))
        (.case [(.lit (.int 100))]
          .cont
        (.default (.assign [(.loc "l0")] [(.bin (.add .int) (.loc "l0") (.lit (.int 100)))]))))))
    (.assign [(.loc "l1")] [(.bin (.add .int) (.loc "l1") (.lit (.int 1)))])))

def probeSwitch_body : Stmt :=
  (.seq (.assign [(.loc "l0"), (.loc "l1")] [(.lit (.int 0)), (.lit (.int 0))])
  (.seq (.seq (.assign [(.loc "l2")] [(.lit (.int 0))])
    probeSwitch_loop0)
  (.ret [(.loc "l0"), (.loc "l1")])))

@[reducible] def probeSwitch_params : List String := ["p0"]
@[reducible] def probeSwitch_named : List (String × Val) := []
def probeSwitch : Fun := { params := probeSwitch_params, named := probeSwitch_named, body := probeSwitch_body }

/-- @verif/harness/cmd/zvh/trans_probe.go: func probeRange
    p0 = xs bytes
    l0 = last int
    l1 = sum int
    l2 = n int
    l3 = i int
    l4 = b u8
-/
def probeRange_loop0 : Stmt :=
  (.range (.loc "l3") (.loc "l4") (.loc "p0")
    (.seq (.ite (.bin .eq (.loc "l4") (.lit (.int 7)))
        .cont
        .skip)
    (.seq (.ite (.bin .eq (.loc "l4") (.lit (.int 9)))
        .brk
        .skip)
    (.seq (.assign [(.loc "l0")] [(.loc "l3")])
    (.seq (.assign [(.loc "l1")] [(.bin (.add .int) (.loc "l1") (.conv .int (.loc "l4")))])
    (.assign [(.loc "l2")] [(.bin (.add .int) (.loc "l2") (.lit (.int 1)))]))))))

def probeRange_body : Stmt :=
  (.seq (.assign [(.loc "l0"), (.loc "l1"), (.loc "l2")] [(.lit (.int (-1))), (.lit (.int 0)), (.lit (.int 0))])
  (.seq probeRange_loop0
  (.ret [(.loc "l0"), (.loc "l1"), (.loc "l2")])))

@[reducible] def probeRange_params : List String := ["p0"]
@[reducible] def probeRange_named : List (String × Val) := []
def probeRange : Fun := { params := probeRange_params, named := probeRange_named, body := probeRange_body }

/-- @verif/harness/cmd/zvh/trans_probe.go: func probeMinMax
    p0 = i int
    p1 = j int
-/
def probeMinMax_body : Stmt :=
  (.ret [(.call "min" [(.loc "p0"), (.loc "p1")]), (.call "max" [(.loc "p0"), (.loc "p1")])])

@[reducible] def probeMinMax_params : List String := ["p0", "p1"]
@[reducible] def probeMinMax_named : List (String × Val) := []
def probeMinMax : Fun := { params := probeMinMax_params, named := probeMinMax_named, body := probeMinMax_body }

/-- @verif/harness/cmd/zvh/trans_probe.go: func probeNamed
    p0 = s bytes
    r0 = n int (named result)
    r1 = rest bytes (named result)
-/
def probeNamed_body : Stmt :=
  (.seq (.ite (.bin .eq (.len (.loc "p0")) (.lit (.int 0)))
      (.ret [(.loc "r0"), (.loc "r1")])
      .skip)
  (.seq (.assign [(.loc "r0")] [(.conv .int (.index (.loc "p0") (.lit (.int 0))))])
  (.seq (.ite (.bin .gt (.loc "r0") (.bin (.sub .int) (.len (.loc "p0")) (.lit (.int 1))))
      (.assign [(.loc "r0")] [(.bin (.sub .int) (.len (.loc "p0")) (.lit (.int 1)))])
      .skip)
  (.seq (.assign [(.loc "r1")] [(.slice (.loc "p0") (some (.bin (.add .int) (.lit (.int 1)) (.loc "r0"))) none)])
  (.ret [(.loc "r0"), (.loc "r1")])))))

@[reducible] def probeNamed_params : List String := ["p0"]
@[reducible] def probeNamed_named : List (String × Val) := [("r0", .int 0), ("r1", .bytes [])]
def probeNamed : Fun := { params := probeNamed_params, named := probeNamed_named, body := probeNamed_body }

/-- @verif/harness/cmd/zvh/trans_probe.go: func probeAppend
    p0 = s bytes
    p1 = t string
    p2 = c u8
    l0 = out bytes
-/
def probeAppend_body : Stmt :=
  (.seq (.assign [(.loc "l0")] [(.lit (.bytes []))])
  (.seq (.assign [(.loc "l0")] [(.call "append..." [(.loc "l0"), (.loc "p0")])])
  (.seq (.assign [(.loc "l0")] [(.call "append" [(.loc "l0"), (.loc "p2")])])
  (.seq (.assign [(.loc "l0")] [(.call "append..." [(.loc "l0"), (.loc "p1")])])
  (.seq (.assign [(.loc "l0")] [(.call "append" [(.loc "l0"), (.lit (.int 33))])])
  (.ret [(.loc "l0")]))))))

@[reducible] def probeAppend_params : List String := ["p0", "p1", "p2"]
@[reducible] def probeAppend_named : List (String × Val) := []
def probeAppend : Fun := { params := probeAppend_params, named := probeAppend_named, body := probeAppend_body }

/-- @verif/harness/cmd/zvh/trans_probe.go: func probeIndexByte
    p0 = s bytes
    p1 = t string
    p2 = c u8
-/
def probeIndexByte_body : Stmt :=
  (.ret [(.call "bytes.IndexByte" [(.loc "p0"), (.loc "p2")]), (.call "strings.LastIndexByte" [(.loc "p1"), (.loc "p2")])])

@[reducible] def probeIndexByte_params : List String := ["p0", "p1", "p2"]
@[reducible] def probeIndexByte_named : List (String × Val) := []
def probeIndexByte : Fun := { params := probeIndexByte_params, named := probeIndexByte_named, body := probeIndexByte_body }

/-- @verif/harness/cmd/zvh/trans_probe.go: func probeShadow
    p0 = a int
    l0 = x int
    l1 = y int
    l2 = x int
    l3 = i int
    l4 = x int
-/
def probeShadow_loop0 : Stmt :=
  (.loop (.bin .lt (.loc "l3") (.lit (.int 2)))
    (.assign [(.loc "l3")] [(.bin (.add .int) (.loc "l3") (.lit (.int 1)))])
    (.seq (.assign [(.loc "l4")] [(.bin (.add .int) (.loc "l0") (.loc "l3"))])
    (.assign [(.loc "l1")] [(.bin (.add .int) (.loc "l1") (.loc "l4"))])))

def probeShadow_body : Stmt :=
  (.seq (.assign [(.loc "l0")] [(.loc "p0")])
  (.seq (.assign [(.loc "l1")] [(.lit (.int 0))])
  (.seq (.ite (.bin .gt (.loc "p0") (.lit (.int 0)))
      (.seq (.assign [(.loc "l2")] [(.bin (.mul .int) (.loc "p0") (.lit (.int 2)))])
      (.assign [(.loc "l1")] [(.loc "l2")]))
      .skip)
  (.seq (.seq (.assign [(.loc "l3")] [(.lit (.int 0))])
    probeShadow_loop0)
  (.ret [(.loc "l0"), (.loc "l1")])))))

@[reducible] def probeShadow_params : List String := ["p0"]
@[reducible] def probeShadow_named : List (String × Val) := []
def probeShadow : Fun := { params := probeShadow_params, named := probeShadow_named, body := probeShadow_body }

/-- @verif/harness/cmd/zvh/trans_probe.go: func probeWhile
    p0 = n u32
    l0 = steps int
-/
def probeWhile_loop0 : Stmt :=
  (.loop (.and (.bin .ne (.loc "p0") (.lit (.int 1))) (.bin .lt (.loc "l0") (.lit (.int 64))))
    .skip
    (.seq (.ite (.bin .eq (.bin (.rem .u32) (.loc "p0") (.lit (.int 2))) (.lit (.int 0)))
        (.assign [(.loc "p0")] [(.bin (.div .u32) (.loc "p0") (.lit (.int 2)))])
        (.assign [(.loc "p0")] [(.bin (.add .u32) (.bin (.mul .u32) (.lit (.int 3)) (.loc "p0")) (.lit (.int 1)))]))
    (.assign [(.loc "l0")] [(.bin (.add .int) (.loc "l0") (.lit (.int 1)))])))

def probeWhile_body : Stmt :=
  (.seq (.assign [(.loc "l0")] [(.lit (.int 0))])
  (.seq probeWhile_loop0
  (.ret [(.loc "p0"), (.loc "l0")])))

@[reducible] def probeWhile_params : List String := ["p0"]
@[reducible] def probeWhile_named : List (String × Val) := []
def probeWhile : Fun := { params := probeWhile_params, named := probeWhile_named, body := probeWhile_body }

/-- @verif/harness/cmd/zvh/trans_probe.go: func probeTwo
    p0 = x int
-/
def probeTwo_body : Stmt :=
  (.ret [(.bin (.add .int) (.loc "p0") (.lit (.int 1))), (.bin (.sub .int) (.loc "p0") (.lit (.int 1)))])

@[reducible] def probeTwo_params : List String := ["p0"]
@[reducible] def probeTwo_named : List (String × Val) := []
def probeTwo : Fun := { params := probeTwo_params, named := probeTwo_named, body := probeTwo_body }

/-- @verif/harness/cmd/zvh/trans_probe.go: func probeStruct
    p0 = x int
    p1 = p bytes
    l0 = q struct:probePair
    l1 = z struct:probePair
-/
def probeStruct_body : Stmt :=
  (.seq (.assign [(.loc "l0")] [(.call "tuple" [(.loc "p0"), (.loc "p1")])])
  (.seq (.assign [(.loc "l1")] [(.call "tuple" [(.bin (.add .int) (.loc "p0") (.lit (.int 1))), (.lit (.bytes []))])])
  (.ret [(.index (.loc "l0") (.lit (.int 0))), (.len (.index (.loc "l0") (.lit (.int 1)))), (.bin (.add .int) (.index (.loc "l1") (.lit (.int 0))) (.len (.index (.loc "l1") (.lit (.int 1)))))])))

@[reducible] def probeStruct_params : List String := ["p0", "p1"]
@[reducible] def probeStruct_named : List (String × Val) := []
def probeStruct : Fun := { params := probeStruct_params, named := probeStruct_named, body := probeStruct_body }

/-- @verif/harness/cmd/zvh/trans_probe.go: func probeForward
    p0 = x int
    l0 = (value of the returned call) int
    l1 = (value of the returned call) int
-/
def probeForward_body : Stmt :=
  (.seq (.call [(.loc "l0"), (.loc "l1")] "probeTwo" [(.loc "p0")])
  (.ret [(.loc "l0"), (.loc "l1")]))

@[reducible] def probeForward_params : List String := ["p0"]
@[reducible] def probeForward_named : List (String × Val) := []
def probeForward : Fun := { params := probeForward_params, named := probeForward_named, body := probeForward_body }

/-- @verif/harness/cmd/zvh/trans_probe.go: func probeVariadic
    p0 = base int
    p1 = xs []int
    l0 = v int
-/
def probeVariadic_loop0 : Stmt :=
  (.range .blank (.loc "l0") (.loc "p1")
    (.assign [(.loc "p0")] [(.bin (.add .int) (.loc "p0") (.loc "l0"))]))

def probeVariadic_body : Stmt :=
  (.seq probeVariadic_loop0
  (.ret [(.bin (.add .int) (.loc "p0") (.len (.loc "p1")))]))

@[reducible] def probeVariadic_params : List String := ["p0", "p1"]
@[reducible] def probeVariadic_named : List (String × Val) := []
def probeVariadic : Fun := { params := probeVariadic_params, named := probeVariadic_named, body := probeVariadic_body }

/-- @verif/harness/cmd/zvh/trans_probe.go: func (probeRec) probeDefer
    p0 = a int
    p1 = b int
    l0 = (value of the returned call) int
    l1 = (result 0 held while the deferred calls run) int
    l2 = (value of r.note(…) inside an expression) int
    l3 = (value of r.note(…) inside an expression) int
    l4 = (result 0 held while the deferred calls run) int
    field #ev ↦ ev []Event
    field fns ↦ fns []ProbeFn
    field link ↦ link opt:Tag
    field n ↦ n int
    field other ↦ other opt:Tag
    field sub ↦ sub ptr:struct:probePair
-/
def probeDefer_body : Stmt :=
  (.seq (.assign [(.fld "n")] [(.bin (.add .int) (.fld "n") (.lit (.int 1)))])
  (.seq .skip
  (.seq (.ite (.bin .lt (.loc "p0") (.lit (.int 0)))
      (.seq (.seq (.assign [(.fld "ev")] [(.call "append" [(.fld "ev"), (.call "tuple" [(.lit (.bytes [112, 114, 111, 98, 101, 46, 110, 111, 116, 101]) /- probe.note -/), (.loc "p0")])])])
        (.callX [(.loc "l0")] "probe.note" [(.loc "p0")]))
      (.seq (.assign [(.loc "l1")] [(.loc "l0")])
      (.seq (.seq (.assign [(.fld "ev")] [(.call "append" [(.fld "ev"), (.call "tuple" [(.lit (.bytes [112, 114, 111, 98, 101, 46, 100, 111, 110, 101]) /- probe.done -/)])])])
        (.callX [] "probe.done" []))
      (.ret [(.loc "l1")]))))
      .skip)
  (.seq (.seq (.assign [(.fld "ev")] [(.call "append" [(.fld "ev"), (.call "tuple" [(.lit (.bytes [112, 114, 111, 98, 101, 46, 110, 111, 116, 101]) /- probe.note -/), (.loc "p0")])])])
    (.callX [(.loc "l2")] "probe.note" [(.loc "p0")]))
  (.seq (.seq (.assign [(.fld "ev")] [(.call "append" [(.fld "ev"), (.call "tuple" [(.lit (.bytes [112, 114, 111, 98, 101, 46, 110, 111, 116, 101]) /- probe.note -/), (.loc "p1")])])])
    (.callX [(.loc "l3")] "probe.note" [(.loc "p1")]))
  (.seq (.assign [(.loc "l4")] [(.call "max" [(.loc "l2"), (.loc "l3")])])
  (.seq (.seq (.assign [(.fld "ev")] [(.call "append" [(.fld "ev"), (.call "tuple" [(.lit (.bytes [112, 114, 111, 98, 101, 46, 100, 111, 110, 101]) /- probe.done -/)])])])
    (.callX [] "probe.done" []))
  (.ret [(.loc "l4")]))))))))

@[reducible] def probeDefer_params : List String := ["p0", "p1"]
@[reducible] def probeDefer_named : List (String × Val) := []
def probeDefer : Fun := { params := probeDefer_params, named := probeDefer_named, body := probeDefer_body }

/-- @verif/harness/cmd/zvh/trans_probe.go: func (probeRec) probeNilable
    l0 = s ptr:struct:probePair
    field #ev ↦ ev []Event
    field fns ↦ fns []ProbeFn
    field link ↦ link opt:Tag
    field n ↦ n int
    field other ↦ other opt:Tag
    field sub ↦ sub ptr:struct:probePair
-/
def probeNilable_body : Stmt :=
  (.seq (.assign [(.loc "l0")] [(.fld "sub")])
  (.seq (.ite (.bin .eq (.len (.loc "l0")) (.lit (.int 0)))
      (.ret [(.bin .eq (.len (.fld "link")) (.lit (.int 0))), (.bin .eq (.fld "link") (.fld "other")), (.lit (.bool false)), (.lit (.int 0))])
      .skip)
  (.ret [(.bin .ne (.len (.fld "link")) (.lit (.int 0))), (.bin .ne (.fld "link") (.fld "other")), (.lit (.bool true)), (.index (.loc "l0") (.lit (.int 0)))])))

@[reducible] def probeNilable_params : List String := []
@[reducible] def probeNilable_named : List (String × Val) := []
def probeNilable : Fun := { params := probeNilable_params, named := probeNilable_named, body := probeNilable_body }

/-- @verif/harness/cmd/zvh/trans_probe.go: func (probeRec) probeFnValues
    p0 = x int
    l0 = t int
    l1 = i int
    l2 = v int
    field #ev ↦ ev []Event
    field fns ↦ fns []ProbeFn
    field link ↦ link opt:Tag
    field n ↦ n int
    field other ↦ other opt:Tag
    field sub ↦ sub ptr:struct:probePair
-/
def probeFnValues_loop0 : Stmt :=
  (.range (.loc "l1") .blank (.fld "fns")
    (.seq (.seq (.assign [(.fld "ev")] [(.call "append" [(.fld "ev"), (.call "tuple" [(.lit (.bytes [80, 114, 111, 98, 101, 70, 110]) /- ProbeFn -/), (.index (.fld "fns") (.loc "l1")), (.loc "p0")])])])
      (.callX [(.loc "l2")] "ProbeFn" [(.index (.fld "fns") (.loc "l1")), (.loc "p0")]))
    (.assign [(.loc "l0")] [(.bin (.add .int) (.loc "l0") (.loc "l2"))])))

def probeFnValues_body : Stmt :=
  (.seq (.assign [(.loc "l0")] [(.lit (.int 0))])
  (.seq probeFnValues_loop0
  (.ret [(.loc "l0")])))

@[reducible] def probeFnValues_params : List String := ["p0"]
@[reducible] def probeFnValues_named : List (String × Val) := []
def probeFnValues : Fun := { params := probeFnValues_params, named := probeFnValues_named, body := probeFnValues_body }

/-- @verif/harness/cmd/zvh/trans_probe4.go: func (probeLvl) set
    p0 = t bytes
    receiver value ↦ lvl i8
-/
def probeSet_body : Stmt :=
  (.seq (.switch (.loc "p0")
      (.case [(.lit (.bytes [108, 111]))]
        (.assign [(.fld "lvl")] [(.lit (.int (-1)))])
      (.case [(.lit (.bytes [109, 105, 100])), (.lit (.bytes []))]
        (.assign [(.fld "lvl")] [(.lit (.int 0))])
      (.case [(.lit (.bytes [104, 105]))]
        (.assign [(.fld "lvl")] [(.lit (.int 1))])
      (.default (.ret [(.lit (.bool false))]))))))
  (.ret [(.lit (.bool true))]))

@[reducible] def probeSet_params : List String := ["p0"]
@[reducible] def probeSet_named : List (String × Val) := []
def probeSet : Fun := { params := probeSet_params, named := probeSet_named, body := probeSet_body }

/-- @verif/harness/cmd/zvh/trans_probe4.go: func (probeLvl) setFolded
    p0 = t bytes
    l0 = (value of l.set(…) inside an expression) bool
    l1 = (value of l.set(…) inside an expression) bool
    receiver value ↦ lvl i8
-/
def probeSetFolded_body : Stmt :=
  (.seq (.ite (.fld "isnil")
      (.ret [(.lit (.int (-1)))])
      .skip)
  (.seq (.seq (.call [(.loc "l0")] "probeSet" [(.loc "p0")])
    (.ite (.un .not (.loc "l0"))
      (.seq (.call [(.loc "l1")] "probeSet" [(.call "bytes.ToLower" [(.loc "p0")])])
      (.ite (.un .not (.loc "l1"))
        (.ret [(.bin (.add .int) (.conv .int (.fld "lvl")) (.lit (.int 100)))])
        .skip))
      .skip))
  (.ret [(.conv .int (.fld "lvl"))])))

@[reducible] def probeSetFolded_params : List String := ["p0"]
@[reducible] def probeSetFolded_named : List (String × Val) := []
def probeSetFolded : Fun := { params := probeSetFolded_params, named := probeSetFolded_named, body := probeSetFolded_body }

/-- @verif/harness/cmd/zvh/trans_probe4.go: func probeParse
    p0 = t bytes
    l0 = v i8
    l1 = r int
-/
def probeParse_body : Stmt :=
  (.seq (.assign [(.loc "l0")] [(.lit (.int 0))])
  (.seq (.seq (.assign [(.fld "lvl")] [(.loc "l0")])
    (.seq (.assign [(.fld "isnil")] [(.lit (.bool false))])
    (.seq (.call [(.loc "l1")] "probeSetFolded" [(.loc "p0")])
    (.assign [(.loc "l0")] [(.fld "lvl")]))))
  (.ret [(.loc "l0"), (.loc "l1")])))

@[reducible] def probeParse_params : List String := ["p0"]
@[reducible] def probeParse_named : List (String × Val) := []
def probeParse : Fun := { params := probeParse_params, named := probeParse_named, body := probeParse_body }

/-- @verif/harness/cmd/zvh/trans_probe4.go: func probeScan
    p0 = mask int
    l0 = l i8
-/
def probeScan_loop0 : Stmt :=
  (.loop (.bin .le (.loc "l0") (.lit (.int 1)))
    (.assign [(.loc "l0")] [(.bin (.add .i8) (.loc "l0") (.lit (.int 1)))])
    (.ite (.or (.or (.and (.bin .eq (.bin (.rem .int) (.loc "p0") (.lit (.int 2))) (.lit (.int 1))) (.bin .eq (.loc "l0") (.lit (.int (-1))))) (.and (.bin .eq (.bin (.rem .int) (.bin (.div .int) (.loc "p0") (.lit (.int 2))) (.lit (.int 2))) (.lit (.int 1))) (.bin .eq (.loc "l0") (.lit (.int 0))))) (.and (.bin .eq (.bin (.rem .int) (.bin (.div .int) (.loc "p0") (.lit (.int 4))) (.lit (.int 2))) (.lit (.int 1))) (.bin .eq (.loc "l0") (.lit (.int 1)))))
      (.ret [(.loc "l0")])
      .skip))

def probeScan_body : Stmt :=
  (.seq (.seq (.assign [(.loc "l0")] [(.lit (.int (-1)))])
    probeScan_loop0)
  (.ret [(.lit (.int 2))]))

@[reducible] def probeScan_params : List String := ["p0"]
@[reducible] def probeScan_named : List (String × Val) := []
def probeScan : Fun := { params := probeScan_params, named := probeScan_named, body := probeScan_body }

/-- @verif/harness/cmd/zvh/trans_probe4.go: func probeDecode
    p0 = k int
    l0 = pld struct:probePld
    l1 = bad bool
    l2 = r0 struct:probeOut
    l3 = r struct:probeOut
-/
def probeDecode_body : Stmt :=
  (.seq .skip
  (.seq (.assign [(.loc "l0")] [(.lit (.list [.list []]))])
  (.seq (.callX [(.loc "l0"), (.loc "l1")] "probe.fill" [(.loc "p0"), (.loc "l0")])
  (.seq (.ite (.bin .eq (.len (.index (.loc "l0") (.lit (.int 0)))) (.lit (.int 0)))
      (.seq (.assign [(.loc "l2")] [(.call "tuple" [(.lit (.int 0)), (.loc "l1")])])
      (.ret [(.index (.loc "l2") (.lit (.int 0))), (.and (.index (.loc "l2") (.lit (.int 1))) (.lit (.bool false))), (.loc "l1")]))
      .skip)
  (.seq (.assign [(.loc "l3")] [(.call "tuple" [(.index (.index (.loc "l0") (.lit (.int 0))) (.lit (.int 0))), (.lit (.bool true))])])
  (.ret [(.index (.loc "l3") (.lit (.int 0))), (.index (.loc "l3") (.lit (.int 1))), (.loc "l1")]))))))

@[reducible] def probeDecode_params : List String := ["p0"]
@[reducible] def probeDecode_named : List (String × Val) := []
def probeDecode : Fun := { params := probeDecode_params, named := probeDecode_named, body := probeDecode_body }

/-- @verif/harness/cmd/zvh/trans_probe4.go: func probeCallVariadic
    p0 = a int
    p1 = b int
    l0 = (value of probeVariadic(…) inside an expression) int
    l1 = (value of probeVariadic(…) inside an expression) int
-/
def probeCallVariadic_body : Stmt :=
  (.seq (.call [(.loc "l0")] "probeVariadic" [(.loc "p0"), (.call "tuple" [(.loc "p1"), (.loc "p0"), (.loc "p1")])])
  (.seq (.call [(.loc "l1")] "probeVariadic" [(.loc "p1"), (.call "tuple" [])])
  (.ret [(.bin (.add .int) (.loc "l0") (.loc "l1"))])))

@[reducible] def probeCallVariadic_params : List String := ["p0", "p1"]
@[reducible] def probeCallVariadic_named : List (String × Val) := []
def probeCallVariadic : Fun := { params := probeCallVariadic_params, named := probeCallVariadic_named, body := probeCallVariadic_body }

/-- @verif/harness/cmd/zvh/trans_probe4.go: func probeCapped
    p0 = xs bytes
    p1 = y u8
    l0 = a bytes
-/
def probeCapped_body : Stmt :=
  (.seq (.assign [(.loc "l0")] [(.call "append" [(.loc "p0"), (.loc "p1")])])
  (.ret [(.loc "l0"), (.loc "p0")]))

@[reducible] def probeCapped_params : List String := ["p0", "p1"]
@[reducible] def probeCapped_named : List (String × Val) := []
def probeCapped : Fun := { params := probeCapped_params, named := probeCapped_named, body := probeCapped_body }

/-- @verif/harness/cmd/zvh/trans_probe4.go: func (probeOnceT) get
    p0 = k int
    field once ↦ done bool
    field v ↦ v int
-/
def probeOnceGet_body : Stmt :=
  (.seq (.ite (.un .not (.fld "done"))
      (.seq (.assign [(.fld "v")] [(.bin (.mul .int) (.loc "p0") (.lit (.int 2)))])
      (.assign [(.fld "done")] [(.lit (.bool true))]))
      .skip)
  (.ret [(.fld "v")]))

@[reducible] def probeOnceGet_params : List String := ["p0"]
@[reducible] def probeOnceGet_named : List (String × Val) := []
def probeOnceGet : Fun := { params := probeOnceGet_params, named := probeOnceGet_named, body := probeOnceGet_body }

/-- @verif/harness/cmd/zvh/trans_probe4.go: func (probeOnceT) getTwice
    p0 = a int
    p1 = b int
    l0 = x int
    l1 = y int
    field once ↦ done bool
    field v ↦ v int
-/
def probeOnceTwice_body : Stmt :=
  (.seq (.call [(.loc "l0")] "probeOnceGet" [(.loc "p0")])
  (.seq (.call [(.loc "l1")] "probeOnceGet" [(.loc "p1")])
  (.ret [(.loc "l0"), (.loc "l1")])))

@[reducible] def probeOnceTwice_params : List String := ["p0", "p1"]
@[reducible] def probeOnceTwice_named : List (String × Val) := []
def probeOnceTwice : Fun := { params := probeOnceTwice_params, named := probeOnceTwice_named, body := probeOnceTwice_body }

/-- @verif/harness/cmd/zvh/trans_probe4.go: func probeTypeSwitch
    p0 = x Any
    l0 = v Any
    l1, l2 = (value, ok) of the type-switch case string
    l3 = v string
    l4, l5 = (value, ok) of the type-switch case int
    l6 = v int
-/
def probeTypeSwitch_body : Stmt :=
  (.seq (.callX [(.loc "l4"), (.loc "l5")] "probe.asInt" [(.loc "p0")])
  (.ite (.loc "l5")
    (.seq (.assign [(.loc "l6")] [(.loc "l4")])
    (.ret [(.bin (.add .int) (.loc "l6") (.lit (.int 1)))]))
    (.seq (.callX [(.loc "l1"), (.loc "l2")] "probe.asString" [(.loc "p0")])
    (.ite (.loc "l2")
      (.seq (.assign [(.loc "l3")] [(.loc "l1")])
      (.ret [(.len (.loc "l3"))]))
      (.seq (.assign [(.loc "l0")] [(.loc "p0")])
      (.ret [(.lit (.int (-1)))]))))))

@[reducible] def probeTypeSwitch_params : List String := ["p0"]
@[reducible] def probeTypeSwitch_named : List (String × Val) := []
def probeTypeSwitch : Fun := { params := probeTypeSwitch_params, named := probeTypeSwitch_named, body := probeTypeSwitch_body }

/-- @verif/harness/cmd/zvh/trans_probe4.go: func probeBoxed
    p0 = n int
    p1 = s bytes
    l0 = b ptr:struct:probeBox
    l1 = (new value of b.buf)
    l2 = (new value of b.buf)
-/
def probeBoxed_body : Stmt :=
  (.seq (.assign [(.loc "l0")] [(.call "tuple" [(.lit (.bytes [])), (.loc "p0")])])
  (.seq (.seq (.callX [(.loc "l1")] "probe.write" [(.index (.loc "l0") (.lit (.int 0))), (.loc "p1")])
    (.assign [(.loc "l0")] [(.call "tuple" [(.loc "l1"), (.index (.loc "l0") (.lit (.int 1)))])]))
  (.seq (.seq (.callX [(.loc "l2")] "probe.write" [(.index (.loc "l0") (.lit (.int 0))), (.loc "p1")])
    (.assign [(.loc "l0")] [(.call "tuple" [(.loc "l2"), (.index (.loc "l0") (.lit (.int 1)))])]))
  (.ret [(.index (.loc "l0") (.lit (.int 0))), (.index (.loc "l0") (.lit (.int 1)))]))))

@[reducible] def probeBoxed_params : List String := ["p0", "p1"]
@[reducible] def probeBoxed_named : List (String × Val) := []
def probeBoxed : Fun := { params := probeBoxed_params, named := probeBoxed_named, body := probeBoxed_body }

/-- the translated functions of this table by name -/
def funs : String → Option Fun
  | "probeU32" => some probeU32
  | "probeU8" => some probeU8
  | "probeU64" => some probeU64
  | "probeInt" => some probeInt
  | "probeI64" => some probeI64
  | "probeDiv" => some probeDiv
  | "probeDivU" => some probeDivU
  | "probeConv" => some probeConv
  | "probeSlice" => some probeSlice
  | "probeSliceLo" => some probeSliceLo
  | "probeSliceHi" => some probeSliceHi
  | "probeIndex" => some probeIndex
  | "probeShort" => some probeShort
  | "probeSwap" => some probeSwap
  | "probeLoop" => some probeLoop
  | "probeSwitch" => some probeSwitch
  | "probeRange" => some probeRange
  | "probeMinMax" => some probeMinMax
  | "probeNamed" => some probeNamed
  | "probeAppend" => some probeAppend
  | "probeIndexByte" => some probeIndexByte
  | "probeShadow" => some probeShadow
  | "probeWhile" => some probeWhile
  | "probeTwo" => some probeTwo
  | "probeStruct" => some probeStruct
  | "probeForward" => some probeForward
  | "probeVariadic" => some probeVariadic
  | "probeDefer" => some probeDefer
  | "probeNilable" => some probeNilable
  | "probeFnValues" => some probeFnValues
  | "probeSet" => some probeSet
  | "probeSetFolded" => some probeSetFolded
  | "probeParse" => some probeParse
  | "probeScan" => some probeScan
  | "probeDecode" => some probeDecode
  | "probeCallVariadic" => some probeCallVariadic
  | "probeCapped" => some probeCapped
  | "probeOnceGet" => some probeOnceGet
  | "probeOnceTwice" => some probeOnceTwice
  | "probeTypeSwitch" => some probeTypeSwitch
  | "probeBoxed" => some probeBoxed
  | _ => none

/-- the table entry by entry: the defining equations of `funs` -/
theorem funs_table :
    funs "probeU32" = some probeU32 ∧
    funs "probeU8" = some probeU8 ∧
    funs "probeU64" = some probeU64 ∧
    funs "probeInt" = some probeInt ∧
    funs "probeI64" = some probeI64 ∧
    funs "probeDiv" = some probeDiv ∧
    funs "probeDivU" = some probeDivU ∧
    funs "probeConv" = some probeConv ∧
    funs "probeSlice" = some probeSlice ∧
    funs "probeSliceLo" = some probeSliceLo ∧
    funs "probeSliceHi" = some probeSliceHi ∧
    funs "probeIndex" = some probeIndex ∧
    funs "probeShort" = some probeShort ∧
    funs "probeSwap" = some probeSwap ∧
    funs "probeLoop" = some probeLoop ∧
    funs "probeSwitch" = some probeSwitch ∧
    funs "probeRange" = some probeRange ∧
    funs "probeMinMax" = some probeMinMax ∧
    funs "probeNamed" = some probeNamed ∧
    funs "probeAppend" = some probeAppend ∧
    funs "probeIndexByte" = some probeIndexByte ∧
    funs "probeShadow" = some probeShadow ∧
    funs "probeWhile" = some probeWhile ∧
    funs "probeTwo" = some probeTwo ∧
    funs "probeStruct" = some probeStruct ∧
    funs "probeForward" = some probeForward ∧
    funs "probeVariadic" = some probeVariadic ∧
    funs "probeDefer" = some probeDefer ∧
    funs "probeNilable" = some probeNilable ∧
    funs "probeFnValues" = some probeFnValues ∧
    funs "probeSet" = some probeSet ∧
    funs "probeSetFolded" = some probeSetFolded ∧
    funs "probeParse" = some probeParse ∧
    funs "probeScan" = some probeScan ∧
    funs "probeDecode" = some probeDecode ∧
    funs "probeCallVariadic" = some probeCallVariadic ∧
    funs "probeCapped" = some probeCapped ∧
    funs "probeOnceGet" = some probeOnceGet ∧
    funs "probeOnceTwice" = some probeOnceTwice ∧
    funs "probeTypeSwitch" = some probeTypeSwitch ∧
    funs "probeBoxed" = some probeBoxed :=
  ⟨funs.eq_1, funs.eq_2, funs.eq_3, funs.eq_4, funs.eq_5, funs.eq_6, funs.eq_7, funs.eq_8, funs.eq_9, funs.eq_10, funs.eq_11, funs.eq_12, funs.eq_13, funs.eq_14, funs.eq_15, funs.eq_16, funs.eq_17, funs.eq_18, funs.eq_19, funs.eq_20, funs.eq_21, funs.eq_22, funs.eq_23, funs.eq_24, funs.eq_25, funs.eq_26, funs.eq_27, funs.eq_28, funs.eq_29, funs.eq_30, funs.eq_31, funs.eq_32, funs.eq_33, funs.eq_34, funs.eq_35, funs.eq_36, funs.eq_37, funs.eq_38, funs.eq_39, funs.eq_40, funs.eq_41⟩

/-! lookup facts for symbolic execution (`funs_f` is entry f of `funs_table`) -/
@[simp] theorem funs_probeU32 : funs "probeU32" = some probeU32 := funs_table.1
@[simp] theorem probeU32_params_eq : probeU32.params = probeU32_params := rfl
@[simp] theorem probeU32_named_eq : probeU32.named = probeU32_named := rfl
@[simp] theorem probeU32_body_eq : probeU32.body = probeU32_body := rfl
@[simp] theorem funs_probeU8 : funs "probeU8" = some probeU8 := funs_table.2.1
@[simp] theorem probeU8_params_eq : probeU8.params = probeU8_params := rfl
@[simp] theorem probeU8_named_eq : probeU8.named = probeU8_named := rfl
@[simp] theorem probeU8_body_eq : probeU8.body = probeU8_body := rfl
@[simp] theorem funs_probeU64 : funs "probeU64" = some probeU64 := funs_table.2.2.1
@[simp] theorem probeU64_params_eq : probeU64.params = probeU64_params := rfl
@[simp] theorem probeU64_named_eq : probeU64.named = probeU64_named := rfl
@[simp] theorem probeU64_body_eq : probeU64.body = probeU64_body := rfl
@[simp] theorem funs_probeInt : funs "probeInt" = some probeInt := funs_table.2.2.2.1
@[simp] theorem probeInt_params_eq : probeInt.params = probeInt_params := rfl
@[simp] theorem probeInt_named_eq : probeInt.named = probeInt_named := rfl
@[simp] theorem probeInt_body_eq : probeInt.body = probeInt_body := rfl
@[simp] theorem funs_probeI64 : funs "probeI64" = some probeI64 := funs_table.2.2.2.2.1
@[simp] theorem probeI64_params_eq : probeI64.params = probeI64_params := rfl
@[simp] theorem probeI64_named_eq : probeI64.named = probeI64_named := rfl
@[simp] theorem probeI64_body_eq : probeI64.body = probeI64_body := rfl
@[simp] theorem funs_probeDiv : funs "probeDiv" = some probeDiv := funs_table.2.2.2.2.2.1
@[simp] theorem probeDiv_params_eq : probeDiv.params = probeDiv_params := rfl
@[simp] theorem probeDiv_named_eq : probeDiv.named = probeDiv_named := rfl
@[simp] theorem probeDiv_body_eq : probeDiv.body = probeDiv_body := rfl
@[simp] theorem funs_probeDivU : funs "probeDivU" = some probeDivU := funs_table.2.2.2.2.2.2.1
@[simp] theorem probeDivU_params_eq : probeDivU.params = probeDivU_params := rfl
@[simp] theorem probeDivU_named_eq : probeDivU.named = probeDivU_named := rfl
@[simp] theorem probeDivU_body_eq : probeDivU.body = probeDivU_body := rfl
@[simp] theorem funs_probeConv : funs "probeConv" = some probeConv := funs_table.2.2.2.2.2.2.2.1
@[simp] theorem probeConv_params_eq : probeConv.params = probeConv_params := rfl
@[simp] theorem probeConv_named_eq : probeConv.named = probeConv_named := rfl
@[simp] theorem probeConv_body_eq : probeConv.body = probeConv_body := rfl
@[simp] theorem funs_probeSlice : funs "probeSlice" = some probeSlice := funs_table.2.2.2.2.2.2.2.2.1
@[simp] theorem probeSlice_params_eq : probeSlice.params = probeSlice_params := rfl
@[simp] theorem probeSlice_named_eq : probeSlice.named = probeSlice_named := rfl
@[simp] theorem probeSlice_body_eq : probeSlice.body = probeSlice_body := rfl
@[simp] theorem funs_probeSliceLo : funs "probeSliceLo" = some probeSliceLo := funs_table.2.2.2.2.2.2.2.2.2.1
@[simp] theorem probeSliceLo_params_eq : probeSliceLo.params = probeSliceLo_params := rfl
@[simp] theorem probeSliceLo_named_eq : probeSliceLo.named = probeSliceLo_named := rfl
@[simp] theorem probeSliceLo_body_eq : probeSliceLo.body = probeSliceLo_body := rfl
@[simp] theorem funs_probeSliceHi : funs "probeSliceHi" = some probeSliceHi := funs_table.2.2.2.2.2.2.2.2.2.2.1
@[simp] theorem probeSliceHi_params_eq : probeSliceHi.params = probeSliceHi_params := rfl
@[simp] theorem probeSliceHi_named_eq : probeSliceHi.named = probeSliceHi_named := rfl
@[simp] theorem probeSliceHi_body_eq : probeSliceHi.body = probeSliceHi_body := rfl
@[simp] theorem funs_probeIndex : funs "probeIndex" = some probeIndex := funs_table.2.2.2.2.2.2.2.2.2.2.2.1
@[simp] theorem probeIndex_params_eq : probeIndex.params = probeIndex_params := rfl
@[simp] theorem probeIndex_named_eq : probeIndex.named = probeIndex_named := rfl
@[simp] theorem probeIndex_body_eq : probeIndex.body = probeIndex_body := rfl
@[simp] theorem funs_probeShort : funs "probeShort" = some probeShort := funs_table.2.2.2.2.2.2.2.2.2.2.2.2.1
@[simp] theorem probeShort_params_eq : probeShort.params = probeShort_params := rfl
@[simp] theorem probeShort_named_eq : probeShort.named = probeShort_named := rfl
@[simp] theorem probeShort_body_eq : probeShort.body = probeShort_body := rfl
@[simp] theorem funs_probeSwap : funs "probeSwap" = some probeSwap := funs_table.2.2.2.2.2.2.2.2.2.2.2.2.2.1
@[simp] theorem probeSwap_params_eq : probeSwap.params = probeSwap_params := rfl
@[simp] theorem probeSwap_named_eq : probeSwap.named = probeSwap_named := rfl
@[simp] theorem probeSwap_body_eq : probeSwap.body = probeSwap_body := rfl
@[simp] theorem funs_probeLoop : funs "probeLoop" = some probeLoop := funs_table.2.2.2.2.2.2.2.2.2.2.2.2.2.2.1
@[simp] theorem probeLoop_params_eq : probeLoop.params = probeLoop_params := rfl
@[simp] theorem probeLoop_named_eq : probeLoop.named = probeLoop_named := rfl
@[simp] theorem probeLoop_body_eq : probeLoop.body = probeLoop_body := rfl
@[simp] theorem funs_probeSwitch : funs "probeSwitch" = some probeSwitch := funs_table.2.2.2.2.2.2.2.2.2.2.2.2.2.2.2.1
@[simp] theorem probeSwitch_params_eq : probeSwitch.params = probeSwitch_params := rfl
@[simp] theorem probeSwitch_named_eq : probeSwitch.named = probeSwitch_named := rfl
@[simp] theorem probeSwitch_body_eq : probeSwitch.body = probeSwitch_body := rfl
@[simp] theorem funs_probeRange : funs "probeRange" = some probeRange := funs_table.2.2.2.2.2.2.2.2.2.2.2.2.2.2.2.2.1
@[simp] theorem probeRange_params_eq : probeRange.params = probeRange_params := rfl
@[simp] theorem probeRange_named_eq : probeRange.named = probeRange_named := rfl
@[simp] theorem probeRange_body_eq : probeRange.body = probeRange_body := rfl
@[simp] theorem funs_probeMinMax : funs "probeMinMax" = some probeMinMax := funs_table.2.2.2.2.2.2.2.2.2.2.2.2.2.2.2.2.2.1
@[simp] theorem probeMinMax_params_eq : probeMinMax.params = probeMinMax_params := rfl
@[simp] theorem probeMinMax_named_eq : probeMinMax.named = probeMinMax_named := rfl
@[simp] theorem probeMinMax_body_eq : probeMinMax.body = probeMinMax_body := rfl
@[simp] theorem funs_probeNamed : funs "probeNamed" = some probeNamed := funs_table.2.2.2.2.2.2.2.2.2.2.2.2.2.2.2.2.2.2.1
@[simp] theorem probeNamed_params_eq : probeNamed.params = probeNamed_params := rfl
@[simp] theorem probeNamed_named_eq : probeNamed.named = probeNamed_named := rfl
@[simp] theorem probeNamed_body_eq : probeNamed.body = probeNamed_body := rfl
@[simp] theorem funs_probeAppend : funs "probeAppend" = some probeAppend := funs_table.2.2.2.2.2.2.2.2.2.2.2.2.2.2.2.2.2.2.2.1
@[simp] theorem probeAppend_params_eq : probeAppend.params = probeAppend_params := rfl
@[simp] theorem probeAppend_named_eq : probeAppend.named = probeAppend_named := rfl
@[simp] theorem probeAppend_body_eq : probeAppend.body = probeAppend_body := rfl
@[simp] theorem funs_probeIndexByte : funs "probeIndexByte" = some probeIndexByte := funs_table.2.2.2.2.2.2.2.2.2.2.2.2.2.2.2.2.2.2.2.2.1
@[simp] theorem probeIndexByte_params_eq : probeIndexByte.params = probeIndexByte_params := rfl
@[simp] theorem probeIndexByte_named_eq : probeIndexByte.named = probeIndexByte_named := rfl
@[simp] theorem probeIndexByte_body_eq : probeIndexByte.body = probeIndexByte_body := rfl
@[simp] theorem funs_probeShadow : funs "probeShadow" = some probeShadow := funs_table.2.2.2.2.2.2.2.2.2.2.2.2.2.2.2.2.2.2.2.2.2.1
@[simp] theorem probeShadow_params_eq : probeShadow.params = probeShadow_params := rfl
@[simp] theorem probeShadow_named_eq : probeShadow.named = probeShadow_named := rfl
@[simp] theorem probeShadow_body_eq : probeShadow.body = probeShadow_body := rfl
@[simp] theorem funs_probeWhile : funs "probeWhile" = some probeWhile := funs_table.2.2.2.2.2.2.2.2.2.2.2.2.2.2.2.2.2.2.2.2.2.2.1
@[simp] theorem probeWhile_params_eq : probeWhile.params = probeWhile_params := rfl
@[simp] theorem probeWhile_named_eq : probeWhile.named = probeWhile_named := rfl
@[simp] theorem probeWhile_body_eq : probeWhile.body = probeWhile_body := rfl
@[simp] theorem funs_probeTwo : funs "probeTwo" = some probeTwo := funs_table.2.2.2.2.2.2.2.2.2.2.2.2.2.2.2.2.2.2.2.2.2.2.2.1
@[simp] theorem probeTwo_params_eq : probeTwo.params = probeTwo_params := rfl
@[simp] theorem probeTwo_named_eq : probeTwo.named = probeTwo_named := rfl
@[simp] theorem probeTwo_body_eq : probeTwo.body = probeTwo_body := rfl
@[simp] theorem funs_probeStruct : funs "probeStruct" = some probeStruct := funs_table.2.2.2.2.2.2.2.2.2.2.2.2.2.2.2.2.2.2.2.2.2.2.2.2.1
@[simp] theorem probeStruct_params_eq : probeStruct.params = probeStruct_params := rfl
@[simp] theorem probeStruct_named_eq : probeStruct.named = probeStruct_named := rfl
@[simp] theorem probeStruct_body_eq : probeStruct.body = probeStruct_body := rfl
@[simp] theorem funs_probeForward : funs "probeForward" = some probeForward := funs_table.2.2.2.2.2.2.2.2.2.2.2.2.2.2.2.2.2.2.2.2.2.2.2.2.2.1
@[simp] theorem probeForward_params_eq : probeForward.params = probeForward_params := rfl
@[simp] theorem probeForward_named_eq : probeForward.named = probeForward_named := rfl
@[simp] theorem probeForward_body_eq : probeForward.body = probeForward_body := rfl
@[simp] theorem funs_probeVariadic : funs "probeVariadic" = some probeVariadic := funs_table.2.2.2.2.2.2.2.2.2.2.2.2.2.2.2.2.2.2.2.2.2.2.2.2.2.2.1
@[simp] theorem probeVariadic_params_eq : probeVariadic.params = probeVariadic_params := rfl
@[simp] theorem probeVariadic_named_eq : probeVariadic.named = probeVariadic_named := rfl
@[simp] theorem probeVariadic_body_eq : probeVariadic.body = probeVariadic_body := rfl
@[simp] theorem funs_probeDefer : funs "probeDefer" = some probeDefer := funs_table.2.2.2.2.2.2.2.2.2.2.2.2.2.2.2.2.2.2.2.2.2.2.2.2.2.2.2.1
@[simp] theorem probeDefer_params_eq : probeDefer.params = probeDefer_params := rfl
@[simp] theorem probeDefer_named_eq : probeDefer.named = probeDefer_named := rfl
@[simp] theorem probeDefer_body_eq : probeDefer.body = probeDefer_body := rfl
@[simp] theorem funs_probeNilable : funs "probeNilable" = some probeNilable := funs_table.2.2.2.2.2.2.2.2.2.2.2.2.2.2.2.2.2.2.2.2.2.2.2.2.2.2.2.2.1
@[simp] theorem probeNilable_params_eq : probeNilable.params = probeNilable_params := rfl
@[simp] theorem probeNilable_named_eq : probeNilable.named = probeNilable_named := rfl
@[simp] theorem probeNilable_body_eq : probeNilable.body = probeNilable_body := rfl
@[simp] theorem funs_probeFnValues : funs "probeFnValues" = some probeFnValues := funs_table.2.2.2.2.2.2.2.2.2.2.2.2.2.2.2.2.2.2.2.2.2.2.2.2.2.2.2.2.2.1
@[simp] theorem probeFnValues_params_eq : probeFnValues.params = probeFnValues_params := rfl
@[simp] theorem probeFnValues_named_eq : probeFnValues.named = probeFnValues_named := rfl
@[simp] theorem probeFnValues_body_eq : probeFnValues.body = probeFnValues_body := rfl
@[simp] theorem funs_probeSet : funs "probeSet" = some probeSet := funs_table.2.2.2.2.2.2.2.2.2.2.2.2.2.2.2.2.2.2.2.2.2.2.2.2.2.2.2.2.2.2.1
@[simp] theorem probeSet_params_eq : probeSet.params = probeSet_params := rfl
@[simp] theorem probeSet_named_eq : probeSet.named = probeSet_named := rfl
@[simp] theorem probeSet_body_eq : probeSet.body = probeSet_body := rfl
@[simp] theorem funs_probeSetFolded : funs "probeSetFolded" = some probeSetFolded := funs_table.2.2.2.2.2.2.2.2.2.2.2.2.2.2.2.2.2.2.2.2.2.2.2.2.2.2.2.2.2.2.2.1
@[simp] theorem probeSetFolded_params_eq : probeSetFolded.params = probeSetFolded_params := rfl
@[simp] theorem probeSetFolded_named_eq : probeSetFolded.named = probeSetFolded_named := rfl
@[simp] theorem probeSetFolded_body_eq : probeSetFolded.body = probeSetFolded_body := rfl
@[simp] theorem funs_probeParse : funs "probeParse" = some probeParse := funs_table.2.2.2.2.2.2.2.2.2.2.2.2.2.2.2.2.2.2.2.2.2.2.2.2.2.2.2.2.2.2.2.2.1
@[simp] theorem probeParse_params_eq : probeParse.params = probeParse_params := rfl
@[simp] theorem probeParse_named_eq : probeParse.named = probeParse_named := rfl
@[simp] theorem probeParse_body_eq : probeParse.body = probeParse_body := rfl
@[simp] theorem funs_probeScan : funs "probeScan" = some probeScan := funs_table.2.2.2.2.2.2.2.2.2.2.2.2.2.2.2.2.2.2.2.2.2.2.2.2.2.2.2.2.2.2.2.2.2.1
@[simp] theorem probeScan_params_eq : probeScan.params = probeScan_params := rfl
@[simp] theorem probeScan_named_eq : probeScan.named = probeScan_named := rfl
@[simp] theorem probeScan_body_eq : probeScan.body = probeScan_body := rfl
@[simp] theorem funs_probeDecode : funs "probeDecode" = some probeDecode := funs_table.2.2.2.2.2.2.2.2.2.2.2.2.2.2.2.2.2.2.2.2.2.2.2.2.2.2.2.2.2.2.2.2.2.2.1
@[simp] theorem probeDecode_params_eq : probeDecode.params = probeDecode_params := rfl
@[simp] theorem probeDecode_named_eq : probeDecode.named = probeDecode_named := rfl
@[simp] theorem probeDecode_body_eq : probeDecode.body = probeDecode_body := rfl
@[simp] theorem funs_probeCallVariadic : funs "probeCallVariadic" = some probeCallVariadic := funs_table.2.2.2.2.2.2.2.2.2.2.2.2.2.2.2.2.2.2.2.2.2.2.2.2.2.2.2.2.2.2.2.2.2.2.2.1
@[simp] theorem probeCallVariadic_params_eq : probeCallVariadic.params = probeCallVariadic_params := rfl
@[simp] theorem probeCallVariadic_named_eq : probeCallVariadic.named = probeCallVariadic_named := rfl
@[simp] theorem probeCallVariadic_body_eq : probeCallVariadic.body = probeCallVariadic_body := rfl
@[simp] theorem funs_probeCapped : funs "probeCapped" = some probeCapped := funs_table.2.2.2.2.2.2.2.2.2.2.2.2.2.2.2.2.2.2.2.2.2.2.2.2.2.2.2.2.2.2.2.2.2.2.2.2.1
@[simp] theorem probeCapped_params_eq : probeCapped.params = probeCapped_params := rfl
@[simp] theorem probeCapped_named_eq : probeCapped.named = probeCapped_named := rfl
@[simp] theorem probeCapped_body_eq : probeCapped.body = probeCapped_body := rfl
@[simp] theorem funs_probeOnceGet : funs "probeOnceGet" = some probeOnceGet := funs_table.2.2.2.2.2.2.2.2.2.2.2.2.2.2.2.2.2.2.2.2.2.2.2.2.2.2.2.2.2.2.2.2.2.2.2.2.2.1
@[simp] theorem probeOnceGet_params_eq : probeOnceGet.params = probeOnceGet_params := rfl
@[simp] theorem probeOnceGet_named_eq : probeOnceGet.named = probeOnceGet_named := rfl
@[simp] theorem probeOnceGet_body_eq : probeOnceGet.body = probeOnceGet_body := rfl
@[simp] theorem funs_probeOnceTwice : funs "probeOnceTwice" = some probeOnceTwice := funs_table.2.2.2.2.2.2.2.2.2.2.2.2.2.2.2.2.2.2.2.2.2.2.2.2.2.2.2.2.2.2.2.2.2.2.2.2.2.2.1
@[simp] theorem probeOnceTwice_params_eq : probeOnceTwice.params = probeOnceTwice_params := rfl
@[simp] theorem probeOnceTwice_named_eq : probeOnceTwice.named = probeOnceTwice_named := rfl
@[simp] theorem probeOnceTwice_body_eq : probeOnceTwice.body = probeOnceTwice_body := rfl
@[simp] theorem funs_probeTypeSwitch : funs "probeTypeSwitch" = some probeTypeSwitch := funs_table.2.2.2.2.2.2.2.2.2.2.2.2.2.2.2.2.2.2.2.2.2.2.2.2.2.2.2.2.2.2.2.2.2.2.2.2.2.2.2.1
@[simp] theorem probeTypeSwitch_params_eq : probeTypeSwitch.params = probeTypeSwitch_params := rfl
@[simp] theorem probeTypeSwitch_named_eq : probeTypeSwitch.named = probeTypeSwitch_named := rfl
@[simp] theorem probeTypeSwitch_body_eq : probeTypeSwitch.body = probeTypeSwitch_body := rfl
@[simp] theorem funs_probeBoxed : funs "probeBoxed" = some probeBoxed := funs_table.2.2.2.2.2.2.2.2.2.2.2.2.2.2.2.2.2.2.2.2.2.2.2.2.2.2.2.2.2.2.2.2.2.2.2.2.2.2.2.2
@[simp] theorem probeBoxed_params_eq : probeBoxed.params = probeBoxed_params := rfl
@[simp] theorem probeBoxed_named_eq : probeBoxed.named = probeBoxed_named := rfl
@[simp] theorem probeBoxed_body_eq : probeBoxed.body = probeBoxed_body := rfl

end ZapVerif.Gen.TransProbe
