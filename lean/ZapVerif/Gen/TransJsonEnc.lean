/- GENERATED by zvgen from /repo — do not edit; regenerated on every check run. -/
import ZapVerif.Model.GoMini
/-! Mechanical translation (gen/trans.go) of whitelisted Go functions to GoMini terms. -/
namespace ZapVerif.Gen.TransJsonEnc
open ZapVerif.GoMini

/-- zapcore/json_encoder.go: func (jsonEncoder) AppendObject
    p0 = obj ObjM
    l0 = old int
    l1 = err error
    field #ev ↦ ev []Event
    field EncoderConfig ↦ cfg opt:Config
    field NewReflectedEncoder ↦ newRefl ReflCtor
    field buf ↦ buf Buffer
    field openNamespaces ↦ openNs int
    field reflectBuf ↦ rbuf opt:Buffer
    field reflectEnc ↦ renc opt:ReflEnc
    field spaced ↦ spaced bool
    receiver value ↦ self JE
-/
def AppendObject_body : Stmt :=
  (.seq (.assign [(.loc "l0")] [(.fld "openNs")])
  (.seq (.assign [(.fld "openNs")] [(.lit (.int 0))])
  (.seq (.callX [(.fld "buf")] "addElementSeparator" [(.fld "buf"), (.fld "spaced")])
  (.seq (.assign [(.fld "buf")] [(.call "append" [(.fld "buf"), (.lit (.int 123))])])
  (.seq (.callX [(.fld "buf"), (.fld "openNs"), (.fld "rbuf"), (.fld "renc"), (.loc "l1")] "MarshalLogObject" [(.fld "buf"), (.fld "openNs"), (.fld "rbuf"), (.fld "renc"), (.fld "spaced"), (.loc "p0"), (.fld "self")])
  (.seq (.assign [(.fld "buf")] [(.call "append" [(.fld "buf"), (.lit (.int 125))])])
  (.seq (.callX [(.fld "buf"), (.fld "openNs")] "closeOpenNamespaces" [(.fld "buf"), (.fld "openNs")])
  (.seq (.assign [(.fld "openNs")] [(.loc "l0")])
  (.ret [(.loc "l1")])))))))))

@[reducible] def AppendObject_params : List String := ["p0"]
@[reducible] def AppendObject_named : List (String × Val) := []
def AppendObject : Fun := { params := AppendObject_params, named := AppendObject_named, body := AppendObject_body }

/-- zapcore/json_encoder.go: func (jsonEncoder) AppendArray
    p0 = arr ArrM
    l0 = err error
    field #ev ↦ ev []Event
    field EncoderConfig ↦ cfg opt:Config
    field NewReflectedEncoder ↦ newRefl ReflCtor
    field buf ↦ buf Buffer
    field openNamespaces ↦ openNs int
    field reflectBuf ↦ rbuf opt:Buffer
    field reflectEnc ↦ renc opt:ReflEnc
    field spaced ↦ spaced bool
    receiver value ↦ self JE
-/
def AppendArray_body : Stmt :=
  (.seq (.callX [(.fld "buf")] "addElementSeparator" [(.fld "buf"), (.fld "spaced")])
  (.seq (.assign [(.fld "buf")] [(.call "append" [(.fld "buf"), (.lit (.int 91))])])
  (.seq (.callX [(.fld "buf"), (.fld "openNs"), (.fld "rbuf"), (.fld "renc"), (.loc "l0")] "MarshalLogArray" [(.fld "buf"), (.fld "openNs"), (.fld "rbuf"), (.fld "renc"), (.fld "spaced"), (.loc "p0"), (.fld "self")])
  (.seq (.assign [(.fld "buf")] [(.call "append" [(.fld "buf"), (.lit (.int 93))])])
  (.ret [(.loc "l0")])))))

@[reducible] def AppendArray_params : List String := ["p0"]
@[reducible] def AppendArray_named : List (String × Val) := []
def AppendArray : Fun := { params := AppendArray_params, named := AppendArray_named, body := AppendArray_body }

/-- zapcore/json_encoder.go: func (jsonEncoder) AddObject
    p0 = key string
    p1 = obj ObjM
    l0 = (value of the returned call) error
    field #ev ↦ ev []Event
    field EncoderConfig ↦ cfg opt:Config
    field NewReflectedEncoder ↦ newRefl ReflCtor
    field buf ↦ buf Buffer
    field openNamespaces ↦ openNs int
    field reflectBuf ↦ rbuf opt:Buffer
    field reflectEnc ↦ renc opt:ReflEnc
    field spaced ↦ spaced bool
    receiver value ↦ self JE
-/
def AddObject_body : Stmt :=
  (.seq (.callX [(.fld "buf")] "addKey" [(.fld "buf"), (.fld "spaced"), (.loc "p0")])
  (.seq (.call [(.loc "l0")] "AppendObject" [(.loc "p1")])
  (.ret [(.loc "l0")])))

@[reducible] def AddObject_params : List String := ["p0", "p1"]
@[reducible] def AddObject_named : List (String × Val) := []
def AddObject : Fun := { params := AddObject_params, named := AddObject_named, body := AddObject_body }

/-- zapcore/json_encoder.go: func (jsonEncoder) AddArray
    p0 = key string
    p1 = arr ArrM
    l0 = (value of the returned call) error
    field #ev ↦ ev []Event
    field EncoderConfig ↦ cfg opt:Config
    field NewReflectedEncoder ↦ newRefl ReflCtor
    field buf ↦ buf Buffer
    field openNamespaces ↦ openNs int
    field reflectBuf ↦ rbuf opt:Buffer
    field reflectEnc ↦ renc opt:ReflEnc
    field spaced ↦ spaced bool
    receiver value ↦ self JE
-/
def AddArray_body : Stmt :=
  (.seq (.callX [(.fld "buf")] "addKey" [(.fld "buf"), (.fld "spaced"), (.loc "p0")])
  (.seq (.call [(.loc "l0")] "AppendArray" [(.loc "p1")])
  (.ret [(.loc "l0")])))

@[reducible] def AddArray_params : List String := ["p0", "p1"]
@[reducible] def AddArray_named : List (String × Val) := []
def AddArray : Fun := { params := AddArray_params, named := AddArray_named, body := AddArray_body }

/-- zapcore/json_encoder.go: func (jsonEncoder) OpenNamespace
    p0 = key string
    field #ev ↦ ev []Event
    field EncoderConfig ↦ cfg opt:Config
    field NewReflectedEncoder ↦ newRefl ReflCtor
    field buf ↦ buf Buffer
    field openNamespaces ↦ openNs int
    field reflectBuf ↦ rbuf opt:Buffer
    field reflectEnc ↦ renc opt:ReflEnc
    field spaced ↦ spaced bool
    receiver value ↦ self JE
-/
def OpenNamespace_body : Stmt :=
  (.seq (.callX [(.fld "buf")] "addKey" [(.fld "buf"), (.fld "spaced"), (.loc "p0")])
  (.seq (.assign [(.fld "buf")] [(.call "append" [(.fld "buf"), (.lit (.int 123))])])
  (.assign [(.fld "openNs")] [(.bin (.add .int) (.fld "openNs") (.lit (.int 1)))])))

@[reducible] def OpenNamespace_params : List String := ["p0"]
@[reducible] def OpenNamespace_named : List (String × Val) := []
def OpenNamespace : Fun := { params := OpenNamespace_params, named := OpenNamespace_named, body := OpenNamespace_body }

/-- zapcore/json_encoder.go: func (jsonEncoder) resetReflectBuf
    field #ev ↦ ev []Event
    field EncoderConfig ↦ cfg opt:Config
    field NewReflectedEncoder ↦ newRefl ReflCtor
    field buf ↦ buf Buffer
    field openNamespaces ↦ openNs int
    field reflectBuf ↦ rbuf opt:Buffer
    field reflectEnc ↦ renc opt:ReflEnc
    field spaced ↦ spaced bool
    receiver value ↦ self JE
-/
def resetReflectBuf_body : Stmt :=
  (.ite (.bin .eq (.len (.fld "rbuf")) (.lit (.int 0)))
    (.seq (.seq (.assign [(.fld "ev")] [(.call "append" [(.fld "ev"), (.call "tuple" [(.lit (.bytes [98, 117, 102, 102, 101, 114, 112, 111, 111, 108, 46, 71, 101, 116, 80, 116, 114]) /- bufferpool.GetPtr -/)])])])
      (.callX [(.fld "rbuf")] "bufferpool.GetPtr" []))
    (.assign [(.fld "renc")] [(.call "NewReflectedEncoder" [(.fld "newRefl"), (.fld "rbuf")])]))
    (.assign [(.fld "rbuf")] [(.lit (.list [.bytes []]))]))

@[reducible] def resetReflectBuf_params : List String := []
@[reducible] def resetReflectBuf_named : List (String × Val) := []
def resetReflectBuf : Fun := { params := resetReflectBuf_params, named := resetReflectBuf_named, body := resetReflectBuf_body }

/-- zapcore/json_encoder.go: func (jsonEncoder) encodeReflected
    p0 = obj opt:Any
    l0 = err error
    field #ev ↦ ev []Event
    field EncoderConfig ↦ cfg opt:Config
    field NewReflectedEncoder ↦ newRefl ReflCtor
    field buf ↦ buf Buffer
    field openNamespaces ↦ openNs int
    field reflectBuf ↦ rbuf opt:Buffer
    field reflectEnc ↦ renc opt:ReflEnc
    field spaced ↦ spaced bool
    receiver value ↦ self JE
-/
def encodeReflected_body : Stmt :=
  (.seq (.ite (.bin .eq (.len (.loc "p0")) (.lit (.int 0)))
      (.ret [(.lit (.bytes [110, 117, 108, 108])), (.lit (.list []))])
      .skip)
  (.seq (.call [] "resetReflectBuf" [])
  (.seq (.seq (.callX [(.fld "rbuf"), (.loc "l0")] "ReflEnc.Encode" [(.fld "rbuf"), (.fld "renc"), (.loc "p0")])
    (.ite (.bin .ne (.len (.loc "l0")) (.lit (.int 0)))
      (.ret [(.lit (.bytes [])), (.loc "l0")])
      .skip))
  (.seq (.assign [(.fld "rbuf")] [(.call "Buffer.TrimNewline" [(.fld "rbuf")])])
  (.ret [(.call "optBuffer.Bytes" [(.fld "rbuf")]), (.lit (.list []))])))))

@[reducible] def encodeReflected_params : List String := ["p0"]
@[reducible] def encodeReflected_named : List (String × Val) := []
def encodeReflected : Fun := { params := encodeReflected_params, named := encodeReflected_named, body := encodeReflected_body }

/-- zapcore/json_encoder.go: func (jsonEncoder) AppendReflected
    p0 = val opt:Any
    l0 = valueBytes bytes
    l1 = err error
    field #ev ↦ ev []Event
    field EncoderConfig ↦ cfg opt:Config
    field NewReflectedEncoder ↦ newRefl ReflCtor
    field buf ↦ buf Buffer
    field openNamespaces ↦ openNs int
    field reflectBuf ↦ rbuf opt:Buffer
    field reflectEnc ↦ renc opt:ReflEnc
    field spaced ↦ spaced bool
    receiver value ↦ self JE
-/
def AppendReflected_body : Stmt :=
  (.seq (.call [(.loc "l0"), (.loc "l1")] "encodeReflected" [(.loc "p0")])
  (.seq (.ite (.bin .ne (.len (.loc "l1")) (.lit (.int 0)))
      (.ret [(.loc "l1")])
      .skip)
  (.seq (.callX [(.fld "buf")] "addElementSeparator" [(.fld "buf"), (.fld "spaced")])
  (.seq (.callX [(.fld "buf"), .blank, (.loc "l1")] "Buffer.Write" [(.fld "buf"), (.loc "l0")])
  (.ret [(.loc "l1")])))))

@[reducible] def AppendReflected_params : List String := ["p0"]
@[reducible] def AppendReflected_named : List (String × Val) := []
def AppendReflected : Fun := { params := AppendReflected_params, named := AppendReflected_named, body := AppendReflected_body }

/-- zapcore/json_encoder.go: func (jsonEncoder) AddReflected
    p0 = key string
    p1 = obj opt:Any
    l0 = valueBytes bytes
    l1 = err error
    field #ev ↦ ev []Event
    field EncoderConfig ↦ cfg opt:Config
    field NewReflectedEncoder ↦ newRefl ReflCtor
    field buf ↦ buf Buffer
    field openNamespaces ↦ openNs int
    field reflectBuf ↦ rbuf opt:Buffer
    field reflectEnc ↦ renc opt:ReflEnc
    field spaced ↦ spaced bool
    receiver value ↦ self JE
-/
def AddReflected_body : Stmt :=
  (.seq (.call [(.loc "l0"), (.loc "l1")] "encodeReflected" [(.loc "p1")])
  (.seq (.ite (.bin .ne (.len (.loc "l1")) (.lit (.int 0)))
      (.ret [(.loc "l1")])
      .skip)
  (.seq (.callX [(.fld "buf")] "addKey" [(.fld "buf"), (.fld "spaced"), (.loc "p0")])
  (.seq (.callX [(.fld "buf"), .blank, (.loc "l1")] "Buffer.Write" [(.fld "buf"), (.loc "l0")])
  (.ret [(.loc "l1")])))))

@[reducible] def AddReflected_params : List String := ["p0", "p1"]
@[reducible] def AddReflected_named : List (String × Val) := []
def AddReflected : Fun := { params := AddReflected_params, named := AddReflected_named, body := AddReflected_body }

/-- zapcore/json_encoder.go: func (jsonEncoder) truncate
    field #ev ↦ ev []Event
    field EncoderConfig ↦ cfg opt:Config
    field NewReflectedEncoder ↦ newRefl ReflCtor
    field buf ↦ buf Buffer
    field openNamespaces ↦ openNs int
    field reflectBuf ↦ rbuf opt:Buffer
    field reflectEnc ↦ renc opt:ReflEnc
    field spaced ↦ spaced bool
    receiver value ↦ self JE
-/
def truncate_body : Stmt :=
  (.assign [(.fld "buf")] [(.lit (.bytes []))])

@[reducible] def truncate_params : List String := []
@[reducible] def truncate_named : List (String × Val) := []
def truncate : Fun := { params := truncate_params, named := truncate_named, body := truncate_body }

/-- zapcore/json_encoder.go: func (jsonEncoder) clone
    clone = the SECOND object (from _jsonPool.Get())
    field #ev ↦ ev []Event
    field EncoderConfig ↦ cfg opt:Config
    field NewReflectedEncoder ↦ newRefl ReflCtor
    field buf ↦ buf Buffer
    field openNamespaces ↦ openNs int
    field reflectBuf ↦ rbuf opt:Buffer
    field reflectEnc ↦ renc opt:ReflEnc
    field spaced ↦ spaced bool
    receiver value ↦ self JE
-/
def clone_body : Stmt :=
  (.seq (.seq (.assign [(.fld "ev")] [(.call "append" [(.fld "ev"), (.call "tuple" [(.lit (.bytes [106, 115, 111, 110, 80, 111, 111, 108, 46, 71, 101, 116]) /- jsonPool.Get -/)])])])
    (.callX [] "jsonPool.Get" []))
  (.seq (.assign [(.fld "o.cfg")] [(.fld "cfg")])
  (.seq (.assign [(.fld "o.spaced")] [(.fld "spaced")])
  (.seq (.assign [(.fld "o.openNs")] [(.fld "openNs")])
  (.seq (.seq (.assign [(.fld "ev")] [(.call "append" [(.fld "ev"), (.call "tuple" [(.lit (.bytes [98, 117, 102, 102, 101, 114, 112, 111, 111, 108, 46, 71, 101, 116]) /- bufferpool.Get -/)])])])
    (.callX [(.fld "o.buf")] "bufferpool.Get" []))
  (.ret [(.fld "o.self")]))))))

@[reducible] def clone_params : List String := []
@[reducible] def clone_named : List (String × Val) := []
def clone : Fun := { params := clone_params, named := clone_named, body := clone_body }

/-- zapcore/json_encoder.go: func (jsonEncoder) Clone
    clone = the SECOND object, filled by the translated clone
    field #ev ↦ ev []Event
    field EncoderConfig ↦ cfg opt:Config
    field NewReflectedEncoder ↦ newRefl ReflCtor
    field buf ↦ buf Buffer
    field openNamespaces ↦ openNs int
    field reflectBuf ↦ rbuf opt:Buffer
    field reflectEnc ↦ renc opt:ReflEnc
    field spaced ↦ spaced bool
    receiver value ↦ self JE
-/
def Clone_body : Stmt :=
  (.seq (.call [.blank] "clone" [])
  (.seq (.callX [(.fld "o.buf"), .blank, .blank] "Buffer.Write" [(.fld "o.buf"), (.fld "buf")])
  (.ret [(.fld "o.self")])))

@[reducible] def Clone_params : List String := []
@[reducible] def Clone_named : List (String × Val) := []
def Clone : Fun := { params := Clone_params, named := Clone_named, body := Clone_body }

/-- zapcore/json_encoder.go: func putJSONEncoder
    enc = THE object of the field environment (parameter)
    field #ev ↦ ev []Event
    field EncoderConfig ↦ cfg opt:Config
    field NewReflectedEncoder ↦ newRefl ReflCtor
    field buf ↦ buf opt:Buffer
    field openNamespaces ↦ openNs int
    field reflectBuf ↦ rbuf opt:Buffer
    field reflectEnc ↦ renc opt:ReflEnc
    field spaced ↦ spaced bool
    receiver value ↦ self JE
-/
def putJSONEncoder_body : Stmt :=
  (.seq (.ite (.bin .ne (.len (.fld "rbuf")) (.lit (.int 0)))
      (.seq (.assign [(.fld "ev")] [(.call "append" [(.fld "ev"), (.call "tuple" [(.lit (.bytes [66, 117, 102, 102, 101, 114, 46, 70, 114, 101, 101]) /- Buffer.Free -/), (.fld "rbuf")])])])
      (.callX [] "Buffer.Free" [(.fld "rbuf")]))
      .skip)
  (.seq (.assign [(.fld "cfg")] [(.lit (.list []))])
  (.seq (.assign [(.fld "buf")] [(.lit (.list []))])
  (.seq (.assign [(.fld "spaced")] [(.lit (.bool false))])
  (.seq (.assign [(.fld "openNs")] [(.lit (.int 0))])
  (.seq (.assign [(.fld "rbuf")] [(.lit (.list []))])
  (.seq (.assign [(.fld "renc")] [(.lit (.list []))])
  (.seq (.assign [(.fld "ev")] [(.call "append" [(.fld "ev"), (.call "tuple" [(.lit (.bytes [106, 115, 111, 110, 80, 111, 111, 108, 46, 80, 117, 116]) /- jsonPool.Put -/), (.fld "self")])])])
  (.callX [] "jsonPool.Put" [(.fld "self")])))))))))

@[reducible] def putJSONEncoder_params : List String := []
@[reducible] def putJSONEncoder_named : List (String × Val) := []
def putJSONEncoder : Fun := { params := putJSONEncoder_params, named := putJSONEncoder_named, body := putJSONEncoder_body }

/-- zapcore/json_encoder.go: func (jsonEncoder) EncodeEntry
    p0 = ent struct:Entry
    p1 = fields []Field
    final = the PRIMARY object from here on (made by jsonEncoder.clone); enc = the second object
    l0 = cur int
    l1 = cur int
    l2 = nameEncoder opt:NameEncoder
    l3 = cur int
    l4 = ret Buffer
    field #ev ↦ ev []Event
    field CallerKey ↦ callerKey string
    field EncodeCaller ↦ encCaller opt:CallerEncoder
    field EncodeLevel ↦ encLevel opt:LevelEncoder
    field EncodeName ↦ encName opt:NameEncoder
    field EncodeTime ↦ encTime opt:TimeEncoder
    field EncoderConfig ↦ cfg opt:Config
    field FunctionKey ↦ functionKey string
    field LevelKey ↦ levelKey string
    field LineEnding ↦ lineEnding string
    field MessageKey ↦ messageKey string
    field NameKey ↦ nameKey string
    field NewReflectedEncoder ↦ newRefl ReflCtor
    field StacktraceKey ↦ stacktraceKey string
    field TimeKey ↦ timeKey string
    field buf ↦ buf Buffer
    field openNamespaces ↦ openNs int
    field reflectBuf ↦ rbuf opt:Buffer
    field reflectEnc ↦ renc opt:ReflEnc
    field spaced ↦ spaced bool
    receiver value ↦ self JE
-/
def EncodeEntry_body : Stmt :=
  (.seq (.seq (.assign [(.fld "ev")] [(.call "append" [(.fld "ev"), (.call "tuple" [(.lit (.bytes [106, 115, 111, 110, 69, 110, 99, 111, 100, 101, 114, 46, 99, 108, 111, 110, 101]) /- jsonEncoder.clone -/), (.fld "o.spaced"), (.fld "o.openNs")])])])
    (.callX [(.fld "buf"), (.fld "spaced"), (.fld "openNs"), (.fld "rbuf"), (.fld "renc")] "jsonEncoder.clone" [(.fld "o.spaced"), (.fld "o.openNs")]))
  (.seq (.assign [(.fld "buf")] [(.call "append" [(.fld "buf"), (.lit (.int 123))])])
  (.seq (.ite (.and (.bin .ne (.fld "levelKey") (.lit (.bytes []))) (.bin .ne (.len (.fld "encLevel")) (.lit (.int 0))))
      (.seq (.callX [(.fld "buf")] "addKey" [(.fld "buf"), (.fld "spaced"), (.fld "levelKey")])
      (.seq (.assign [(.loc "l0")] [(.len (.fld "buf"))])
      (.seq (.callX [(.fld "buf")] "LevelEncoder" [(.fld "buf"), (.fld "spaced"), (.fld "encLevel"), (.index (.loc "p0") (.lit (.int 0))), (.fld "self")])
      (.ite (.bin .eq (.loc "l0") (.len (.fld "buf")))
        (.callX [(.fld "buf")] "AppendString" [(.fld "buf"), (.fld "spaced"), (.call "Level.String" [(.index (.loc "p0") (.lit (.int 0)))])])
        .skip))))
      .skip)
  (.seq (.ite (.and (.bin .ne (.fld "timeKey") (.lit (.bytes []))) (.un .not (.call "Time.IsZero" [(.index (.loc "p0") (.lit (.int 1)))])))
      (.callX [(.fld "buf")] "AddTime" [(.fld "buf"), (.fld "spaced"), (.fld "encTime"), (.fld "timeKey"), (.index (.loc "p0") (.lit (.int 1)))])
      .skip)
  (.seq (.ite (.and (.bin .ne (.index (.loc "p0") (.lit (.int 2))) (.lit (.bytes []))) (.bin .ne (.fld "nameKey") (.lit (.bytes []))))
      (.seq (.callX [(.fld "buf")] "addKey" [(.fld "buf"), (.fld "spaced"), (.fld "nameKey")])
      (.seq (.assign [(.loc "l1")] [(.len (.fld "buf"))])
      (.seq (.assign [(.loc "l2")] [(.fld "encName")])
      (.seq (.ite (.bin .eq (.len (.loc "l2")) (.lit (.int 0)))
          (.assign [(.loc "l2")] [(.lit (.list [.int 0]))])
          .skip)
      (.seq (.callX [(.fld "buf")] "NameEncoder" [(.fld "buf"), (.loc "l2"), (.index (.loc "p0") (.lit (.int 2))), (.fld "self")])
      (.ite (.bin .eq (.loc "l1") (.len (.fld "buf")))
        (.callX [(.fld "buf")] "AppendString" [(.fld "buf"), (.fld "spaced"), (.index (.loc "p0") (.lit (.int 2)))])
        .skip))))))
      .skip)
  (.seq (.ite (.index (.index (.loc "p0") (.lit (.int 4))) (.lit (.int 0)))
      (.seq (.ite (.and (.bin .ne (.fld "callerKey") (.lit (.bytes []))) (.bin .ne (.len (.fld "encCaller")) (.lit (.int 0))))
          (.seq (.callX [(.fld "buf")] "addKey" [(.fld "buf"), (.fld "spaced"), (.fld "callerKey")])
          (.seq (.assign [(.loc "l3")] [(.len (.fld "buf"))])
          (.seq (.callX [(.fld "buf")] "CallerEncoder" [(.fld "buf"), (.fld "spaced"), (.fld "encCaller"), (.index (.loc "p0") (.lit (.int 4))), (.fld "self")])
          (.ite (.bin .eq (.loc "l3") (.len (.fld "buf")))
            (.callX [(.fld "buf")] "AppendString" [(.fld "buf"), (.fld "spaced"), (.call "EntryCaller.String" [(.index (.loc "p0") (.lit (.int 4)))])])
            .skip))))
          .skip)
      (.ite (.bin .ne (.fld "functionKey") (.lit (.bytes [])))
        (.seq (.callX [(.fld "buf")] "addKey" [(.fld "buf"), (.fld "spaced"), (.fld "functionKey")])
        (.callX [(.fld "buf")] "AppendString" [(.fld "buf"), (.fld "spaced"), (.index (.index (.loc "p0") (.lit (.int 4))) (.lit (.int 1)))]))
        .skip))
      .skip)
  (.seq (.ite (.bin .ne (.fld "messageKey") (.lit (.bytes [])))
      (.seq (.callX [(.fld "buf")] "addKey" [(.fld "buf"), (.fld "spaced"), (.fld "messageKey")])
      (.callX [(.fld "buf")] "AppendString" [(.fld "buf"), (.fld "spaced"), (.index (.loc "p0") (.lit (.int 3)))]))
      .skip)
  (.seq (.ite (.bin .gt (.len (.fld "o.buf")) (.lit (.int 0)))
      (.seq (.callX [(.fld "buf")] "addElementSeparator" [(.fld "buf"), (.fld "spaced")])
      (.assign [(.fld "buf")] [(.call "append..." [(.fld "buf"), (.fld "o.buf")])]))
      .skip)
  (.seq (.callX [(.fld "buf"), (.fld "openNs"), (.fld "rbuf"), (.fld "renc")] "addFields" [(.fld "buf"), (.fld "openNs"), (.fld "rbuf"), (.fld "renc"), (.fld "spaced"), (.fld "self"), (.loc "p1")])
  (.seq (.callX [(.fld "buf"), (.fld "openNs")] "closeOpenNamespaces" [(.fld "buf"), (.fld "openNs")])
  (.seq (.ite (.and (.bin .ne (.index (.loc "p0") (.lit (.int 5))) (.lit (.bytes []))) (.bin .ne (.fld "stacktraceKey") (.lit (.bytes []))))
      (.callX [(.fld "buf")] "AddString" [(.fld "buf"), (.fld "spaced"), (.fld "stacktraceKey"), (.index (.loc "p0") (.lit (.int 5)))])
      .skip)
  (.seq (.assign [(.fld "buf")] [(.call "append" [(.fld "buf"), (.lit (.int 125))])])
  (.seq (.assign [(.fld "buf")] [(.call "append..." [(.fld "buf"), (.fld "lineEnding")])])
  (.seq (.assign [(.loc "l4")] [(.fld "buf")])
  (.seq (.seq (.assign [(.fld "ev")] [(.call "append" [(.fld "ev"), (.call "tuple" [(.lit (.bytes [112, 117, 116, 74, 83, 79, 78, 69, 110, 99, 111, 100, 101, 114]) /- putJSONEncoder -/), (.fld "rbuf"), (.fld "self")])])])
    (.callX [] "putJSONEncoder" [(.fld "rbuf"), (.fld "self")]))
  (.ret [(.loc "l4"), (.lit (.list []))]))))))))))))))))

@[reducible] def EncodeEntry_params : List String := ["p0", "p1"]
@[reducible] def EncodeEntry_named : List (String × Val) := []
def EncodeEntry : Fun := { params := EncodeEntry_params, named := EncodeEntry_named, body := EncodeEntry_body }

/-- the translated functions of this table by name -/
def funs : String → Option Fun
  | "AppendObject" => some AppendObject
  | "AppendArray" => some AppendArray
  | "AddObject" => some AddObject
  | "AddArray" => some AddArray
  | "OpenNamespace" => some OpenNamespace
  | "resetReflectBuf" => some resetReflectBuf
  | "encodeReflected" => some encodeReflected
  | "AppendReflected" => some AppendReflected
  | "AddReflected" => some AddReflected
  | "truncate" => some truncate
  | "clone" => some clone
  | "Clone" => some Clone
  | "putJSONEncoder" => some putJSONEncoder
  | "EncodeEntry" => some EncodeEntry
  | _ => none

/-- the table entry by entry: the defining equations of `funs` -/
theorem funs_table :
    funs "AppendObject" = some AppendObject ∧
    funs "AppendArray" = some AppendArray ∧
    funs "AddObject" = some AddObject ∧
    funs "AddArray" = some AddArray ∧
    funs "OpenNamespace" = some OpenNamespace ∧
    funs "resetReflectBuf" = some resetReflectBuf ∧
    funs "encodeReflected" = some encodeReflected ∧
    funs "AppendReflected" = some AppendReflected ∧
    funs "AddReflected" = some AddReflected ∧
    funs "truncate" = some truncate ∧
    funs "clone" = some clone ∧
    funs "Clone" = some Clone ∧
    funs "putJSONEncoder" = some putJSONEncoder ∧
    funs "EncodeEntry" = some EncodeEntry :=
  ⟨funs.eq_1, funs.eq_2, funs.eq_3, funs.eq_4, funs.eq_5, funs.eq_6, funs.eq_7, funs.eq_8, funs.eq_9, funs.eq_10, funs.eq_11, funs.eq_12, funs.eq_13, funs.eq_14⟩

/-! lookup facts for symbolic execution (`funs_f` is entry f of `funs_table`) -/
@[simp] theorem funs_AppendObject : funs "AppendObject" = some AppendObject := funs_table.1
@[simp] theorem AppendObject_params_eq : AppendObject.params = AppendObject_params := rfl
@[simp] theorem AppendObject_named_eq : AppendObject.named = AppendObject_named := rfl
@[simp] theorem AppendObject_body_eq : AppendObject.body = AppendObject_body := rfl
@[simp] theorem funs_AppendArray : funs "AppendArray" = some AppendArray := funs_table.2.1
@[simp] theorem AppendArray_params_eq : AppendArray.params = AppendArray_params := rfl
@[simp] theorem AppendArray_named_eq : AppendArray.named = AppendArray_named := rfl
@[simp] theorem AppendArray_body_eq : AppendArray.body = AppendArray_body := rfl
@[simp] theorem funs_AddObject : funs "AddObject" = some AddObject := funs_table.2.2.1
@[simp] theorem AddObject_params_eq : AddObject.params = AddObject_params := rfl
@[simp] theorem AddObject_named_eq : AddObject.named = AddObject_named := rfl
@[simp] theorem AddObject_body_eq : AddObject.body = AddObject_body := rfl
@[simp] theorem funs_AddArray : funs "AddArray" = some AddArray := funs_table.2.2.2.1
@[simp] theorem AddArray_params_eq : AddArray.params = AddArray_params := rfl
@[simp] theorem AddArray_named_eq : AddArray.named = AddArray_named := rfl
@[simp] theorem AddArray_body_eq : AddArray.body = AddArray_body := rfl
@[simp] theorem funs_OpenNamespace : funs "OpenNamespace" = some OpenNamespace := funs_table.2.2.2.2.1
@[simp] theorem OpenNamespace_params_eq : OpenNamespace.params = OpenNamespace_params := rfl
@[simp] theorem OpenNamespace_named_eq : OpenNamespace.named = OpenNamespace_named := rfl
@[simp] theorem OpenNamespace_body_eq : OpenNamespace.body = OpenNamespace_body := rfl
@[simp] theorem funs_resetReflectBuf : funs "resetReflectBuf" = some resetReflectBuf := funs_table.2.2.2.2.2.1
@[simp] theorem resetReflectBuf_params_eq : resetReflectBuf.params = resetReflectBuf_params := rfl
@[simp] theorem resetReflectBuf_named_eq : resetReflectBuf.named = resetReflectBuf_named := rfl
@[simp] theorem resetReflectBuf_body_eq : resetReflectBuf.body = resetReflectBuf_body := rfl
@[simp] theorem funs_encodeReflected : funs "encodeReflected" = some encodeReflected := funs_table.2.2.2.2.2.2.1
@[simp] theorem encodeReflected_params_eq : encodeReflected.params = encodeReflected_params := rfl
@[simp] theorem encodeReflected_named_eq : encodeReflected.named = encodeReflected_named := rfl
@[simp] theorem encodeReflected_body_eq : encodeReflected.body = encodeReflected_body := rfl
@[simp] theorem funs_AppendReflected : funs "AppendReflected" = some AppendReflected := funs_table.2.2.2.2.2.2.2.1
@[simp] theorem AppendReflected_params_eq : AppendReflected.params = AppendReflected_params := rfl
@[simp] theorem AppendReflected_named_eq : AppendReflected.named = AppendReflected_named := rfl
@[simp] theorem AppendReflected_body_eq : AppendReflected.body = AppendReflected_body := rfl
@[simp] theorem funs_AddReflected : funs "AddReflected" = some AddReflected := funs_table.2.2.2.2.2.2.2.2.1
@[simp] theorem AddReflected_params_eq : AddReflected.params = AddReflected_params := rfl
@[simp] theorem AddReflected_named_eq : AddReflected.named = AddReflected_named := rfl
@[simp] theorem AddReflected_body_eq : AddReflected.body = AddReflected_body := rfl
@[simp] theorem funs_truncate : funs "truncate" = some truncate := funs_table.2.2.2.2.2.2.2.2.2.1
@[simp] theorem truncate_params_eq : truncate.params = truncate_params := rfl
@[simp] theorem truncate_named_eq : truncate.named = truncate_named := rfl
@[simp] theorem truncate_body_eq : truncate.body = truncate_body := rfl
@[simp] theorem funs_clone : funs "clone" = some clone := funs_table.2.2.2.2.2.2.2.2.2.2.1
@[simp] theorem clone_params_eq : clone.params = clone_params := rfl
@[simp] theorem clone_named_eq : clone.named = clone_named := rfl
@[simp] theorem clone_body_eq : clone.body = clone_body := rfl
@[simp] theorem funs_Clone : funs "Clone" = some Clone := funs_table.2.2.2.2.2.2.2.2.2.2.2.1
@[simp] theorem Clone_params_eq : Clone.params = Clone_params := rfl
@[simp] theorem Clone_named_eq : Clone.named = Clone_named := rfl
@[simp] theorem Clone_body_eq : Clone.body = Clone_body := rfl
@[simp] theorem funs_putJSONEncoder : funs "putJSONEncoder" = some putJSONEncoder := funs_table.2.2.2.2.2.2.2.2.2.2.2.2.1
@[simp] theorem putJSONEncoder_params_eq : putJSONEncoder.params = putJSONEncoder_params := rfl
@[simp] theorem putJSONEncoder_named_eq : putJSONEncoder.named = putJSONEncoder_named := rfl
@[simp] theorem putJSONEncoder_body_eq : putJSONEncoder.body = putJSONEncoder_body := rfl
@[simp] theorem funs_EncodeEntry : funs "EncodeEntry" = some EncodeEntry := funs_table.2.2.2.2.2.2.2.2.2.2.2.2.2
@[simp] theorem EncodeEntry_params_eq : EncodeEntry.params = EncodeEntry_params := rfl
@[simp] theorem EncodeEntry_named_eq : EncodeEntry.named = EncodeEntry_named := rfl
@[simp] theorem EncodeEntry_body_eq : EncodeEntry.body = EncodeEntry_body := rfl

end ZapVerif.Gen.TransJsonEnc
