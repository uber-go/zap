/- GENERATED by zvgen from /repo — do not edit; regenerated on every check run. -/
import ZapVerif.Model.GoMini
/-! Mechanical translation (gen/trans.go) of whitelisted Go functions to GoMini terms. -/
namespace ZapVerif.Gen.TransZio
open ZapVerif.GoMini

/-- zapio/writer.go: func (Writer) flush
    p0 = allowEmpty bool
    field #out ↦ out []Msg
    field Level ↦ level i8
    field buff ↦ buff BytesBuffer
-/
def flush_body : Stmt :=
  (.seq (.ite (.or (.loc "p0") (.bin .gt (.len (.fld "buff")) (.lit (.int 0))))
      (.callX [(.fld "out")] "log" [(.fld "out"), (.fld "buff")])
      .skip)
  (.assign [(.fld "buff")] [(.lit (.bytes []))]))

@[reducible] def flush_params : List String := ["p0"]
@[reducible] def flush_named : List (String × Val) := []
def flush : Fun := { params := flush_params, named := flush_named, body := flush_body }

/-- zapio/writer.go: func (Writer) writeLine
    p0 = line bytes
    r0 = remaining bytes (named result)
    l0 = idx int
    field #out ↦ out []Msg
    field Level ↦ level i8
    field buff ↦ buff BytesBuffer
-/
def writeLine_body : Stmt :=
  (.seq (.assign [(.loc "l0")] [(.call "bytes.IndexByte" [(.loc "p0"), (.lit (.int 10))])])
  (.seq (.ite (.bin .lt (.loc "l0") (.lit (.int 0)))
      (.seq (.assign [(.fld "buff")] [(.call "append..." [(.fld "buff"), (.loc "p0")])])
      (.ret [(.lit (.bytes []))]))
      .skip)
  (.seq (.assign [(.loc "p0"), (.loc "r0")] [(.slice (.loc "p0") none (some (.loc "l0"))), (.slice (.loc "p0") (some (.bin (.add .int) (.loc "l0") (.lit (.int 1)))) none)])
  (.seq (.ite (.bin .eq (.len (.fld "buff")) (.lit (.int 0)))
      (.seq (.callX [(.fld "out")] "log" [(.fld "out"), (.loc "p0")])
      (.ret [(.loc "r0")]))
      .skip)
  (.seq (.assign [(.fld "buff")] [(.call "append..." [(.fld "buff"), (.loc "p0")])])
  (.seq (.call [] "flush" [(.lit (.bool true))])
  (.ret [(.loc "r0")])))))))

@[reducible] def writeLine_params : List String := ["p0"]
@[reducible] def writeLine_named : List (String × Val) := [("r0", .bytes [])]
def writeLine : Fun := { params := writeLine_params, named := writeLine_named, body := writeLine_body }

/-- zapio/writer.go: func (Writer) Write
    p0 = bs bytes
    r0 = n int (named result)
    r1 = err error (named result)
    field #out ↦ out []Msg
    field Level ↦ level i8
    field buff ↦ buff BytesBuffer
-/
def Write_loop0 : Stmt :=
  (.loop (.bin .gt (.len (.loc "p0")) (.lit (.int 0)))
    .skip
    (.call [(.loc "p0")] "writeLine" [(.loc "p0")]))

def Write_body : Stmt :=
  (.seq (.ite (.un .not (.call "Enabled" [(.fld "level")]))
      (.ret [(.len (.loc "p0")), (.lit (.list []))])
      .skip)
  (.seq (.assign [(.loc "r0")] [(.len (.loc "p0"))])
  (.seq Write_loop0
  (.ret [(.loc "r0"), (.lit (.list []))]))))

@[reducible] def Write_params : List String := ["p0"]
@[reducible] def Write_named : List (String × Val) := [("r0", .int 0), ("r1", .list [])]
def Write : Fun := { params := Write_params, named := Write_named, body := Write_body }

/-- zapio/writer.go: func (Writer) Sync
    field #out ↦ out []Msg
    field Level ↦ level i8
    field buff ↦ buff BytesBuffer
-/
def Sync_body : Stmt :=
  (.seq (.call [] "flush" [(.lit (.bool false))])
  (.ret [(.lit (.list []))]))

@[reducible] def Sync_params : List String := []
@[reducible] def Sync_named : List (String × Val) := []
def Sync : Fun := { params := Sync_params, named := Sync_named, body := Sync_body }

/-- the translated functions of this table by name -/
def funs : String → Option Fun
  | "flush" => some flush
  | "writeLine" => some writeLine
  | "Write" => some Write
  | "Sync" => some Sync
  | _ => none

/-- the table entry by entry: the defining equations of `funs` -/
theorem funs_table :
    funs "flush" = some flush ∧
    funs "writeLine" = some writeLine ∧
    funs "Write" = some Write ∧
    funs "Sync" = some Sync :=
  ⟨funs.eq_1, funs.eq_2, funs.eq_3, funs.eq_4⟩

/-! lookup facts for symbolic execution (`funs_f` is entry f of `funs_table`) -/
@[simp] theorem funs_flush : funs "flush" = some flush := funs_table.1
@[simp] theorem flush_params_eq : flush.params = flush_params := rfl
@[simp] theorem flush_named_eq : flush.named = flush_named := rfl
@[simp] theorem flush_body_eq : flush.body = flush_body := rfl
@[simp] theorem funs_writeLine : funs "writeLine" = some writeLine := funs_table.2.1
@[simp] theorem writeLine_params_eq : writeLine.params = writeLine_params := rfl
@[simp] theorem writeLine_named_eq : writeLine.named = writeLine_named := rfl
@[simp] theorem writeLine_body_eq : writeLine.body = writeLine_body := rfl
@[simp] theorem funs_Write : funs "Write" = some Write := funs_table.2.2.1
@[simp] theorem Write_params_eq : Write.params = Write_params := rfl
@[simp] theorem Write_named_eq : Write.named = Write_named := rfl
@[simp] theorem Write_body_eq : Write.body = Write_body := rfl
@[simp] theorem funs_Sync : funs "Sync" = some Sync := funs_table.2.2.2
@[simp] theorem Sync_params_eq : Sync.params = Sync_params := rfl
@[simp] theorem Sync_named_eq : Sync.named = Sync_named := rfl
@[simp] theorem Sync_body_eq : Sync.body = Sync_body := rfl

end ZapVerif.Gen.TransZio
