/- GENERATED by zvgen from /repo — do not edit; regenerated on every check run. -/
import ZapVerif.Model.GoMini
/-! Mechanical translation (gen/trans.go) of whitelisted Go functions to GoMini terms. -/
namespace ZapVerif.Gen.TransMessage
open ZapVerif.GoMini

/-- sugar.go: func getMessage
    p0 = template string
    p1 = fmtArgs []Any
    l0 = str string
    l1 = ok bool
    field #ev ↦ ev []Event
    field base ↦ base Logger
-/
def getMessage_body : Stmt :=
  (.seq (.ite (.bin .eq (.len (.loc "p1")) (.lit (.int 0)))
      (.ret [(.loc "p0")])
      .skip)
  (.seq (.ite (.bin .ne (.loc "p0") (.lit (.bytes [])))
      (.ret [(.call "fmt.Sprintf" [(.loc "p0"), (.loc "p1")])])
      .skip)
  (.seq (.ite (.bin .eq (.len (.loc "p1")) (.lit (.int 1)))
      (.seq (.callX [(.loc "l0"), (.loc "l1")] "assert.string" [(.index (.loc "p1") (.lit (.int 0)))])
      (.ite (.loc "l1")
        (.ret [(.loc "l0")])
        .skip))
      .skip)
  (.ret [(.call "fmt.Sprint" [(.loc "p1")])]))))

@[reducible] def getMessage_params : List String := ["p0", "p1"]
@[reducible] def getMessage_named : List (String × Val) := []
def getMessage : Fun := { params := getMessage_params, named := getMessage_named, body := getMessage_body }

/-- sugar.go: func getMessageln
    p0 = fmtArgs []Any
    l0 = msg string
    field #ev ↦ ev []Event
    field base ↦ base Logger
-/
def getMessageln_body : Stmt :=
  (.seq (.assign [(.loc "l0")] [(.call "fmt.Sprintln" [(.loc "p0")])])
  (.ret [(.slice (.loc "l0") none (some (.bin (.sub .int) (.len (.loc "l0")) (.lit (.int 1)))))]))

@[reducible] def getMessageln_params : List String := ["p0"]
@[reducible] def getMessageln_named : List (String × Val) := []
def getMessageln : Fun := { params := getMessageln_params, named := getMessageln_named, body := getMessageln_body }

/-- sugar.go: func (SugaredLogger) log
    p0 = lvl i8
    p1 = template string
    p2 = fmtArgs []Any
    p3 = context []Any
    l0 = msg string
    l1 = ce opt:CE
    l2 = (value of s.sweetenFields(…) inside an expression) []Field
    field #ev ↦ ev []Event
    field base ↦ base Logger
-/
def Sugar_log_body : Stmt :=
  (.seq (.ite (.and (.bin .lt (.loc "p0") (.lit (.int 3))) (.un .not (.call "Core.Enabled" [(.loc "p0")])))
      (.ret [])
      .skip)
  (.seq (.call [(.loc "l0")] "getMessage" [(.loc "p1"), (.loc "p2")])
  (.seq (.seq (.assign [(.fld "ev")] [(.call "append" [(.fld "ev"), (.call "tuple" [(.lit (.bytes [76, 111, 103, 103, 101, 114, 46, 67, 104, 101, 99, 107]) /- Logger.Check -/), (.fld "base"), (.loc "p0"), (.loc "l0")])])])
    (.callX [(.loc "l1")] "Logger.Check" [(.fld "base"), (.loc "p0"), (.loc "l0")]))
  (.ite (.bin .ne (.len (.loc "l1")) (.lit (.int 0)))
    (.seq (.seq (.assign [(.fld "ev")] [(.call "append" [(.fld "ev"), (.call "tuple" [(.lit (.bytes [83, 117, 103, 97, 114, 46, 115, 119, 101, 101, 116, 101, 110, 70, 105, 101, 108, 100, 115]) /- Sugar.sweetenFields -/), (.loc "p3"), (.lit (.int 1))])])])
      (.callX [(.loc "l2")] "Sugar.sweetenFields" [(.loc "p3"), (.lit (.int 1))]))
    (.seq (.assign [(.fld "ev")] [(.call "append" [(.fld "ev"), (.call "tuple" [(.lit (.bytes [67, 69, 46, 87, 114, 105, 116, 101]) /- CE.Write -/), (.loc "l1"), (.loc "l2")])])])
    (.callX [] "CE.Write" [(.loc "l1"), (.loc "l2")])))
    .skip))))

@[reducible] def Sugar_log_params : List String := ["p0", "p1", "p2", "p3"]
@[reducible] def Sugar_log_named : List (String × Val) := []
def Sugar_log : Fun := { params := Sugar_log_params, named := Sugar_log_named, body := Sugar_log_body }

/-- sugar.go: func (SugaredLogger) logln
    p0 = lvl i8
    p1 = fmtArgs []Any
    p2 = context []Any
    l0 = msg string
    l1 = ce opt:CE
    l2 = (value of s.sweetenFields(…) inside an expression) []Field
    field #ev ↦ ev []Event
    field base ↦ base Logger
-/
def Sugar_logln_body : Stmt :=
  (.seq (.ite (.and (.bin .lt (.loc "p0") (.lit (.int 3))) (.un .not (.call "Core.Enabled" [(.loc "p0")])))
      (.ret [])
      .skip)
  (.seq (.call [(.loc "l0")] "getMessageln" [(.loc "p1")])
  (.seq (.seq (.assign [(.fld "ev")] [(.call "append" [(.fld "ev"), (.call "tuple" [(.lit (.bytes [76, 111, 103, 103, 101, 114, 46, 67, 104, 101, 99, 107]) /- Logger.Check -/), (.fld "base"), (.loc "p0"), (.loc "l0")])])])
    (.callX [(.loc "l1")] "Logger.Check" [(.fld "base"), (.loc "p0"), (.loc "l0")]))
  (.ite (.bin .ne (.len (.loc "l1")) (.lit (.int 0)))
    (.seq (.seq (.assign [(.fld "ev")] [(.call "append" [(.fld "ev"), (.call "tuple" [(.lit (.bytes [83, 117, 103, 97, 114, 46, 115, 119, 101, 101, 116, 101, 110, 70, 105, 101, 108, 100, 115]) /- Sugar.sweetenFields -/), (.loc "p2"), (.lit (.int 1))])])])
      (.callX [(.loc "l2")] "Sugar.sweetenFields" [(.loc "p2"), (.lit (.int 1))]))
    (.seq (.assign [(.fld "ev")] [(.call "append" [(.fld "ev"), (.call "tuple" [(.lit (.bytes [67, 69, 46, 87, 114, 105, 116, 101]) /- CE.Write -/), (.loc "l1"), (.loc "l2")])])])
    (.callX [] "CE.Write" [(.loc "l1"), (.loc "l2")])))
    .skip))))

@[reducible] def Sugar_logln_params : List String := ["p0", "p1", "p2"]
@[reducible] def Sugar_logln_named : List (String × Val) := []
def Sugar_logln : Fun := { params := Sugar_logln_params, named := Sugar_logln_named, body := Sugar_logln_body }

/-- the translated functions of this table by name -/
def funs : String → Option Fun
  | "getMessage" => some getMessage
  | "getMessageln" => some getMessageln
  | "Sugar_log" => some Sugar_log
  | "Sugar_logln" => some Sugar_logln
  | _ => none

/-- the table entry by entry: the defining equations of `funs` -/
theorem funs_table :
    funs "getMessage" = some getMessage ∧
    funs "getMessageln" = some getMessageln ∧
    funs "Sugar_log" = some Sugar_log ∧
    funs "Sugar_logln" = some Sugar_logln :=
  ⟨funs.eq_1, funs.eq_2, funs.eq_3, funs.eq_4⟩

/-! lookup facts for symbolic execution (`funs_f` is entry f of `funs_table`) -/
@[simp] theorem funs_getMessage : funs "getMessage" = some getMessage := funs_table.1
@[simp] theorem getMessage_params_eq : getMessage.params = getMessage_params := rfl
@[simp] theorem getMessage_named_eq : getMessage.named = getMessage_named := rfl
@[simp] theorem getMessage_body_eq : getMessage.body = getMessage_body := rfl
@[simp] theorem funs_getMessageln : funs "getMessageln" = some getMessageln := funs_table.2.1
@[simp] theorem getMessageln_params_eq : getMessageln.params = getMessageln_params := rfl
@[simp] theorem getMessageln_named_eq : getMessageln.named = getMessageln_named := rfl
@[simp] theorem getMessageln_body_eq : getMessageln.body = getMessageln_body := rfl
@[simp] theorem funs_Sugar_log : funs "Sugar_log" = some Sugar_log := funs_table.2.2.1
@[simp] theorem Sugar_log_params_eq : Sugar_log.params = Sugar_log_params := rfl
@[simp] theorem Sugar_log_named_eq : Sugar_log.named = Sugar_log_named := rfl
@[simp] theorem Sugar_log_body_eq : Sugar_log.body = Sugar_log_body := rfl
@[simp] theorem funs_Sugar_logln : funs "Sugar_logln" = some Sugar_logln := funs_table.2.2.2
@[simp] theorem Sugar_logln_params_eq : Sugar_logln.params = Sugar_logln_params := rfl
@[simp] theorem Sugar_logln_named_eq : Sugar_logln.named = Sugar_logln_named := rfl
@[simp] theorem Sugar_logln_body_eq : Sugar_logln.body = Sugar_logln_body := rfl

end ZapVerif.Gen.TransMessage
