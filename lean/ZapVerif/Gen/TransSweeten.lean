/- GENERATED by zvgen from /repo — do not edit; regenerated on every check run. -/
import ZapVerif.Model.GoMini
/-! Mechanical translation (gen/trans.go) of whitelisted Go functions to GoMini terms. -/
namespace ZapVerif.Gen.TransSweeten
open ZapVerif.GoMini

/-- sugar.go: func (SugaredLogger) sweetenFields
    p0 = args []Any
    p1 = skip int
    l0 = fields []Field
    l1 = invalid []struct:invalidPair
    l2 = seenError bool
    l3 = i int
    l4 = f Field
    l5 = ok bool
    l6 = err ErrVal
    l7 = ok bool
    l8 = key Any
    l9 = val Any
    l10 = keyStr string
    l11 = ok bool
    field #ev ↦ ev []Event
-/
def sweetenFields_loop0 : Stmt :=
  (.loop (.bin .lt (.loc "l3") (.len (.loc "p0")))
    .skip
    (.seq (.seq (.callX [(.loc "l4"), (.loc "l5")] "assert.Field" [(.index (.loc "p0") (.loc "l3"))])
      (.ite (.loc "l5")
        (.seq (.assign [(.loc "l0")] [(.call "append" [(.loc "l0"), (.loc "l4")])])
        (.seq (.assign [(.loc "l3")] [(.bin (.add .int) (.loc "l3") (.lit (.int 1)))])
        .cont))
        .skip))
    (.seq (.seq (.callX [(.loc "l6"), (.loc "l7")] "assert.error" [(.index (.loc "p0") (.loc "l3"))])
      (.ite (.loc "l7")
        (.seq (.ite (.un .not (.loc "l2"))
            (.seq (.assign [(.loc "l2")] [(.lit (.bool true))])
            (.assign [(.loc "l0")] [(.call "append" [(.loc "l0"), (.call "zap.Error" [(.loc "l6")])])]))
            (.seq (.assign [(.fld "ev")] [(.call "append" [(.fld "ev"), (.call "tuple" [(.lit (.bytes [100, 105, 97, 103, 46, 69, 114, 114, 111, 114]) /- diag.Error -/), (.lit (.bytes [77, 117, 108, 116, 105, 112, 108, 101, 32, 101, 114, 114, 111, 114, 115, 32, 119, 105, 116, 104, 111, 117, 116, 32, 97, 32, 107, 101, 121, 46])), (.call "zap.Error" [(.loc "l6")])])])])
            (.callX [] "diag.Error" [(.lit (.bytes [77, 117, 108, 116, 105, 112, 108, 101, 32, 101, 114, 114, 111, 114, 115, 32, 119, 105, 116, 104, 111, 117, 116, 32, 97, 32, 107, 101, 121, 46])), (.call "zap.Error" [(.loc "l6")])])))
        (.seq (.assign [(.loc "l3")] [(.bin (.add .int) (.loc "l3") (.lit (.int 1)))])
        .cont))
        .skip))
    (.seq (.ite (.bin .eq (.loc "l3") (.bin (.sub .int) (.len (.loc "p0")) (.lit (.int 1))))
        (.seq (.seq (.assign [(.fld "ev")] [(.call "append" [(.fld "ev"), (.call "tuple" [(.lit (.bytes [100, 105, 97, 103, 46, 69, 114, 114, 111, 114]) /- diag.Error -/), (.lit (.bytes [73, 103, 110, 111, 114, 101, 100, 32, 107, 101, 121, 32, 119, 105, 116, 104, 111, 117, 116, 32, 97, 32, 118, 97, 108, 117, 101, 46])), (.call "zap.Any" [(.lit (.bytes [105, 103, 110, 111, 114, 101, 100])), (.index (.loc "p0") (.loc "l3"))])])])])
          (.callX [] "diag.Error" [(.lit (.bytes [73, 103, 110, 111, 114, 101, 100, 32, 107, 101, 121, 32, 119, 105, 116, 104, 111, 117, 116, 32, 97, 32, 118, 97, 108, 117, 101, 46])), (.call "zap.Any" [(.lit (.bytes [105, 103, 110, 111, 114, 101, 100])), (.index (.loc "p0") (.loc "l3"))])]))
        .brk)
        .skip)
    (.seq (.assign [(.loc "l8"), (.loc "l9")] [(.index (.loc "p0") (.loc "l3")), (.index (.loc "p0") (.bin (.add .int) (.loc "l3") (.lit (.int 1))))])
    (.seq (.seq (.callX [(.loc "l10"), (.loc "l11")] "assert.string" [(.loc "l8")])
      (.ite (.un .not (.loc "l11"))
        (.seq (.ite (.bin .eq (.call "cap" [(.loc "l1")]) (.lit (.int 0)))
            (.assign [(.loc "l1")] [(.lit (.list []))])
            .skip)
        (.assign [(.loc "l1")] [(.call "append" [(.loc "l1"), (.call "tuple" [(.loc "l3"), (.loc "l8"), (.loc "l9")])])]))
        (.assign [(.loc "l0")] [(.call "append" [(.loc "l0"), (.call "zap.Any" [(.loc "l10"), (.loc "l9")])])])))
    (.assign [(.loc "l3")] [(.bin (.add .int) (.loc "l3") (.lit (.int 2)))])))))))

def sweetenFields_body : Stmt :=
  (.seq (.ite (.bin .eq (.len (.loc "p0")) (.lit (.int 0)))
      (.ret [(.lit (.list []))])
      .skip)
  (.seq (.seq (.assign [(.loc "l0")] [(.lit (.list []))])
    (.seq (.assign [(.loc "l1")] [(.lit (.list []))])
    (.assign [(.loc "l2")] [(.lit (.bool false))])))
  (.seq (.seq (.assign [(.loc "l3")] [(.lit (.int 0))])
    sweetenFields_loop0)
  (.seq (.ite (.bin .gt (.len (.loc "l1")) (.lit (.int 0)))
      (.seq (.assign [(.fld "ev")] [(.call "append" [(.fld "ev"), (.call "tuple" [(.lit (.bytes [100, 105, 97, 103, 46, 69, 114, 114, 111, 114]) /- diag.Error -/), (.lit (.bytes [73, 103, 110, 111, 114, 101, 100, 32, 107, 101, 121, 45, 118, 97, 108, 117, 101, 32, 112, 97, 105, 114, 115, 32, 119, 105, 116, 104, 32, 110, 111, 110, 45, 115, 116, 114, 105, 110, 103, 32, 107, 101, 121, 115, 46])), (.call "zap.Array" [(.lit (.bytes [105, 110, 118, 97, 108, 105, 100])), (.loc "l1")])])])])
      (.callX [] "diag.Error" [(.lit (.bytes [73, 103, 110, 111, 114, 101, 100, 32, 107, 101, 121, 45, 118, 97, 108, 117, 101, 32, 112, 97, 105, 114, 115, 32, 119, 105, 116, 104, 32, 110, 111, 110, 45, 115, 116, 114, 105, 110, 103, 32, 107, 101, 121, 115, 46])), (.call "zap.Array" [(.lit (.bytes [105, 110, 118, 97, 108, 105, 100])), (.loc "l1")])]))
      .skip)
  (.ret [(.loc "l0")])))))

@[reducible] def sweetenFields_params : List String := ["p0", "p1"]
@[reducible] def sweetenFields_named : List (String × Val) := []
def sweetenFields : Fun := { params := sweetenFields_params, named := sweetenFields_named, body := sweetenFields_body }

/-- the translated functions of this table by name -/
def funs : String → Option Fun
  | "sweetenFields" => some sweetenFields
  | _ => none

/-- the table entry by entry: the defining equations of `funs` -/
theorem funs_table :
    funs "sweetenFields" = some sweetenFields :=
  funs.eq_1

/-! lookup facts for symbolic execution (`funs_f` is entry f of `funs_table`) -/
@[simp] theorem funs_sweetenFields : funs "sweetenFields" = some sweetenFields := funs_table
@[simp] theorem sweetenFields_params_eq : sweetenFields.params = sweetenFields_params := rfl
@[simp] theorem sweetenFields_named_eq : sweetenFields.named = sweetenFields_named := rfl
@[simp] theorem sweetenFields_body_eq : sweetenFields.body = sweetenFields_body := rfl

end ZapVerif.Gen.TransSweeten
