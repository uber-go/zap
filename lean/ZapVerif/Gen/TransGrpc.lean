/- GENERATED by zvgen from /repo — do not edit; regenerated on every check run. -/
import ZapVerif.Model.GoMini
/-! Mechanical translation (gen/trans.go) of whitelisted Go functions to GoMini terms. -/
namespace ZapVerif.Gen.TransGrpc
open ZapVerif.GoMini

/-- zapgrpc/zapgrpc.go: func sprintln
    p0 = args []Any
    l0 = s string
    field #ev ↦ ev []Event
-/
def sprintln_body : Stmt :=
  (.seq (.assign [(.loc "l0")] [(.call "fmt.Sprintln" [(.loc "p0")])])
  (.ret [(.slice (.loc "l0") none (some (.bin (.sub .int) (.len (.loc "l0")) (.lit (.int 1)))))]))

@[reducible] def sprintln_params : List String := ["p0"]
@[reducible] def sprintln_named : List (String × Val) := []
def sprintln : Fun := { params := sprintln_params, named := sprintln_named, body := sprintln_body }

/-- zapgrpc/zapgrpc.go: func (printer) Print
    p0 = args []Any
    field #ev ↦ ev []Event
    field enab ↦ enab LevelEnabler
    field level ↦ level i8
    field print ↦ print PrintFn
    field printf ↦ printf PrintfFn
-/
def printer_Print_body : Stmt :=
  (.seq (.assign [(.fld "ev")] [(.call "append" [(.fld "ev"), (.call "tuple" [(.lit (.bytes [80, 114, 105, 110, 116, 70, 110, 46, 99, 97, 108, 108]) /- PrintFn.call -/), (.fld "print"), (.loc "p0")])])])
  (.callX [] "PrintFn.call" [(.fld "print"), (.loc "p0")]))

@[reducible] def printer_Print_params : List String := ["p0"]
@[reducible] def printer_Print_named : List (String × Val) := []
def printer_Print : Fun := { params := printer_Print_params, named := printer_Print_named, body := printer_Print_body }

/-- zapgrpc/zapgrpc.go: func (printer) Printf
    p0 = format string
    p1 = args []Any
    field #ev ↦ ev []Event
    field enab ↦ enab LevelEnabler
    field level ↦ level i8
    field print ↦ print PrintFn
    field printf ↦ printf PrintfFn
-/
def printer_Printf_body : Stmt :=
  (.seq (.assign [(.fld "ev")] [(.call "append" [(.fld "ev"), (.call "tuple" [(.lit (.bytes [80, 114, 105, 110, 116, 102, 70, 110, 46, 99, 97, 108, 108]) /- PrintfFn.call -/), (.fld "printf"), (.loc "p0"), (.loc "p1")])])])
  (.callX [] "PrintfFn.call" [(.fld "printf"), (.loc "p0"), (.loc "p1")]))

@[reducible] def printer_Printf_params : List String := ["p0", "p1"]
@[reducible] def printer_Printf_named : List (String × Val) := []
def printer_Printf : Fun := { params := printer_Printf_params, named := printer_Printf_named, body := printer_Printf_body }

/-- zapgrpc/zapgrpc.go: func (printer) Println
    p0 = args []Any
    l0 = (value of sprintln(…) inside an expression) string
    field #ev ↦ ev []Event
    field enab ↦ enab LevelEnabler
    field level ↦ level i8
    field print ↦ print PrintFn
    field printf ↦ printf PrintfFn
-/
def printer_Println_body : Stmt :=
  (.seq (.ite (.and (.bin .lt (.fld "level") (.lit (.int 3))) (.un .not (.call "LevelEnabler.Enabled" [(.fld "enab"), (.fld "level")])))
      (.ret [])
      .skip)
  (.seq (.call [(.loc "l0")] "sprintln" [(.loc "p0")])
  (.seq (.assign [(.fld "ev")] [(.call "append" [(.fld "ev"), (.call "tuple" [(.lit (.bytes [80, 114, 105, 110, 116, 70, 110, 46, 99, 97, 108, 108]) /- PrintFn.call -/), (.fld "print"), (.loc "l0")])])])
  (.callX [] "PrintFn.call" [(.fld "print"), (.loc "l0")]))))

@[reducible] def printer_Println_params : List String := ["p0"]
@[reducible] def printer_Println_named : List (String × Val) := []
def printer_Println : Fun := { params := printer_Println_params, named := printer_Println_named, body := printer_Println_body }

/-- zapgrpc/zapgrpc.go: func (Logger) Infoln
    p0 = args []Any
    l0 = (value of sprintln(…) inside an expression) string
    field #ev ↦ ev []Event
    field delegate ↦ delegate Sugar
    field levelEnabler ↦ levelEnabler LevelEnabler
-/
def Logger_Infoln_body : Stmt :=
  (.ite (.call "LevelEnabler.Enabled" [(.fld "levelEnabler"), (.lit (.int 0))])
    (.seq (.call [(.loc "l0")] "sprintln" [(.loc "p0")])
    (.seq (.assign [(.fld "ev")] [(.call "append" [(.fld "ev"), (.call "tuple" [(.lit (.bytes [83, 117, 103, 97, 114, 46, 73, 110, 102, 111]) /- Sugar.Info -/), (.fld "delegate"), (.loc "l0")])])])
    (.callX [] "Sugar.Info" [(.fld "delegate"), (.loc "l0")])))
    .skip)

@[reducible] def Logger_Infoln_params : List String := ["p0"]
@[reducible] def Logger_Infoln_named : List (String × Val) := []
def Logger_Infoln : Fun := { params := Logger_Infoln_params, named := Logger_Infoln_named, body := Logger_Infoln_body }

/-- zapgrpc/zapgrpc.go: func (Logger) Warningln
    p0 = args []Any
    l0 = (value of sprintln(…) inside an expression) string
    field #ev ↦ ev []Event
    field delegate ↦ delegate Sugar
    field levelEnabler ↦ levelEnabler LevelEnabler
-/
def Logger_Warningln_body : Stmt :=
  (.ite (.call "LevelEnabler.Enabled" [(.fld "levelEnabler"), (.lit (.int 1))])
    (.seq (.call [(.loc "l0")] "sprintln" [(.loc "p0")])
    (.seq (.assign [(.fld "ev")] [(.call "append" [(.fld "ev"), (.call "tuple" [(.lit (.bytes [83, 117, 103, 97, 114, 46, 87, 97, 114, 110]) /- Sugar.Warn -/), (.fld "delegate"), (.loc "l0")])])])
    (.callX [] "Sugar.Warn" [(.fld "delegate"), (.loc "l0")])))
    .skip)

@[reducible] def Logger_Warningln_params : List String := ["p0"]
@[reducible] def Logger_Warningln_named : List (String × Val) := []
def Logger_Warningln : Fun := { params := Logger_Warningln_params, named := Logger_Warningln_named, body := Logger_Warningln_body }

/-- zapgrpc/zapgrpc.go: func (Logger) Errorln
    p0 = args []Any
    l0 = (value of sprintln(…) inside an expression) string
    field #ev ↦ ev []Event
    field delegate ↦ delegate Sugar
    field levelEnabler ↦ levelEnabler LevelEnabler
-/
def Logger_Errorln_body : Stmt :=
  (.ite (.call "LevelEnabler.Enabled" [(.fld "levelEnabler"), (.lit (.int 2))])
    (.seq (.call [(.loc "l0")] "sprintln" [(.loc "p0")])
    (.seq (.assign [(.fld "ev")] [(.call "append" [(.fld "ev"), (.call "tuple" [(.lit (.bytes [83, 117, 103, 97, 114, 46, 69, 114, 114, 111, 114]) /- Sugar.Error -/), (.fld "delegate"), (.loc "l0")])])])
    (.callX [] "Sugar.Error" [(.fld "delegate"), (.loc "l0")])))
    .skip)

@[reducible] def Logger_Errorln_params : List String := ["p0"]
@[reducible] def Logger_Errorln_named : List (String × Val) := []
def Logger_Errorln : Fun := { params := Logger_Errorln_params, named := Logger_Errorln_named, body := Logger_Errorln_body }

/-- the translated functions of this table by name -/
def funs : String → Option Fun
  | "sprintln" => some sprintln
  | "printer_Print" => some printer_Print
  | "printer_Printf" => some printer_Printf
  | "printer_Println" => some printer_Println
  | "Logger_Infoln" => some Logger_Infoln
  | "Logger_Warningln" => some Logger_Warningln
  | "Logger_Errorln" => some Logger_Errorln
  | _ => none

/-- the table entry by entry: the defining equations of `funs` -/
theorem funs_table :
    funs "sprintln" = some sprintln ∧
    funs "printer_Print" = some printer_Print ∧
    funs "printer_Printf" = some printer_Printf ∧
    funs "printer_Println" = some printer_Println ∧
    funs "Logger_Infoln" = some Logger_Infoln ∧
    funs "Logger_Warningln" = some Logger_Warningln ∧
    funs "Logger_Errorln" = some Logger_Errorln :=
  ⟨funs.eq_1, funs.eq_2, funs.eq_3, funs.eq_4, funs.eq_5, funs.eq_6, funs.eq_7⟩

/-! lookup facts for symbolic execution (`funs_f` is entry f of `funs_table`) -/
@[simp] theorem funs_sprintln : funs "sprintln" = some sprintln := funs_table.1
@[simp] theorem sprintln_params_eq : sprintln.params = sprintln_params := rfl
@[simp] theorem sprintln_named_eq : sprintln.named = sprintln_named := rfl
@[simp] theorem sprintln_body_eq : sprintln.body = sprintln_body := rfl
@[simp] theorem funs_printer_Print : funs "printer_Print" = some printer_Print := funs_table.2.1
@[simp] theorem printer_Print_params_eq : printer_Print.params = printer_Print_params := rfl
@[simp] theorem printer_Print_named_eq : printer_Print.named = printer_Print_named := rfl
@[simp] theorem printer_Print_body_eq : printer_Print.body = printer_Print_body := rfl
@[simp] theorem funs_printer_Printf : funs "printer_Printf" = some printer_Printf := funs_table.2.2.1
@[simp] theorem printer_Printf_params_eq : printer_Printf.params = printer_Printf_params := rfl
@[simp] theorem printer_Printf_named_eq : printer_Printf.named = printer_Printf_named := rfl
@[simp] theorem printer_Printf_body_eq : printer_Printf.body = printer_Printf_body := rfl
@[simp] theorem funs_printer_Println : funs "printer_Println" = some printer_Println := funs_table.2.2.2.1
@[simp] theorem printer_Println_params_eq : printer_Println.params = printer_Println_params := rfl
@[simp] theorem printer_Println_named_eq : printer_Println.named = printer_Println_named := rfl
@[simp] theorem printer_Println_body_eq : printer_Println.body = printer_Println_body := rfl
@[simp] theorem funs_Logger_Infoln : funs "Logger_Infoln" = some Logger_Infoln := funs_table.2.2.2.2.1
@[simp] theorem Logger_Infoln_params_eq : Logger_Infoln.params = Logger_Infoln_params := rfl
@[simp] theorem Logger_Infoln_named_eq : Logger_Infoln.named = Logger_Infoln_named := rfl
@[simp] theorem Logger_Infoln_body_eq : Logger_Infoln.body = Logger_Infoln_body := rfl
@[simp] theorem funs_Logger_Warningln : funs "Logger_Warningln" = some Logger_Warningln := funs_table.2.2.2.2.2.1
@[simp] theorem Logger_Warningln_params_eq : Logger_Warningln.params = Logger_Warningln_params := rfl
@[simp] theorem Logger_Warningln_named_eq : Logger_Warningln.named = Logger_Warningln_named := rfl
@[simp] theorem Logger_Warningln_body_eq : Logger_Warningln.body = Logger_Warningln_body := rfl
@[simp] theorem funs_Logger_Errorln : funs "Logger_Errorln" = some Logger_Errorln := funs_table.2.2.2.2.2.2
@[simp] theorem Logger_Errorln_params_eq : Logger_Errorln.params = Logger_Errorln_params := rfl
@[simp] theorem Logger_Errorln_named_eq : Logger_Errorln.named = Logger_Errorln_named := rfl
@[simp] theorem Logger_Errorln_body_eq : Logger_Errorln.body = Logger_Errorln_body := rfl

end ZapVerif.Gen.TransGrpc
