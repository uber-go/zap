/- GENERATED by zvgen from /repo — do not edit; regenerated on every check run. -/
import ZapVerif.Model.GoMini
/-! Mechanical translation (gen/trans.go) of whitelisted Go functions to GoMini terms. -/
namespace ZapVerif.Gen.TransSlog
open ZapVerif.GoMini

/-- exp/zapslog/handler.go: func convertSlogLevel
    p0 = l int
    field #ev ↦ ev []Event
    field addCaller ↦ addCaller bool
    field addStackAt ↦ addStackAt int
    field callerSkip ↦ callerSkip int
    field core ↦ core Core
    field groups ↦ groups []string
    field name ↦ name string
    receiver value ↦ self Handler
-/
def convertSlogLevel_body : Stmt :=
  (.switch (.lit (.bool true))
    (.case [(.bin .ge (.loc "p0") (.lit (.int 8)))]
      (.ret [(.lit (.int 2))])
    (.case [(.bin .ge (.loc "p0") (.lit (.int 4)))]
      (.ret [(.lit (.int 1))])
    (.case [(.bin .ge (.loc "p0") (.lit (.int 0)))]
      (.ret [(.lit (.int 0))])
    (.default (.ret [(.lit (.int (-1)))]))))))

@[reducible] def convertSlogLevel_params : List String := ["p0"]
@[reducible] def convertSlogLevel_named : List (String × Val) := []
def convertSlogLevel : Fun := { params := convertSlogLevel_params, named := convertSlogLevel_named, body := convertSlogLevel_body }

/-- exp/zapslog/handler.go: func hasContent
    p0 = attr struct:SlogAttr
    l0 = a struct:SlogAttr
    l1 = (value of hasContent(…) inside an expression) bool
    field #ev ↦ ev []Event
    field addCaller ↦ addCaller bool
    field addStackAt ↦ addStackAt int
    field callerSkip ↦ callerSkip int
    field core ↦ core Core
    field groups ↦ groups []string
    field name ↦ name string
    receiver value ↦ self Handler
-/
def hasContent_loop0 : Stmt :=
  (.range .blank (.loc "l0") (.call "Value.Group" [(.index (.loc "p0") (.lit (.int 1)))])
    (.seq (.call [(.loc "l1")] "hasContent" [(.loc "l0")])
    (.ite (.loc "l1")
      (.ret [(.lit (.bool true))])
      .skip)))

def hasContent_body : Stmt :=
  (.seq (.assign [(.loc "p0")] [(.call "tuple" [(.index (.loc "p0") (.lit (.int 0))), (.call "Value.Resolve" [(.index (.loc "p0") (.lit (.int 1)))])])])
  (.seq (.ite (.call "Attr.Equal" [(.loc "p0"), (.call "tuple" [(.lit (.bytes [])), (.lit (.list []))])])
      (.ret [(.lit (.bool false))])
      .skip)
  (.seq (.ite (.bin .ne (.call "Value.Kind" [(.index (.loc "p0") (.lit (.int 1)))]) (.lit (.int 8)))
      (.ret [(.lit (.bool true))])
      .skip)
  (.seq hasContent_loop0
  (.ret [(.lit (.bool false))])))))

@[reducible] def hasContent_params : List String := ["p0"]
@[reducible] def hasContent_named : List (String × Val) := []
def hasContent : Fun := { params := hasContent_params, named := hasContent_named, body := hasContent_body }

/-- exp/zapslog/handler.go: func convertAttrToField
    p0 = attr struct:SlogAttr
    l0 = (value of hasContent(…) inside an expression) bool
    l1 = (value of the returned call) Field
    field #ev ↦ ev []Event
    field addCaller ↦ addCaller bool
    field addStackAt ↦ addStackAt int
    field callerSkip ↦ callerSkip int
    field core ↦ core Core
    field groups ↦ groups []string
    field name ↦ name string
    receiver value ↦ self Handler
-/
def convertAttrToField_body : Stmt :=
  (.seq (.ite (.call "Attr.Equal" [(.loc "p0"), (.call "tuple" [(.lit (.bytes [])), (.lit (.list []))])])
      (.ret [(.call "zap.Skip" [])])
      .skip)
  (.switch (.call "Value.Kind" [(.index (.loc "p0") (.lit (.int 1)))])
    (.case [(.lit (.int 1))]
      (.ret [(.call "zap.Bool" [(.index (.loc "p0") (.lit (.int 0))), (.call "Value.Payload" [(.index (.loc "p0") (.lit (.int 1)))])])])
    (.case [(.lit (.int 2))]
      (.ret [(.call "zap.Duration" [(.index (.loc "p0") (.lit (.int 0))), (.call "Value.Payload" [(.index (.loc "p0") (.lit (.int 1)))])])])
    (.case [(.lit (.int 3))]
      (.ret [(.call "zap.Float64" [(.index (.loc "p0") (.lit (.int 0))), (.call "Value.Payload" [(.index (.loc "p0") (.lit (.int 1)))])])])
    (.case [(.lit (.int 4))]
      (.ret [(.call "zap.Int64" [(.index (.loc "p0") (.lit (.int 0))), (.call "Value.Payload" [(.index (.loc "p0") (.lit (.int 1)))])])])
    (.case [(.lit (.int 5))]
      (.ret [(.call "zap.String" [(.index (.loc "p0") (.lit (.int 0))), (.call "Value.Payload" [(.index (.loc "p0") (.lit (.int 1)))])])])
    (.case [(.lit (.int 6))]
      (.ret [(.call "zap.Time" [(.index (.loc "p0") (.lit (.int 0))), (.call "Value.Payload" [(.index (.loc "p0") (.lit (.int 1)))])])])
    (.case [(.lit (.int 7))]
      (.ret [(.call "zap.Uint64" [(.index (.loc "p0") (.lit (.int 0))), (.call "Value.Payload" [(.index (.loc "p0") (.lit (.int 1)))])])])
    (.case [(.lit (.int 8))]
      (.seq (.seq (.call [(.loc "l0")] "hasContent" [(.loc "p0")])
        (.ite (.un .not (.loc "l0"))
          (.ret [(.call "zap.Skip" [])])
          .skip))
      (.seq (.ite (.bin .eq (.index (.loc "p0") (.lit (.int 0))) (.lit (.bytes [])))
          (.ret [(.call "zap.Inline" [(.call "Value.Group" [(.index (.loc "p0") (.lit (.int 1)))])])])
          .skip)
      (.ret [(.call "zap.Object" [(.index (.loc "p0") (.lit (.int 0))), (.call "Value.Group" [(.index (.loc "p0") (.lit (.int 1)))])])])))
    (.case [(.lit (.int 9))]
      (.seq (.call [(.loc "l1")] "convertAttrToField" [(.call "tuple" [(.index (.loc "p0") (.lit (.int 0))), (.call "Value.Resolve" [(.index (.loc "p0") (.lit (.int 1)))])])])
      (.ret [(.loc "l1")]))
    (.default (.ret [(.call "zap.Any" [(.index (.loc "p0") (.lit (.int 0))), (.call "Value.Payload" [(.index (.loc "p0") (.lit (.int 1)))])])])))))))))))))

@[reducible] def convertAttrToField_params : List String := ["p0"]
@[reducible] def convertAttrToField_named : List (String × Val) := []
def convertAttrToField : Fun := { params := convertAttrToField_params, named := convertAttrToField_named, body := convertAttrToField_body }

/-- exp/zapslog/handler.go: func (Handler) appendGroups
    p0 = fields []Field
    l0 = g string
    field #ev ↦ ev []Event
    field addCaller ↦ addCaller bool
    field addStackAt ↦ addStackAt int
    field callerSkip ↦ callerSkip int
    field core ↦ core Core
    field groups ↦ groups []string
    field name ↦ name string
    receiver value ↦ self Handler
-/
def appendGroups_loop0 : Stmt :=
  (.range .blank (.loc "l0") (.fld "groups")
    (.assign [(.loc "p0")] [(.call "append" [(.loc "p0"), (.call "zap.Namespace" [(.loc "l0")])])]))

def appendGroups_body : Stmt :=
  (.seq appendGroups_loop0
  (.ret [(.loc "p0")]))

@[reducible] def appendGroups_params : List String := ["p0"]
@[reducible] def appendGroups_named : List (String × Val) := []
def appendGroups : Fun := { params := appendGroups_params, named := appendGroups_named, body := appendGroups_body }

/-- exp/zapslog/handler.go: func (Handler) WithGroup
    p0 = group string
    l0 = newGroups []string
    cloned = the SECOND object, a struct copy of the receiver
    field #ev ↦ ev []Event
    field addCaller ↦ addCaller bool
    field addStackAt ↦ addStackAt int
    field callerSkip ↦ callerSkip int
    field core ↦ core Core
    field groups ↦ groups []string
    field name ↦ name string
    receiver value ↦ self Handler
-/
def WithGroup_body : Stmt :=
  (.seq (.ite (.bin .eq (.loc "p0") (.lit (.bytes [])))
      (.ret [(.fld "self")])
      .skip)
  (.seq (.assign [(.loc "l0")] [(.call "make.strings" [(.bin (.add .int) (.len (.fld "groups")) (.lit (.int 1)))])])
  (.seq (.callX [(.loc "l0"), .blank] "copy" [(.loc "l0"), (.fld "groups")])
  (.seq (.assign [(.loc "l0")] [(.call "slice.set" [(.loc "l0"), (.len (.fld "groups")), (.loc "p0")])])
  (.seq (.seq (.assign [(.fld "o.addCaller")] [(.fld "addCaller")])
    (.seq (.assign [(.fld "o.addStackAt")] [(.fld "addStackAt")])
    (.seq (.assign [(.fld "o.callerSkip")] [(.fld "callerSkip")])
    (.seq (.assign [(.fld "o.core")] [(.fld "core")])
    (.seq (.assign [(.fld "o.groups")] [(.fld "groups")])
    (.assign [(.fld "o.name")] [(.fld "name")]))))))
  (.seq (.assign [(.fld "o.groups")] [(.loc "l0")])
  (.ret [(.fld "o.self")])))))))

@[reducible] def WithGroup_params : List String := ["p0"]
@[reducible] def WithGroup_named : List (String × Val) := []
def WithGroup : Fun := { params := WithGroup_params, named := WithGroup_named, body := WithGroup_body }

/-- exp/zapslog/handler.go: func (Handler) WithAttrs
    p0 = attrs []struct:SlogAttr
    l0 = fields []Field
    l1 = addedNamespace bool
    l2 = attr struct:SlogAttr
    l3 = f Field
    cloned = the SECOND object, a struct copy of the receiver
    field #ev ↦ ev []Event
    field addCaller ↦ addCaller bool
    field addStackAt ↦ addStackAt int
    field callerSkip ↦ callerSkip int
    field core ↦ core Core
    field groups ↦ groups []string
    field name ↦ name string
    receiver value ↦ self Handler
-/
def WithAttrs_loop0 : Stmt :=
  (.range .blank (.loc "l2") (.loc "p0")
    (.seq (.call [(.loc "l3")] "convertAttrToField" [(.loc "l2")])
    (.seq (.ite (.and (.and (.un .not (.loc "l1")) (.bin .gt (.len (.fld "groups")) (.lit (.int 0)))) (.bin .ne (.loc "l3") (.call "zap.Skip" [])))
        (.seq (.call [(.loc "l0")] "appendGroups" [(.loc "l0")])
        (.assign [(.loc "l1")] [(.lit (.bool true))]))
        .skip)
    (.assign [(.loc "l0")] [(.call "append" [(.loc "l0"), (.loc "l3")])]))))

def WithAttrs_body : Stmt :=
  (.seq (.assign [(.loc "l0")] [(.lit (.list []))])
  (.seq (.assign [(.loc "l1")] [(.lit (.bool false))])
  (.seq WithAttrs_loop0
  (.seq (.seq (.assign [(.fld "o.addCaller")] [(.fld "addCaller")])
    (.seq (.assign [(.fld "o.addStackAt")] [(.fld "addStackAt")])
    (.seq (.assign [(.fld "o.callerSkip")] [(.fld "callerSkip")])
    (.seq (.assign [(.fld "o.core")] [(.fld "core")])
    (.seq (.assign [(.fld "o.groups")] [(.fld "groups")])
    (.assign [(.fld "o.name")] [(.fld "name")]))))))
  (.seq (.assign [(.fld "o.core")] [(.call "Core.With" [(.fld "core"), (.loc "l0")])])
  (.seq (.ite (.loc "l1")
      (.assign [(.fld "o.groups")] [(.lit (.list []))])
      .skip)
  (.ret [(.fld "o.self")])))))))

@[reducible] def WithAttrs_params : List String := ["p0"]
@[reducible] def WithAttrs_named : List (String × Val) := []
def WithAttrs : Fun := { params := WithAttrs_params, named := WithAttrs_named, body := WithAttrs_body }

/-- exp/zapslog/handler.go: func (Handler) Handle
    p0 = ctx Ctx
    p1 = record struct:SlogRecord
    l0 = (value of convertSlogLevel(…) inside an expression) i8
    l1 = ent struct:Entry
    l2 = ce ptr:struct:CE
    l3 = frame struct:Frame
    CUT: everything from `fields := make([]zapcore.Field, 0, record.NumAttrs()+len(h.groups))` on is the recorded intrinsic Handler.convertAndWrite
    l4 = (result of the tail intrinsic) error
    field #ev ↦ ev []Event
    field addCaller ↦ addCaller bool
    field addStackAt ↦ addStackAt int
    field callerSkip ↦ callerSkip int
    field core ↦ core Core
    field groups ↦ groups []string
    field name ↦ name string
    receiver value ↦ self Handler
-/
def Handle_body : Stmt :=
  (.seq (.seq (.call [(.loc "l0")] "convertSlogLevel" [(.index (.loc "p1") (.lit (.int 0)))])
    (.assign [(.loc "l1")] [(.call "tuple" [(.loc "l0"), (.index (.loc "p1") (.lit (.int 1))), (.index (.loc "p1") (.lit (.int 2))), (.fld "name")])]))
  (.seq (.assign [(.loc "l2")] [(.call "Core.Check" [(.fld "core"), (.loc "l1"), (.lit (.list []))])])
  (.seq (.ite (.bin .eq (.len (.loc "l2")) (.lit (.int 0)))
      (.ret [(.lit (.list []))])
      .skip)
  (.seq (.ite (.and (.fld "addCaller") (.bin .ne (.index (.loc "p1") (.lit (.int 3))) (.lit (.int 0))))
      (.seq (.callX [(.loc "l3"), .blank] "runtime.frameOf" [(.index (.loc "p1") (.lit (.int 3)))])
      (.ite (.bin .ne (.index (.loc "l3") (.lit (.int 0))) (.lit (.int 0)))
        (.assign [(.loc "l2")] [(.call "tuple" [(.call "tuple" [(.lit (.bool true)), (.index (.loc "l3") (.lit (.int 0))), (.index (.loc "l3") (.lit (.int 1))), (.index (.loc "l3") (.lit (.int 2))), (.index (.loc "l3") (.lit (.int 3)))]), (.index (.loc "l2") (.lit (.int 1))), (.index (.loc "l2") (.lit (.int 2)))])])
        .skip))
      .skip)
  (.seq (.ite (.bin .ge (.index (.loc "p1") (.lit (.int 0))) (.fld "addStackAt"))
      (.assign [(.loc "l2")] [(.call "tuple" [(.index (.loc "l2") (.lit (.int 0))), (.call "stacktrace.Take" [(.bin (.add .int) (.lit (.int 3)) (.fld "callerSkip"))]), (.index (.loc "l2") (.lit (.int 2)))])])
      .skip)
  (.seq (.assign [(.fld "ev")] [(.call "append" [(.fld "ev"), (.call "tuple" [(.lit (.bytes [72, 97, 110, 100, 108, 101, 114, 46, 99, 111, 110, 118, 101, 114, 116, 65, 110, 100, 87, 114, 105, 116, 101]) /- Handler.convertAndWrite -/), (.loc "l2"), (.loc "p1")])])])
  (.seq (.callX [(.loc "l4")] "Handler.convertAndWrite" [(.loc "l2"), (.loc "p1")])
  (.ret [(.loc "l4")]))))))))

@[reducible] def Handle_params : List String := ["p0", "p1"]
@[reducible] def Handle_named : List (String × Val) := []
def Handle : Fun := { params := Handle_params, named := Handle_named, body := Handle_body }

/-- the translated functions of this table by name -/
def funs : String → Option Fun
  | "convertSlogLevel" => some convertSlogLevel
  | "hasContent" => some hasContent
  | "convertAttrToField" => some convertAttrToField
  | "appendGroups" => some appendGroups
  | "WithGroup" => some WithGroup
  | "WithAttrs" => some WithAttrs
  | "Handle" => some Handle
  | _ => none

/-- the table entry by entry: the defining equations of `funs` -/
theorem funs_table :
    funs "convertSlogLevel" = some convertSlogLevel ∧
    funs "hasContent" = some hasContent ∧
    funs "convertAttrToField" = some convertAttrToField ∧
    funs "appendGroups" = some appendGroups ∧
    funs "WithGroup" = some WithGroup ∧
    funs "WithAttrs" = some WithAttrs ∧
    funs "Handle" = some Handle :=
  ⟨funs.eq_1, funs.eq_2, funs.eq_3, funs.eq_4, funs.eq_5, funs.eq_6, funs.eq_7⟩

/-! lookup facts for symbolic execution (`funs_f` is entry f of `funs_table`) -/
@[simp] theorem funs_convertSlogLevel : funs "convertSlogLevel" = some convertSlogLevel := funs_table.1
@[simp] theorem convertSlogLevel_params_eq : convertSlogLevel.params = convertSlogLevel_params := rfl
@[simp] theorem convertSlogLevel_named_eq : convertSlogLevel.named = convertSlogLevel_named := rfl
@[simp] theorem convertSlogLevel_body_eq : convertSlogLevel.body = convertSlogLevel_body := rfl
@[simp] theorem funs_hasContent : funs "hasContent" = some hasContent := funs_table.2.1
@[simp] theorem hasContent_params_eq : hasContent.params = hasContent_params := rfl
@[simp] theorem hasContent_named_eq : hasContent.named = hasContent_named := rfl
@[simp] theorem hasContent_body_eq : hasContent.body = hasContent_body := rfl
@[simp] theorem funs_convertAttrToField : funs "convertAttrToField" = some convertAttrToField := funs_table.2.2.1
@[simp] theorem convertAttrToField_params_eq : convertAttrToField.params = convertAttrToField_params := rfl
@[simp] theorem convertAttrToField_named_eq : convertAttrToField.named = convertAttrToField_named := rfl
@[simp] theorem convertAttrToField_body_eq : convertAttrToField.body = convertAttrToField_body := rfl
@[simp] theorem funs_appendGroups : funs "appendGroups" = some appendGroups := funs_table.2.2.2.1
@[simp] theorem appendGroups_params_eq : appendGroups.params = appendGroups_params := rfl
@[simp] theorem appendGroups_named_eq : appendGroups.named = appendGroups_named := rfl
@[simp] theorem appendGroups_body_eq : appendGroups.body = appendGroups_body := rfl
@[simp] theorem funs_WithGroup : funs "WithGroup" = some WithGroup := funs_table.2.2.2.2.1
@[simp] theorem WithGroup_params_eq : WithGroup.params = WithGroup_params := rfl
@[simp] theorem WithGroup_named_eq : WithGroup.named = WithGroup_named := rfl
@[simp] theorem WithGroup_body_eq : WithGroup.body = WithGroup_body := rfl
@[simp] theorem funs_WithAttrs : funs "WithAttrs" = some WithAttrs := funs_table.2.2.2.2.2.1
@[simp] theorem WithAttrs_params_eq : WithAttrs.params = WithAttrs_params := rfl
@[simp] theorem WithAttrs_named_eq : WithAttrs.named = WithAttrs_named := rfl
@[simp] theorem WithAttrs_body_eq : WithAttrs.body = WithAttrs_body := rfl
@[simp] theorem funs_Handle : funs "Handle" = some Handle := funs_table.2.2.2.2.2.2
@[simp] theorem Handle_params_eq : Handle.params = Handle_params := rfl
@[simp] theorem Handle_named_eq : Handle.named = Handle_named := rfl
@[simp] theorem Handle_body_eq : Handle.body = Handle_body := rfl

end ZapVerif.Gen.TransSlog
