import ZapVerif.Proofs.Bws
import ZapVerif.Proofs.BwsConc
import ZapVerif.Proofs.BwsConcBytes
import ZapVerif.Model.BwsSkel
import ZapVerif.Gen.BwsFacts
import ZapVerif.Proofs.TransLocked
/-! # C12 — BufferedWriteSyncer delivers every byte once, in order, in whole writes

Part 1 (this section): one `BufferedWriteSyncer{WS: sink, Size: size}` driven by an arbitrary history of
`Write` / `Sync` / tick / `Stop` (`Bws.Op`), over a sink whose every `Write` and `Sync` outcome is scripted
(`mk size wo so`; `wo = []` is the reliable sink).  `bufio.Writer` is modelled from Go's source including the
sticky error, short writes and the large-write path.  All sizes, write lengths and histories are unbounded.

Part 2: the thread machine (writers, syncers, stoppers, the flush goroutine, the mutex, the `stop`/`done`/`flushed`
channels, ticks) — see `ZapVerif.C12.Conc` below. -/
namespace ZapVerif.C12
section Seq
open ZapVerif ZapVerif.Bws

/-- **stream invariant**: what the sink took so far, followed by what is buffered, is exactly the concatenation of
    the accepted parts of all writes, in order — nothing lost, duplicated or reordered, whatever the sink does -/
theorem stream_inv (size : Int) (wo : List WOut) (so : List Bool) (ops : List Op) :
    taken (run (mk size wo so) ops).sink ++ (run (mk size wo so) ops).buf = accepted (mk size wo so) ops := by
  have := content_run ops (mk size wo so) (wf_mk _ _ _)
  simpa [content, mk] using this

/-- on a reliable sink every write is accepted in full, so the stream is the concatenation of all writes -/
theorem stream_inv_reliable (size : Int) (so : List Bool) (ops : List Op) :
    taken (run (mk size [] so) ops).sink ++ (run (mk size [] so) ops).buf = (writesOf ops).flatten := by
  rw [stream_inv, accepted_reliable ops [] _ (rinv_mk size so)]

/-- **bounded buffering**: never more than the configured size is held back -/
theorem bounded (size : Int) (wo : List WOut) (so : List Bool) (ops : List Op) :
    (run (mk size wo so) ops).buf.length ≤ effSize size ∧
    (accepted (mk size wo so) ops).length ≤ (taken (run (mk size wo so) ops).sink).length + effSize size := by
  have hb := (wf_run ops _ (wf_mk size wo so)).bound
  rw [run_size ops _ (wf_mk size wo so)] at hb
  refine ⟨hb, ?_⟩
  rw [← stream_inv, List.length_append]
  exact Nat.add_le_add_left hb _

/-- **whole writes**: the caller writes are cut into contiguous groups; every sink write is the concatenation of one
    group (so no caller write — no log line — is ever split across two sink writes) and the buffer holds exactly the
    writes after the last group -/
theorem whole_writes (size : Int) (so : List Bool) (ops : List Op) :
    ∃ (groups : List (List Bytes)) (pending : List Bytes),
      writesOf ops = groups.flatten ++ pending ∧
      sinkWrites (run (mk size [] so) ops).sink = groups.map List.flatten ∧
      (run (mk size [] so) ops).buf = pending.flatten := by
  have := (rinv_run ops [] _ (rinv_mk size so)).aligned
  simpa [Aligned] using this

/-- and the sink took each of those writes completely (it is reliable) -/
theorem sink_writes_full (size : Int) (so : List Bool) (ops : List Op) :
    taken (run (mk size [] so) ops).sink = (sinkWrites (run (mk size [] so) ops).sink).flatten :=
  full_taken (rinv_run ops [] _ (rinv_mk size so)).full

/-- the three flushing operations at once: after `Sync`, after a processed tick, after the `Stop` that shuts the
    syncer down — provided the flush left no (sticky) write error — everything accepted so far is in the sink, and
    if the syncer was ever written to the last thing the sink saw is a `Sync` -/
theorem flush_op_flushes (size : Int) (wo : List WOut) (so : List Bool) (ops : List Op) (o : Op)
    (hf : FlushOp (run (mk size wo so) ops) o) (he : (run (mk size wo so) (ops ++ [o])).err = none) :
    taken (run (mk size wo so) (ops ++ [o])).sink = accepted (mk size wo so) (ops ++ [o]) ∧
    (run (mk size wo so) (ops ++ [o])).buf = [] ∧
    ((run (mk size wo so) ops).init = true → (run (mk size wo so) (ops ++ [o])).sink.getLast? = some .sync) := by
  have hw := wf_run ops _ (wf_mk size wo so)
  have hr : run (mk size wo so) (ops ++ [o]) = (step (run (mk size wo so) ops) o).1 := by
    rw [run_append]; rfl
  rw [hr] at he
  have hb := flushop_empty _ o hw hf he
  have hst := stream_inv size wo so (ops ++ [o])
  rw [hr] at hst ⊢
  rw [hb, List.append_nil] at hst
  exact ⟨hst, hb, fun hi => flushop_synced _ o hf hi⟩

/-- **Sync flushes**: when `Sync` reports no flush error, every byte accepted before it is in the sink and the
    sink's `Sync` was the last call made -/
theorem sync_flushes (size : Int) (wo : List WOut) (so : List Bool) (ops : List Op)
    (he : (sync (run (mk size wo so) ops)).2.1 = none) (hi : (run (mk size wo so) ops).init = true) :
    taken (sync (run (mk size wo so) ops)).1.sink = accepted (mk size wo so) ops ∧
    (sync (run (mk size wo so) ops)).1.sink.getLast? = some .sync := by
  have S := sync_spec (run (mk size wo so) ops)
  have hr : run (mk size wo so) (ops ++ [.sync]) = (sync (run (mk size wo so) ops)).1 := by rw [run_append]; rfl
  have he' : (run (mk size wo so) (ops ++ [.sync])).err = none := by rw [hr, ← S.err_eq hi]; exact he
  obtain ⟨h1, _, h3⟩ := flush_op_flushes size wo so ops .sync (Or.inl rfl) he'
  rw [hr] at h1 h3
  rw [accepted_append, flushop_accepts_nothing _ _ (Or.inl rfl), List.append_nil] at h1
  exact ⟨h1, h3 hi⟩

/-- `Sync` before the first `Write` (nothing was ever accepted): the sink is still synced -/
theorem sync_uninitialised (s : St) (hi : s.init = false) : (sync s).1.sink = s.sink ++ [.sync] := by
  simp [sync, wsSync, hi]

/-- **a processed tick flushes** (the flush goroutine exists: initialised and not stopped) -/
theorem tick_flushes (size : Int) (wo : List WOut) (so : List Bool) (ops : List Op)
    (hi : (run (mk size wo so) ops).init = true) (hs : (run (mk size wo so) ops).stopped = false)
    (he : (tick (run (mk size wo so) ops)).err = none) :
    taken (tick (run (mk size wo so) ops)).sink = accepted (mk size wo so) ops ∧
    (tick (run (mk size wo so) ops)).sink.getLast? = some .sync := by
  have hr : run (mk size wo so) (ops ++ [.tick]) = tick (run (mk size wo so) ops) := by rw [run_append]; rfl
  have hf : FlushOp (run (mk size wo so) ops) .tick := Or.inr ⟨Or.inl rfl, hs⟩
  obtain ⟨h1, _, h3⟩ := flush_op_flushes size wo so ops .tick hf (by rw [hr]; exact he)
  rw [hr] at h1 h3
  rw [accepted_append, flushop_accepts_nothing _ _ hf, List.append_nil] at h1
  exact ⟨h1, h3 hi⟩

/-- **Stop flushes**: the `Stop` that shuts an initialised syncer down returns after everything accepted before it
    is in the sink and the sink was synced; from then on no tick is processed (the flush goroutine is gone) -/
theorem stop_flushes (size : Int) (wo : List WOut) (so : List Bool) (ops : List Op)
    (hi : (run (mk size wo so) ops).init = true) (hs : (run (mk size wo so) ops).stopped = false)
    (he : (stop (run (mk size wo so) ops)).2.1 = none) :
    taken (stop (run (mk size wo so) ops)).1.sink = accepted (mk size wo so) ops ∧
    (stop (run (mk size wo so) ops)).1.sink.getLast? = some .sync ∧
    tick (stop (run (mk size wo so) ops)).1 = (stop (run (mk size wo so) ops)).1 := by
  have hr : run (mk size wo so) (ops ++ [.stop]) = (stop (run (mk size wo so) ops)).1 := by rw [run_append]; rfl
  have hf : FlushOp (run (mk size wo so) ops) .stop := Or.inr ⟨Or.inr rfl, hs⟩
  have hst : stop (run (mk size wo so) ops) = sync { run (mk size wo so) ops with stopped := true } := by
    simp [stop, hi, hs]
  have S := sync_spec { run (mk size wo so) ops with stopped := true }
  have he' : (run (mk size wo so) (ops ++ [.stop])).err = none := by
    rw [hr, hst, ← S.err_eq hi, ← hst]; exact he
  obtain ⟨h1, _, h3⟩ := flush_op_flushes size wo so ops .stop hf he'
  rw [hr] at h1 h3
  rw [accepted_append, flushop_accepts_nothing _ _ hf, List.append_nil] at h1
  refine ⟨h1, h3 hi, ?_⟩
  have : (stop (run (mk size wo so) ops)).1.stopped = true := by rw [hst]; exact S.stopped
  simp [tick, this]

/-- on a reliable sink the flush never fails: the three theorems above apply unconditionally -/
theorem reliable_never_fails (size : Int) (so : List Bool) (ops : List Op) :
    (run (mk size [] so) ops).err = none ∧ (sync (run (mk size [] so) ops)).2.1 = none ∧
    (stop (run (mk size [] so) ops)).2.1 = none ∧ (tick (run (mk size [] so) ops)).err = none := by
  have R := rinv_run ops [] _ (rinv_mk size so)
  have ht : (tick (run (mk size [] so) ops)).err = none := by
    unfold tick; split
    · exact (rinv_sync R).rel.2
    · exact R.rel.2
  refine ⟨R.rel.2, (sync_reliable _ R.rel fun hi => (R.wf.fresh hi).1).1, ?_, ht⟩
  unfold stop; split
  · rfl
  · rename_i hc
    have hi : (run (mk size [] so) ops).init = true := by
      cases h : (run (mk size [] so) ops).init <;> simp [h] at hc ⊢
    exact (sync_reliable { run (mk size [] so) ops with stopped := true } R.rel (fun h => by simp [hi] at h)).1

/-- **Stop is idempotent**: a second `Stop` does nothing and returns nil (also when the first one failed to flush —
    zap's own test "stop twice") -/
theorem stop_idempotent (s : St) : stop (stop s).1 = ((stop s).1, none, false) := stop_twice s

/-- **crash, any sink**: whatever prefix of its calls the sink has completed when the process dies, its content is a
    prefix of the accepted stream (no byte lost in the middle, duplicated or reordered) -/
theorem crash_stream_prefix (size : Int) (wo : List WOut) (so : List Bool) (ops : List Op) (pre : List Ev)
    (hp : pre <+: (run (mk size wo so) ops).sink) : taken pre <+: accepted (mk size wo so) ops := by
  have h1 := taken_prefix hp
  have h2 : taken (run (mk size wo so) ops).sink <+: accepted (mk size wo so) ops :=
    ⟨_, stream_inv size wo so ops⟩
  exact h1.trans h2

/-- **crash prefix** (reliable sink = a file whose `write(2)` calls are atomic): at every point of every history the
    sink content is (1) cut at a boundary between caller writes and (2) contains everything accepted before any
    flushing operation (`Sync`, processed tick, the shutting-down `Stop`) that had completed by then -/
theorem crash_prefix (size : Int) (so : List Bool) (ops : List Op) (pre : List Ev)
    (hp : pre <+: (run (mk size [] so) ops).sink) :
    (∃ k, taken pre = ((writesOf ops).take k).flatten) ∧
    (∀ ops1 o ops2, ops = ops1 ++ o :: ops2 → FlushOp (run (mk size [] so) ops1) o →
        (run (mk size [] so) (ops1 ++ [o])).sink <+: pre → (writesOf ops1).flatten <+: taken pre) := by
  have R := rinv_run ops [] _ (rinv_mk size so)
  refine ⟨?_, ?_⟩
  · have := aligned_prefix R.aligned R.full pre hp
    simpa using this
  · intro ops1 o ops2 _ hf hpre
    have R1 := rinv_run (ops1 ++ [o]) [] _ (rinv_mk size so)
    have hst := stream_inv_reliable size so (ops1 ++ [o])
    have hr : run (mk size [] so) (ops1 ++ [o]) = (step (run (mk size [] so) ops1) o).1 := by
      rw [run_append]; rfl
    have hb : (run (mk size [] so) (ops1 ++ [o])).buf = [] := by
      rw [hr]
      apply flushop_empty _ o (wf_run ops1 _ (wf_mk _ _ _)) hf
      rw [← hr]; exact R1.rel.2
    have hw : writesOf (ops1 ++ [o]) = writesOf ops1 := by
      rw [writesOf_append]
      rcases hf with rfl | ⟨rfl | rfl, _⟩ <;> simp [writesOf]
    rw [hb, List.append_nil, hw] at hst
    rw [← hst]
    exact taken_prefix hpre

/-- **short count ⇒ error**: whenever `Write` reports fewer bytes than it was given it also reports an error
    (`io.Writer` contract; needs the loop of `bufio.Writer.Write` to have run to completion — `need_le_fuelFor`) -/
theorem short_count_has_error (size : Int) (wo : List WOut) (so : List Bool) (ops : List Op) (bs : Bytes)
    (h : (write (run (mk size wo so) ops) bs).2.1 < bs.length) :
    (write (run (mk size wo so) ops) bs).2.2 ≠ none :=
  (write_spec _ bs (wf_run ops _ (wf_mk size wo so)).bound).short_err h

/-- `Write` never reports more than it was given, and the error it returns is the one that sticks -/
theorem write_count_le (size : Int) (wo : List WOut) (so : List Bool) (ops : List Op) (bs : Bytes) :
    (write (run (mk size wo so) ops) bs).2.1 ≤ bs.length ∧
    (write (run (mk size wo so) ops) bs).2.2 = (write (run (mk size wo so) ops) bs).1.err :=
  ⟨(write_spec _ bs (wf_run ops _ (wf_mk size wo so)).bound).n_le,
   (write_spec _ bs (wf_run ops _ (wf_mk size wo so)).bound).err_eq⟩

/-- **the error is sticky** (bufio): after a failed or short sink write every later `Write` accepts nothing, hands the
    sink nothing and returns that error; `Sync` returns it too but still syncs the sink -/
theorem error_is_sticky (s : St) (e : EK) (he : s.err = some e) (bs : Bytes) :
    write s bs = ({ s with init := true }, 0, some e) ∧
    (s.init = true → (sync s).2.1 = some e ∧ (sync s).1.sink = s.sink ++ [.sync] ∧ (sync s).1.buf = s.buf) := by
  refine ⟨write_sticky s bs e he, fun hi => ?_⟩
  have hf : flush s = (s, some e) := (flush_spec s).sticky e he
  simp [sync, wsSync, hi, hf]

/-- a failed flush loses nothing: the bytes the sink did not take stay buffered (the stream invariant holds for
    failing sinks) and the flush error reaches the caller of `Sync` -/
theorem failed_flush_reported (s : St) (hi : s.init = true) (h : (sync s).1.buf ≠ []) : (sync s).2.1 ≠ none := by
  intro hn
  exact h ((sync_spec s).flushed (fun h' => by rw [hi] at h'; cases h') hn)

/-- size 4: "abc" is buffered, "de" does not fit ⇒ "abc" is flushed first and "de" buffered; Sync flushes it -/
example : (run (mk 4 [] []) [.write [97, 98, 99], .write [100, 101], .sync]).sink =
    [.write [97, 98, 99] 3, .write [100, 101] 2, .sync] := by decide

/-- a write larger than the buffer goes to the sink in one piece, after the buffered bytes -/
example : (run (mk 2 [] []) [.write [1], .write [2, 3, 4]]).sink = [.write [1] 1, .write [2, 3, 4] 3] := by decide

/-- exactly the free space: buffered, nothing reaches the sink; the tick flushes both writes as one sink write -/
example : (run (mk 3 [] []) [.write [1], .write [2, 3], .tick]).sink = [.write [1, 2, 3] 3, .sync] := by decide

/-- a short sink write (1 of 2 bytes, nil error) surfaces as `io.ErrShortWrite` from Sync, sticks, and the
    untaken byte stays buffered -/
example : (runRets (mk 4 [⟨1, false⟩] []) [.write [1, 2], .sync, .write [3]]) =
    [.wrote 2 none, .errs [.short], .wrote 0 (some .short)] ∧
    (run (mk 4 [⟨1, false⟩] []) [.write [1, 2], .sync, .write [3]]).buf = [2] := by decide

/-- F21 (not a violation of the statement, recorded here): bytes written after the shutdown stay buffered through a
    repeated `Stop` — which is a no-op — until the next `Sync` -/
example : (run (mk 4 [] []) [.write [1], .stop, .write [2], .stop]).buf = [2] ∧
    (run (mk 4 [] []) [.write [1], .stop, .write [2], .stop, .sync]).buf = [] := by decide

/-- the hypotheses of `sync_flushes` / `tick_flushes` / `stop_flushes` are satisfiable -/
example : (run (mk 4 [] []) [.write [1]]).init = true ∧ (run (mk 4 [] []) [.write [1]]).stopped = false ∧
    (stop (run (mk 4 [] []) [.write [1]])).2.1 = none := by decide

end Seq

/-! # Part 2 — the thread machine

Any number of goroutines calling `Write`, `Sync` and `Stop` in any order, the flush goroutine, ticks at any moment,
every interleaving (`BwsConc.Reach`).  `cfg.lockedWait = false ∧ cfg.waitFlushed = true` is the code as repaired
(issue 1428 upstream, F11 here); the two witnesses at the end show what each switch is there for. -/
namespace Conc
open ZapVerif.BwsConc

/-- **mutual exclusion**: at most one goroutine is inside a critical section of `s.mu` — so every concurrent run is,
    critical section by critical section, a sequential history of Part 1 -/
theorem mutex_excl (cfg : Cfg) (hc : cfg.lockedWait = false) (s : St) (h : Reach cfg s) :
    (∀ i j, inCS (s.cl i) = true → inCS (s.cl j) = true → i = j) ∧
    (s.loop = .inS → ∀ i, inCS (s.cl i) = false) := by
  have I := inv_reach cfg hc s h
  constructor
  · intro i j hi hj
    have a := (I.mu_cl i).2 hi
    have b := (I.mu_cl j).2 hj
    rw [a] at b; injection b
  · intro hl i
    cases hi : inCS (s.cl i) with
    | false => rfl
    | true =>
      have a := (I.mu_cl i).2 hi
      have b := I.mu_loop.2 hl
      rw [a] at b; cases b

/-- **no deadlock**: whenever a call is in flight or the flush goroutine is busy, some goroutine can move without
    anything arriving from outside (no new call, no tick) -/
theorem no_deadlock (cfg : Cfg) (hc : cfg.lockedWait = false) (s : St) (h : Reach cfg s) (hq : ¬ Quiescent s) :
    ∃ a s', a.internal = true ∧ step cfg s a = some s' := by
  obtain ⟨a, ha, hs⟩ := progress cfg hc s (inv_reach cfg hc s h) hq
  cases hst : step cfg s a with
  | none => rw [hst] at hs; cases hs
  | some t => exact ⟨a, t, ha, hst⟩

/-- … and every such step brings the system strictly closer to rest, so **every call returns**: finitely many
    internal steps lead from any reachable state to one where all clients are idle and the flush goroutine sits in
    its `select` (or has ended) -/
theorem calls_complete (cfg : Cfg) (hc : cfg.lockedWait = false) (s : St) (h : Reach cfg s) :
    ∃ acts s', (∀ a ∈ acts, a.internal = true) ∧ runActs cfg s acts = some s' ∧ Quiescent s' :=
  quiesces cfg hc _ s h (Nat.lt_succ_self _)

/-- **every Stop waits for the shutdown to complete** (the repair of F11) and **Stop ends the loop**: at the moment
    any `Stop` call returns on a stopped syncer (`cstep` into `retT`), the flush goroutine has returned and a flush has
    completed that covers every write accepted before the shutdown was signalled -/
theorem stop_returns_after_shutdown (cfg : Cfg) (hc : cfg.lockedWait = false) (hw : cfg.waitFlushed = true) (s s' : St)
    (h : Reach cfg s) (i : Nat) (hs : cstep cfg s i = some s') (hret : s'.cl i = .retT) (hst : s'.stopped = true) :
    s'.loop = .finished ∧ s'.accAtStop ≤ s'.flushed := by
  have I := inv_reach cfg hc s h
  have I' := inv_reach cfg hc s' (reach_step cfg s s' (.client i) h hs)
  have hk := ret_flushedClosed cfg hw s s' i I hs hret hst
  obtain ⟨_, h2, h3⟩ := flushedClosed_done cfg s' I' hk
  exact ⟨h3, h2⟩

theorem stop_ends_loop (cfg : Cfg) (hc : cfg.lockedWait = false) (hw : cfg.waitFlushed = true) (s s' : St)
    (h : Reach cfg s) (i : Nat) (hs : cstep cfg s i = some s') (hret : s'.cl i = .retT) (hst : s'.stopped = true) :
    s'.loop = .finished := (stop_returns_after_shutdown cfg hc hw s s' h i hs hret hst).1

theorem stop_flushes_conc (cfg : Cfg) (hc : cfg.lockedWait = false) (hw : cfg.waitFlushed = true) (s s' : St)
    (h : Reach cfg s) (i : Nat) (hs : cstep cfg s i = some s') (hret : s'.cl i = .retT) (hst : s'.stopped = true) :
    s'.accAtStop ≤ s'.flushed := (stop_returns_after_shutdown cfg hc hw s s' h i hs hret hst).2

/-- … and it never comes back: no goroutine is left behind after `Stop` -/
theorem loop_stays_finished (cfg : Cfg) (hc : cfg.lockedWait = false) (s s' : St) (a : Act) (h : Reach cfg s)
    (hl : s.loop = .finished) (hs : step cfg s a = some s') : s'.loop = .finished := by
  have I := inv_reach cfg hc s h
  have hin : s.init = true := by
    cases hi : s.init with
    | true => rfl
    | false => have := I.loop_init.2 hi; rw [hl] at this; cases this
  have hstart : ∀ i pc, start cfg s i pc = some s' → s'.loop = .finished := by
    intro i pc h
    unfold start at h
    split at h
    · injection h with h; subst h; exact hl
    · cases h
  cases a with
  | write i => exact hstart i _ hs
  | sync i => exact hstart i _ hs
  | stop i => exact hstart i _ hs
  | tick => simp [step, hl] at hs
  | loop => simp [step, lstep, hl] at hs
  | client i =>
    apply cstep_elim (show cstep cfg s i = some s' from hs)
    case write => exact fun _ => by rw [hin]; exact hl
    all_goals intros; exact hl

/-- **Stop may be called repeatedly, from anywhere**: neither `close(s.stop)` nor `close(s.flushed)` ever runs twice
    (a second close would panic), `stop` is closed exactly when `stopped` is set, a stopped syncer was initialised, and
    at most one `Stop` call is ever the one that shuts down -/
theorem stop_idempotent_conc (cfg : Cfg) (hc : cfg.lockedWait = false) (s : St) (h : Reach cfg s) :
    s.panicked = false ∧ s.stopClosed = s.stopped ∧ (s.stopped = true → s.init = true) ∧
    (∀ i j, shutting (s.cl i) = true → shutting (s.cl j) = true → i = j) := by
  have I := inv_reach cfg hc s h
  exact ⟨I.no_panic, I.closed_eq, I.stopped_init, I.unique⟩

/-- a `Stop` on a syncer that was never initialised or is already stopped changes nothing but its own pc and the mutex -/
theorem stop_again_noop (cfg : Cfg) (s : St) (i : Nat) (hi : s.cl i = .inT) (hst : (!s.init || s.stopped) = true) :
    ∃ pc, cstep cfg s i = some { s with cl := upd s.cl i pc, mu := .free } := by
  cases hin : s.init with
  | false => exact ⟨.retT, by simp [cstep, hi, hin]⟩
  | true =>
    have : s.stopped = true := by simpa [hin] using hst
    exact ⟨if cfg.waitFlushed then .waitFlushed else .retT, by simp [cstep, hi, hin, this]⟩

def run1428 : List Act :=
  [.write 0, .client 0, .client 0,          -- one Write: initialised, the flush goroutine sits in its select
   .tick,                                    -- a tick arrives: the goroutine is about to call s.Sync()
   .stop 0, .client 0, .client 0]            -- Stop: s.mu, close(stop) — and waits for `done` under s.mu

/-- **issue 1428**: with the wait for `done` inside the critical section the machine deadlocks — `Stop` holds `s.mu`
    and waits for the flush goroutine, which waits for `s.mu`; `no_deadlock` is sensitive to exactly this -/
theorem lock_held_wait_deadlocks :
    ∃ s, Reach { n := 1, lockedWait := true } s ∧ ¬ Quiescent s ∧
      ∀ a, a.internal = true → step { n := 1, lockedWait := true } s a = none := by
  have hrun : ((runActs { n := 1, lockedWait := true } init run1428).map
      fun s => (s.cl 0, s.loop, s.mu)) = some (.inTwait, .wantS, .client 0) := by decide
  cases hr : runActs { n := 1, lockedWait := true } init run1428 with
  | none => rw [hr] at hrun; cases hrun
  | some s =>
    rw [hr] at hrun
    simp only [Option.map_some, Option.some.injEq, Prod.mk.injEq] at hrun
    obtain ⟨h0, hl, hm⟩ := hrun
    have hreach : Reach { n := 1, lockedWait := true } s := ⟨run1428, hr⟩
    refine ⟨s, hreach, ?_, ?_⟩
    · intro hq; have := hq.1 0; rw [h0] at this; cases this
    · intro a ha
      cases a with
      | client i =>
        by_cases hi : i = 0
        · subst hi; simp [step, cstep, h0, hl]
        · have := bound_reach _ s hreach i (by simp only []; omega)
          simp [step, cstep, this]
      | loop => simp [step, lstep, hl, hm]
      | write i => cases ha
      | sync i => cases ha
      | stop i => cases ha
      | tick => cases ha

def runF11 : List Act :=
  [.write 0, .client 0, .client 0,           -- one Write is buffered
   .stop 0, .client 0, .client 0,             -- Stop #1 signals the shutdown and waits for `done`
   .stop 1, .client 1, .client 1]             -- Stop #2 finds `stopped` set and returns

/-- **F11**: when a `Stop` that finds the syncer stopped does not wait for `flushed`, a second, concurrent `Stop`
    returns while the buffered write has not been flushed and the flush goroutine is still running;
    `stop_returns_after_shutdown` is sensitive to exactly this -/
theorem second_stop_returns_early :
    ∃ s, Reach { n := 2, waitFlushed := false } s ∧ s.cl 1 = .retT ∧ s.stopped = true ∧
      s.flushed < s.accAtStop ∧ s.loop ≠ .finished := by
  have hrun : ((runActs { n := 2, waitFlushed := false } init runF11).map
      fun s => (s.cl 1, s.stopped, s.flushed, s.accAtStop, s.loop)) = some (.retT, true, 0, 1, .select) := by decide
  cases hr : runActs { n := 2, waitFlushed := false } init runF11 with
  | none => rw [hr] at hrun; cases hrun
  | some s =>
    rw [hr] at hrun
    simp only [Option.map_some, Option.some.injEq, Prod.mk.injEq] at hrun
    obtain ⟨h1, h2, h3, h4, h5⟩ := hrun
    exact ⟨s, ⟨runF11, hr⟩, h1, h2, by omega, by rw [h5]; simp⟩

/-- non-vacuity of the repaired machine: on the same schedule the second `Stop` is held at `<-flushed` -/
example : ((runActs { n := 2 } init runF11).map
      fun s => (s.cl 0, s.cl 1, s.flushedClosed, (step { n := 2 } s (.client 1)).isSome)) =
    some (.waitDone, .waitFlushed, false, false) := by decide

/-- … and a complete run: Write, two concurrent Stops, everything returns, the goroutine is gone, all is flushed -/
example : ((runActs { n := 2 } init
      (runF11 ++ [.loop, .client 0, .client 0, .client 0, .client 0, .client 1, .client 0, .client 1])).map
      fun s => (s.cl 0, s.cl 1, s.loop, s.stopped, s.flushed, s.accAtStop, s.panicked)) =
    some (.idle, .idle, .finished, true, 1, 1, false) := by rfl

/-- the hypotheses of `stop_returns_after_shutdown` are satisfiable: the step that lets the second `Stop` return -/
example : ((runActs { n := 2 } init
      (runF11 ++ [.loop, .client 0, .client 0, .client 0, .client 0])).bind
      fun s => (cstep { n := 2 } s 1).map fun s' => (s'.cl 1, s'.stopped, s'.loop, s'.flushed)) =
    some (.retT, true, .finished, 1) := by rfl

/-! ## the tie of the thread machine to the source (table `Gen/BwsFacts.lean`, re-extracted on every run) -/

/-- the synchronisation skeleton `BwsConc.cstep` / `lstep` were transcribed from: mutexes, channels and flags of the
    type, and every method's lock / unlock / close / receive / go / flag assignment / own-method call with the control
    structure around them.  (`Write` and `Sync` take `s.mu` with a deferred unlock; `initialize` starts exactly one
    flush goroutine; `flushLoop` selects on `ticker.C` and `stop` without a default and closes `done` when it returns;
    `Stop` tests the two flags and signals under `s.mu`; a call that found `stopped` set waits for `flushed`; the call
    that shuts down waits for `done`, syncs, and closes `flushed` when it returns.) -/
def expectedSkeleton : List (String × List (String × String)) := [
  ("Stop", [("func-call", ""), ("lock", "s.mu"), ("defer-unlock", "s.mu"),
              ("if", "!s.initialized"), ("return", ""), ("end", ""),
              ("if", "s.stopped"), ("read", "flushed = s.flushed"), ("return", ""), ("end", ""),
              ("set", "s.stopped = true"), ("close", "s.stop"), ("return", ""), ("end", ""),
            ("if", "!stopped"),
              ("if", "flushed != nil"), ("recv", "flushed"), ("end", ""),
              ("return", ""), ("end", ""),
            ("defer-close", "s.flushed"), ("recv", "s.done"), ("call", "s.Sync"), ("return", "")]),
  ("Sync", [("lock", "s.mu"), ("defer-unlock", "s.mu"), ("if", "s.initialized"), ("end", ""), ("return", "")]),
  ("Write", [("lock", "s.mu"), ("defer-unlock", "s.mu"),
             ("if", "!s.initialized"), ("call", "s.initialize"), ("end", ""),
             ("if", "…"), ("if", "…"), ("return", ""), ("end", ""), ("end", ""), ("return", "")]),
  ("flushLoop", [("defer-close", "s.done"), ("for", ""), ("select", ""),
                 ("case-recv", "s.ticker.C"), ("call", "s.Sync"),
                 ("case-recv", "s.stop"), ("return", ""), ("end", ""), ("end", "")]),
  ("initialize", [("set", "s.stop = make(…)"), ("set", "s.done = make(…)"), ("set", "s.flushed = make(…)"),
                  ("set", "s.initialized = true"), ("go", "s.flushLoop")])]

theorem skeleton_as_modelled :
    Gen.bwsSkeleton = expectedSkeleton ∧
    Gen.bwsSyncFields = ["mu sync.Mutex", "initialized bool", "stopped bool", "stop chan", "done chan", "flushed chan"] :=
  ⟨rfl, rfl⟩

/-- what the machine's shape depends on, read off the extracted skeleton by the lock-set analysis `BwsSkel.heldAt`:
    `Stop` waits for `done`, waits for `flushed` and runs its final `Sync` holding no mutex — in particular not `s.mu`
    (issue 1428) —, tests and sets `stopped`, copies `s.flushed` and closes `stop` under `s.mu`, the flush goroutine
    calls `Sync` holding nothing, and `initialize` (hence `go flushLoop`) runs under `s.mu` -/
theorem waits_outside_mu :
    BwsSkel.heldWhen Gen.bws_Stop ("recv", "s.done") = [[]] ∧
    BwsSkel.heldWhen Gen.bws_Stop ("recv", "flushed") = [[]] ∧
    BwsSkel.heldWhen Gen.bws_Stop ("call", "s.Sync") = [[]] ∧
    BwsSkel.heldWhen Gen.bws_Stop ("close", "s.stop") = [["s.mu"]] ∧
    BwsSkel.heldWhen Gen.bws_Stop ("set", "s.stopped = true") = [["s.mu"]] ∧
    BwsSkel.heldWhen Gen.bws_Stop ("read", "flushed = s.flushed") = [["s.mu"]] ∧
    BwsSkel.heldWhen Gen.bws_flushLoop ("call", "s.Sync") = [[]] ∧
    BwsSkel.heldWhen Gen.bws_Write ("call", "s.initialize") = [["s.mu"]] := by
  decide +kernel

end Conc

/-! # Part 3 — the thread machine with bytes refines the sequential model

`Model/BwsConcBytes.lean`: the machine of Part 2 carrying the byte-level state of Part 1; every critical section of
`s.mu` executes its effect (`Bws.write`, `Bws.sync`, the first section of `Stop`) as one step.  `conc_refines_seq` is the
linearizability statement; the corollaries carry Part 1 over to ALL interleavings.  `d0` is the syncer nobody has
touched yet (`Bws.mk size wo so`: size, scripted sink). -/
namespace ConcBytes
open ZapVerif ZapVerif.Bws ZapVerif.BwsCB

/-- **linearizability**: for every schedule `acts` of the repaired machine that can run, with `s` the state reached:
    the linearization of the schedule — its critical sections in the order they acquired `s.mu`, a function of the
    schedule — is the list `s.hist` of completed sections followed by the at most one section in flight; the byte-level
    state (sink calls, bufio buffer, sticky error, scripts) is exactly what the sequential model computes by running the
    completed sections in that order; and every completed section returned what the sequential model returns there -/
theorem conc_refines_seq (cfg : BwsConc.Cfg) (hlw : cfg.lockedWait = false) (d0 : Bws.St) (h0 : Fresh d0)
    (acts : List Act) (s : BwsCB.St) (h : runActs cfg (init d0) acts = some s) :
    linearization cfg d0 acts = s.hist ++ inflight s ∧
    (inflight s).length ≤ 1 ∧ (s.c.mu = .free → inflight s = []) ∧
    s.d = lrun d0 (ops s.hist) ∧
    s.rets = lrets d0 (ops s.hist) := by
  have hJ := J_reach cfg hlw d0 h0 s ⟨acts, h⟩
  refine ⟨by simp only [linearization, h]; exact hJ.lin, ?_, ?_, hJ.data, hJ.rets⟩
  · unfold inflight; split <;> simp
  · intro hf; simp [inflight, hf]

/-- the linearization only grows along a schedule, by exactly the section that acquired the mutex in that step -/
theorem linearization_step (cfg : BwsConc.Cfg) (s s' : BwsCB.St) (a : Act) (h : BwsCB.step cfg s a = some s') :
    s'.acqs = s.acqs ∨ ∃ w o, s'.acqs = s.acqs ++ [(w, o)] ∧ s.c.mu = .free := by
  rcases step_cases cfg s s' a h with ⟨h1, _⟩ | ⟨w, o, hf, h1, _⟩ | ⟨_, _, h1, _⟩
  · exact .inl h1
  · exact .inr ⟨w, o, h1, hf⟩
  · exact .inl h1

/-- completed sections are never reordered or dropped: `hist` only grows, at the end.  In particular a `Write` that
    had returned before some `Sync` call started is in `hist` then, hence among the sections that acquired the mutex
    before that `Sync`'s section (`sync_flushes_conc`): real-time order is respected by the linearization -/
theorem hist_monotone (cfg : BwsConc.Cfg) (s s' : BwsCB.St) (a : Act) (h : BwsCB.step cfg s a = some s') :
    s.hist <+: s'.hist := by
  rcases step_cases cfg s s' a h with ⟨_, h2⟩ | ⟨_, _, _, _, h2⟩ | ⟨_, _, _, h2⟩ <;> rw [h2]
  · exact List.prefix_refl _
  · exact List.prefix_refl _
  · exact List.prefix_append _ _

theorem hist_monotone_run (cfg : BwsConc.Cfg) (acts : List Act) : ∀ (s s' : BwsCB.St), runActs cfg s acts = some s' →
    s.hist <+: s'.hist := by
  intro s s' h
  exact runActs_induct (P := fun t => s.hist <+: t.hist) (fun t a t' ht hs => ht.trans (hist_monotone cfg t t' a hs)) acts s s'
    (List.prefix_refl _) h

/-- sequential histories are the special case of one goroutine: Part 1's `run` is `lrun` of the expanded history -/
theorem seq_is_linearized (s : Bws.St) (os : List Bws.Op) : lrun s (expand s os) = Bws.run s os := lrun_expand os s

/-- everything Part 2 proves about the control skeleton holds for the machine with bytes: its control projection is
    reachable there, and a step is enabled exactly when its control part is (bytes never block) -/
theorem control_is_part2 (cfg : BwsConc.Cfg) (d0 : Bws.St) (s : BwsCB.St) (h : Reach cfg d0 s) :
    BwsConc.Reach cfg s.c ∧ ∀ a, (BwsCB.step cfg s a).isSome = (BwsConc.step cfg s.c a.ctl).isSome :=
  ⟨reach_ctl cfg d0 s h, step_isSome cfg s⟩

/-- hence no deadlock with bytes either -/
theorem no_deadlock_bytes (cfg : BwsConc.Cfg) (hlw : cfg.lockedWait = false) (d0 : Bws.St) (s : BwsCB.St) (h : Reach cfg d0 s)
    (hq : ¬ BwsConc.Quiescent s.c) : ∃ a s', a.internal = true ∧ BwsCB.step cfg s a = some s' := by
  obtain ⟨a, c', ha, hs⟩ := Conc.no_deadlock cfg hlw s.c (reach_ctl cfg d0 s h) hq
  have lift : ∀ b : Act, b.ctl = a → ∃ s', b.internal = true ∧ BwsCB.step cfg s b = some s' := by
    intro b hb
    have : (BwsCB.step cfg s b).isSome = true := by rw [step_isSome, hb, hs]; rfl
    cases hst : BwsCB.step cfg s b with
    | none => rw [hst] at this; cases this
    | some t => exact ⟨t, by simp [Act.internal, hb, ha], rfl⟩
  cases a with
  | client i => obtain ⟨t, h1, h2⟩ := lift (.client i) rfl; exact ⟨_, t, h1, h2⟩
  | loop => obtain ⟨t, h1, h2⟩ := lift .loop rfl; exact ⟨_, t, h1, h2⟩
  | write i => cases ha
  | sync i => cases ha
  | stop i => cases ha
  | tick => cases ha

/-- **stream invariant, all interleavings, any sink**: at every reachable state what the sink took followed by the
    buffer is the concatenation of the accepted parts of the Writes, in the order their sections acquired the mutex -/
theorem stream_inv_conc (cfg : BwsConc.Cfg) (hlw : cfg.lockedWait = false) (size : Int) (wo : List WOut) (so : List Bool)
    (s : BwsCB.St) (h : Reach cfg (mk size wo so) s) :
    taken s.d.sink ++ s.d.buf = laccepted (mk size wo so) (ops s.hist) := by
  have hJ := J_reach cfg hlw _ (fresh_mk size wo so) s h
  have := content_lrun (ops s.hist) (mk size wo so) (wf_mk size wo so)
  rw [← hJ.data] at this
  simpa [content, mk] using this

/-- **bounded buffering, all interleavings** -/
theorem bounded_conc (cfg : BwsConc.Cfg) (hlw : cfg.lockedWait = false) (size : Int) (wo : List WOut) (so : List Bool)
    (s : BwsCB.St) (h : Reach cfg (mk size wo so) s) : s.d.buf.length ≤ effSize size := by
  have hJ := J_reach cfg hlw _ (fresh_mk size wo so) s h
  have hb := hJ.wf.bound
  have hs : s.d.size = effSize size := by rw [hJ.data, lrun_size _ _ (wf_mk size wo so)]; rfl
  rw [hs] at hb; exact hb

/-- **whole writes, all interleavings** (reliable sink): the Writes, in acquisition order, are cut into contiguous
    groups; every sink write is the concatenation of one group — no goroutine's write is ever split or interleaved with
    another's — and the buffer holds the Writes after the last group -/
theorem whole_writes_conc (cfg : BwsConc.Cfg) (hlw : cfg.lockedWait = false) (size : Int) (so : List Bool)
    (s : BwsCB.St) (h : Reach cfg (mk size [] so) s) :
    ∃ (groups : List (List Bytes)) (pending : List Bytes),
      lwritesOf (ops s.hist) = groups.flatten ++ pending ∧
      sinkWrites s.d.sink = groups.map List.flatten ∧ s.d.buf = pending.flatten := by
  have hJ := J_reach cfg hlw _ (fresh_mk size [] so) s h
  have R := rinv_lrun (ops s.hist) [] _ (rinv_mk size so)
  rw [← hJ.data] at R
  simpa [Aligned] using R.aligned

/-- a goroutine is inside a critical section that ends with `s.Sync()`'s effect: a client's `Sync`, the final `Sync`
    of the `Stop` that shuts down, or the flush goroutine processing a tick -/
def InSync (s : BwsCB.St) : Who → Prop
  | .client i => s.c.cl i = .inS ∨ s.c.cl i = .inF
  | .loop => s.c.loop = .inS

def whoAct : Who → Act
  | .client i => .client i
  | .loop => .loop

/-- **Sync flushes, all interleavings**: when the section of a `Sync` (by a client, by a tick, or `Stop`'s final one)
    completes, it has applied the sequential `Bws.sync` to the state produced by exactly the sections that acquired the
    mutex before it; it returns what `Bws.sync` returns; and if the flush reported no error then every byte accepted by
    those earlier Writes is in the sink, nothing is buffered, and (once initialised) the sink's last call was `Sync` -/
theorem sync_flushes_conc (cfg : BwsConc.Cfg) (hlw : cfg.lockedWait = false) (size : Int) (wo : List WOut) (so : List Bool)
    (s s' : BwsCB.St) (w : Who) (h : Reach cfg (mk size wo so) s) (hin : InSync s w) (hs : BwsCB.step cfg s (whoAct w) = some s') :
    s.acqs = s.hist ++ [(w, .sync)] ∧ s'.hist = s.hist ++ [(w, .sync)] ∧
    s'.d = (Bws.sync s.d).1 ∧ s'.rets = s.rets ++ [.errs (errList (Bws.sync s.d).2)] ∧
    ((Bws.sync s.d).2.1 = none →
      taken s'.d.sink = laccepted (mk size wo so) (ops s.hist) ∧ s'.d.buf = [] ∧
      (s.d.init = true → s'.d.sink.getLast? = some .sync)) := by
  have hJ := J_reach cfg hlw _ (fresh_mk size wo so) s h
  have hJ' := J_reach cfg hlw _ (fresh_mk size wo so) s' (reach_step cfg _ s s' _ h hs)
  have key : s'.d = (Bws.sync s.d).1 ∧ s'.hist = s.hist ++ [(w, .sync)] ∧
      s'.rets = s.rets ++ [.errs (errList (Bws.sync s.d).2)] ∧ inflight s = [(w, .sync)] := by
    unfold BwsCB.step at hs
    cases hc : BwsConc.step cfg s.c (whoAct w).ctl with
    | none => rw [hc] at hs; cases hs
    | some c' =>
      rw [hc] at hs; injection hs with hs; subst hs
      cases w with
      | loop =>
        have hl : s.c.loop = .inS := hin
        have hmu : s.c.mu = .loop := hJ.ctl.mu_loop.2 hl
        simp [whoAct, effect, hl, fin, lstep, inflight, hmu]
      | client i =>
        rcases hin with hpc | hpc
        · have hmu : s.c.mu = .client i := (hJ.ctl.mu_cl i).2 (by rw [hpc]; rfl)
          simp [whoAct, effect, hpc, fin, lstep, inflight, hmu, opOf]
        · have hmu : s.c.mu = .client i := (hJ.ctl.mu_cl i).2 (by rw [hpc]; rfl)
          simp [whoAct, effect, hpc, fin, lstep, inflight, hmu, opOf]
  obtain ⟨k1, k2, k3, k4⟩ := key
  refine ⟨by rw [hJ.lin, k4], k2, k1, k3, fun he => ?_⟩
  have S := sync_spec s.d
  have herr : (Bws.sync s.d).1.err = none := by
    cases hi : s.d.init with
    | true => rw [← S.err_eq hi]; exact he
    | false => rw [(S.err_keep hi).1]; exact (hJ.wf.fresh hi).2.2
  obtain ⟨hb, hl⟩ := sync_section_flushes s.d hJ.wf herr
  have hst := stream_inv_conc cfg hlw size wo so s' (reach_step cfg _ s s' _ h hs)
  rw [k1, hb, List.append_nil, k2, ops_snoc, laccepted_append] at hst
  simp only [laccepted, List.append_nil] at hst
  exact ⟨by rw [k1]; exact hst, by rw [k1]; exact hb, fun hi => by rw [k1]; exact hl hi⟩

/-- **Stop flushes, all interleavings, byte level** (repaired protocol): at the moment ANY `Stop` call returns on a
    stopped syncer, the final `Sync` of the call that shut it down has completed: it is a completed section `k` of the
    linearization, after the section that set `stopped`; the sink has since only grown; and if that flush reported no
    error, nothing was buffered after it and every byte accepted by Writes that acquired the mutex before the shutdown
    was signalled (indeed before that final `Sync`) is in the sink now -/
theorem stop_flushes_conc_bytes (cfg : BwsConc.Cfg) (hlw : cfg.lockedWait = false) (hw : cfg.waitFlushed = true)
    (size : Int) (wo : List WOut) (so : List Bool) (s s' : BwsCB.St) (i : Nat)
    (h : Reach cfg (mk size wo so) s) (hs : BwsCB.step cfg s (.client i) = some s')
    (hret : s'.c.cl i = .retT) (hst : s'.c.stopped = true) :
    ∃ sF, s'.finalSt = some sF ∧ s'.markLen < s'.finalLen ∧ s'.finalLen ≤ s'.hist.length ∧
      (ops (s'.hist.take s'.finalLen)).getLast? = some .sync ∧
      sF = lrun (mk size wo so) (ops (s'.hist.take s'.finalLen)) ∧
      sF.sink <+: s'.d.sink ∧
      (sF.err = none → sF.buf = [] ∧
        taken sF.sink = laccepted (mk size wo so) (ops (s'.hist.take s'.finalLen)) ∧
        laccepted (mk size wo so) (ops (s'.hist.take s'.markLen)) <+: taken s'.d.sink) := by
  have hJ := J_reach cfg hlw _ (fresh_mk size wo so) s h
  have hJ' := J_reach cfg hlw _ (fresh_mk size wo so) s' (reach_step cfg _ s s' _ h hs)
  have hctl := step_ctl cfg s s' _ hs
  have hfc : s'.c.flushedClosed = true := BwsConc.ret_flushedClosed cfg hw s.c s'.c i hJ.ctl hctl hret hst
  cases hF : s'.finalSt with
  | none => have := (hJ'.fin_none hF).1; rw [hfc] at this; cases this
  | some sF =>
    obtain ⟨_, b, c, d, e⟩ := hJ'.fin_some sF hF
    have hsplit : ops s'.hist = ops (s'.hist.take s'.finalLen) ++ ops (s'.hist.drop s'.finalLen) := by
      simp only [ops, ← List.map_append, List.take_append_drop]
    have hpre : sF.sink <+: s'.d.sink := by
      rw [hJ'.data, hsplit, lrun_append, ← d]; exact lrun_sink_prefix _ _
    refine ⟨sF, rfl, c, b, e, d, hpre, fun herr => ?_⟩
    -- the last section of the prefix is a Sync: its effect
    obtain ⟨pre, hpreq⟩ : ∃ pre, ops (s'.hist.take s'.finalLen) = pre ++ [.sync] :=
      List.getLast?_eq_some_iff.mp e
    have hsF : sF = (Bws.sync (lrun (mk size wo so) pre)).1 := by rw [d, hpreq, lrun_snoc]; rfl
    have hwf : Wf (lrun (mk size wo so) pre) := wf_lrun _ _ (wf_mk size wo so)
    have hb : sF.buf = [] := by rw [hsF]; exact (sync_section_flushes _ hwf (by rw [← hsF]; exact herr)).1
    have hct := content_lrun (ops (s'.hist.take s'.finalLen)) (mk size wo so) (wf_mk size wo so)
    rw [← d] at hct
    have htk : taken sF.sink = laccepted (mk size wo so) (ops (s'.hist.take s'.finalLen)) := by
      simpa [content, hb, mk] using hct
    refine ⟨hb, htk, ?_⟩
    have hmk : s'.hist.take s'.markLen = (s'.hist.take s'.finalLen).take s'.markLen := by
      rw [List.take_take, Nat.min_eq_left (Nat.le_of_lt c)]
    have hsp : ops (s'.hist.take s'.finalLen) = ops (s'.hist.take s'.markLen) ++ ops ((s'.hist.take s'.finalLen).drop s'.markLen) := by
      rw [hmk]; simp only [ops, ← List.map_append, List.take_append_drop]
    have h1 : laccepted (mk size wo so) (ops (s'.hist.take s'.markLen)) <+: taken sF.sink := by
      rw [htk, hsp, laccepted_append]; exact List.prefix_append _ _
    exact h1.trans (taken_prefix hpre)

/-- **crash prefix, all interleavings** (reliable sink): whatever prefix of its calls the sink has completed when the
    process dies, at any point of any schedule, its content is cut at a boundary between Writes (taken in acquisition
    order) and contains every Write that acquired the mutex before any `Sync` section (client's, tick's or `Stop`'s
    final one) that had completed by then -/
theorem crash_prefix_conc (cfg : BwsConc.Cfg) (hlw : cfg.lockedWait = false) (size : Int) (so : List Bool)
    (s : BwsCB.St) (h : Reach cfg (mk size [] so) s) (pre : List Ev) (hp : pre <+: s.d.sink) :
    (∃ k, taken pre = ((lwritesOf (ops s.hist)).take k).flatten) ∧
    (∀ h1 w h2, s.hist = h1 ++ (w, .sync) :: h2 →
        (lrun (mk size [] so) (ops (h1 ++ [(w, .sync)]))).sink <+: pre →
        (lwritesOf (ops h1)).flatten <+: taken pre) := by
  have hJ := J_reach cfg hlw _ (fresh_mk size [] so) s h
  have R := rinv_lrun (ops s.hist) [] _ (rinv_mk size so)
  rw [← hJ.data] at R
  refine ⟨by simpa using aligned_prefix R.aligned R.full pre hp, ?_⟩
  intro h1 w h2 _ hpre
  have R1 := rinv_lrun (ops h1) [] _ (rinv_mk size so)
  have hsy := sync_reliable _ R1.rel (fun hi => (R1.wf.fresh hi).1)
  have hrun : lrun (mk size [] so) (ops (h1 ++ [(w, .sync)])) = (Bws.sync (lrun (mk size [] so) (ops h1))).1 := by
    rw [ops_snoc, lrun_snoc]; rfl
  have hct := content_lrun (ops (h1 ++ [(w, .sync)])) (mk size [] so) (wf_mk size [] so)
  rw [hrun] at hct hpre
  have hacc : laccepted (mk size [] so) (ops (h1 ++ [(w, .sync)])) = (lwritesOf (ops h1)).flatten := by
    rw [laccepted_reliable _ [] _ (rinv_mk size so), ops_snoc, lwritesOf_append]; simp [lwritesOf]
  rw [hacc] at hct
  have hc0 : content (mk size [] so) = [] := rfl
  have hb := hsy.2.2.1
  rw [hc0, List.nil_append] at hct
  unfold content at hct
  rw [hb, List.append_nil] at hct
  rw [← hct]
  exact taken_prefix hpre

/-! ## non-vacuity: three goroutines — a Write larger than the buffer racing a tick and a Stop -/

/-- client 0 writes "ab" (initialises, size 4); then client 1 calls Write of 5 bytes, a tick arrives and client 2 calls
    Stop, all three pending at once.  Schedule A: the big Write gets the mutex first, then the tick's Sync, then Stop. -/
def raceA : List Act :=
  [.write 0 [97, 98], .client 0, .client 0,
   .write 1 [1, 2, 3, 4, 5], .tick, .stop 2,
   .client 1, .client 1,                 -- big Write: flushes "ab", then goes to the sink in one piece
   .loop, .loop,                         -- the tick's Sync
   .client 2, .client 2,                 -- Stop's first section; then it waits for `done`
   .loop,                                -- the flush goroutine returns
   .client 2, .client 2, .client 2, .client 2, .client 2]   -- final Sync, close(flushed), return

example : ((runActs { n := 3 } (init (mk 4 [] [])) raceA).map fun s => (ops s.acqs, s.d.sink, s.d.buf, s.rets)) =
    some ([.write [97, 98], .write [1, 2, 3, 4, 5], .sync, .mark, .sync],
          [.write [97, 98] 2, .write [1, 2, 3, 4, 5] 5, .sync, .sync], [],
          [.wrote 2 none, .wrote 5 none, .errs [], .nothing, .errs []]) := by decide

/-- Schedule B: the tick's Sync wins, Stop's first section comes next, the big Write lands between the two halves of
    Stop and is flushed by Stop's final Sync section (it is larger than the buffer, so it went straight to the sink) -/
def raceB : List Act :=
  [.write 0 [97, 98], .client 0, .client 0,
   .write 1 [1, 2, 3, 4, 5], .tick, .stop 2,
   .loop, .loop,                         -- the tick's Sync flushes "ab"
   .client 2, .client 2,                 -- Stop's first section
   .client 1, .client 1,                 -- the big Write, after the shutdown was signalled
   .loop,
   .client 2, .client 2, .client 2, .client 2, .client 2]

example : ((runActs { n := 3 } (init (mk 4 [] [])) raceB).map fun s => (ops s.acqs, s.d.sink, s.markLen, s.finalLen)) =
    some ([.write [97, 98], .sync, .mark, .write [1, 2, 3, 4, 5], .sync],
          [.write [97, 98] 2, .sync, .write [1, 2, 3, 4, 5] 5, .sync], 3, 5) := by decide

/-- the hypotheses of `sync_flushes_conc` and `stop_flushes_conc_bytes` are satisfiable on these schedules -/
example : ((runActs { n := 3 } (init (mk 4 [] [])) (raceA.take 9)).map fun s => (s.c.loop, (Bws.sync s.d).2.1)) =
    some (.inS, none) := by decide

example : ((runActs { n := 3 } (init (mk 4 [] [])) (raceA.take 16)).bind fun s =>
      (BwsCB.step { n := 3 } s (.client 2)).map fun s' => (s'.c.cl 2, s'.c.stopped, s'.finalSt.map (·.err))) =
    some (.retT, true, some none) := by decide

end ConcBytes

end ZapVerif.C12

/-! ## `BufferedWriteSyncer.Write/Sync` ARE the source (table `Gen/TransLocked.lean`)

The bufio.Writer is a value with parameters `avail`, `buffered`, `flush`, `bwrite` (Model/Bws.lean instantiates them with
`St.avail`, `buf.length`, `flush`, `bufioWrite`).  For every writer, every chunk and every outcome the interpreted
functions: take the mutex first and release it LAST on every path (`defer s.mu.Unlock()`), initialise once, flush
first exactly when the chunk does not fit and something is buffered — the rule behind `whole_writes` — return
`(0, err)` without writing when that flush fails, and otherwise do one `bufio.Write`; `Sync` flushes (if initialised),
then syncs the sink, and returns both errors.  `bws_write_shape_is_model` shows that `Bws.write` has this shape. -/
namespace ZapVerif.C12
open ZapVerif ZapVerif.GoMini ZapVerif.TransLocked ZapVerif.Gen.TransLocked

def evLock (mu : Val) : Val := .list [TransLocked.nm "Mutex.Lock", mu]
def evUnlock (mu : Val) : Val := .list [TransLocked.nm "Mutex.Unlock", mu]
def evFlush (w : Val) : Val := .list [TransLocked.nm "bufio.Flush", w]
def evBWrite (w : Val) (bs : Bytes) : Val := .list [TransLocked.nm "bufio.Write", w, .bytes bs]
def evWSync (ws : Val) : Val := .list [TransLocked.nm "WriteSyncer.Sync", ws]

/-- result, final writer and recorded calls of `BufferedWriteSyncer.Write` on an initialised writer `w0` -/
def bwsWriteSpec (P : Par) (mu w0 : Val) (bs : Bytes) : (Val × Nat × List Val) × List Val :=
  (writeShape (fun e : List Val => !e.isEmpty) P.avail P.buffered P.flush P.bwrite w0 bs,
   [evLock mu] ++
   (if (bs.length : Int) > P.avail w0 ∧ P.buffered w0 > 0 then
      (if (P.flush w0).2 ≠ [] then [evFlush w0] else [evFlush w0, evBWrite (P.flush w0).1 bs])
    else [evBWrite w0 bs]) ++ [evUnlock mu])

theorem BufferedWriteSyncer_Write_matches_source (P : Par) (mu : Val) (init : Bool) (w ws : Val) (size : Int) (bs : Bytes)
    (ev : List Val) (fuel : Nat) :
    run (X P) (fuel + 1) "BufferedWriteSyncer_Write" [.bytes bs] (bwFld mu init w ws size ev) =
      .done [.int (bwsWriteSpec P mu (if init then w else P.init w ws size) bs).1.2.1,
             .list (bwsWriteSpec P mu (if init then w else P.init w ws size) bs).1.2.2]
        (bwFld mu true (bwsWriteSpec P mu (if init then w else P.init w ws size) bs).1.1 ws size
          (ev ++ (bwsWriteSpec P mu (if init then w else P.init w ws size) bs).2)) := by
  refine run_of_exec (X_funs P) funs_BufferedWriteSyncer_Write rfl ?_
  -- lock, then `initialize()` on first use
  simp [BufferedWriteSyncer_Write_body]
  -- after which the state is that of an initialised syncer over `P.init w ws size`: one goal serves both cases
  revert w
  cases init
  case false => exact fun w => ?true (P.init w ws size)
  intro w
  -- the fit test (left open) and both arms of the flush that precedes a write that does not fit
  simp [ite_ok_and]
  by_cases hpre : P.avail w < bs.length ∧ 0 < P.buffered w
  · cases hf : (P.flush w).2 <;>
      simp [hpre, hf, bwsWriteSpec, writeShape, evLock, evUnlock, evFlush, evBWrite, nm_lock, nm_unlock, nm_flush, nm_bwrite]
  · simp [hpre, bwsWriteSpec, writeShape, evLock, evUnlock, evBWrite, nm_lock, nm_unlock, nm_bwrite]

/-- the recorded calls and the result of `BufferedWriteSyncer.Sync`: lock, flush (only when initialised), sync the sink,
    unlock; the result is `multierr.Append(flushErr, syncErr)` -/
theorem BufferedWriteSyncer_Sync_matches_source (P : Par) (mu : Val) (init : Bool) (w : Val) (n : Int) (werrs serrs : List Val)
    (size : Int) (ev : List Val) (fuel : Nat) :
    run (X P) (fuel + 1) "BufferedWriteSyncer_Sync" [] (bwFld mu init w (sinkV n werrs serrs) size ev) =
      .done [.list ((if init then (P.flush w).2 else []) ++ serrs)]
        (bwFld mu init (if init then (P.flush w).1 else w) (sinkV n werrs serrs) size
          (ev ++ [evLock mu] ++ (if init then [evFlush w] else []) ++ [evWSync (sinkV n werrs serrs), evUnlock mu])) := by
  refine run_of_exec (X_funs P) funs_BufferedWriteSyncer_Sync rfl ?_
  -- lock; the flush happens only when initialised
  simp [BufferedWriteSyncer_Sync_body]
  cases init <;> simp [evLock, evUnlock, evFlush, evWSync, nm_lock, nm_unlock, nm_flush, nm_wsync]

/-- `Bws.write` (the model `whole_writes` is proved about) has exactly the interpreted shape, with `St.avail`,
    `buf.length`, `Bws.flush` and `Bws.bufioWrite` as the bufio.Writer and `init := true` as `initialize()` -/
theorem bws_write_shape_is_model (s : Bws.St) (bs : Bytes) :
    Bws.write s bs =
      writeShape (fun e : Option Bws.EK => e.isSome) (fun t : Bws.St => (t.avail : Int)) (fun t => (t.buf.length : Int))
        Bws.flush Bws.bufioWrite { s with init := true } bs := by
  unfold Bws.write writeShape
  simp only [gt_iff_lt, Int.ofNat_lt, Int.natCast_pos]
  split
  · cases h : Bws.flush { s with init := true } with
    | mk s1 e => cases e <;> simp
  · rfl

end ZapVerif.C12
