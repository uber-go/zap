import ZapVerif.Proofs.Zio
import ZapVerif.Proofs.TransZio
/-! # C17 — zapio.Writer logs exactly the lines of the byte stream, however it is chunked -/
namespace ZapVerif.C17
open ZapVerif ZapVerif.Zio

/-- the Writes of a step list, in order -/
def writesOf : List Step → List Bytes
  | [] => []
  | .write bs :: r => bs :: writesOf r
  | _ :: r => writesOf r

/-- level changes at arbitrary positions: whatever the sequence of Writes, Syncs and level changes,
    the messages are those of the event stream under `specT` — bytes written while the level is disabled are not part
    of the stream, a line ends at each newline and (when non-empty) at each Sync/Close, and a line is logged only if the
    level is enabled at that moment -/
theorem session_eq_spec_toggles (steps : List Step) :
    (session steps).1 = (specT true [] (eventsT steps ++ [EvT.mark])).1 := by
  have h := (runSteps_eq_specT {} (steps ++ [Step.sync])).1
  rw [eventsT_append] at h
  simpa [session, eventsT] using h

/-- Full statement for any mix of Write and Sync calls (level enabled) followed by Close:
    the messages are exactly the lines of the event stream — which no longer knows chunk boundaries. -/
theorem session_eq_spec (steps : List Step) (h : allEnabled steps = true) :
    (session steps).1 = (linesEv [] (events steps ++ [Ev.mark])).1 := by
  have h' : allEnabled (steps ++ [Step.sync]) = true := by simp [allEnabled_append, h, allEnabled]
  have := specT_eq_linesEv [] (steps ++ [Step.sync]) h'
  simp only [eventsT_append, events_append, eventsT, events] at this
  rw [session_eq_spec_toggles, this]

/-- chunking invariance in general: two call sequences with the same bytes, split marks and level changes log the
    same messages -/
theorem chunking_invariant_toggles (s₁ s₂ : List Step) (he : eventsT s₁ = eventsT s₂) :
    (session s₁).1 = (session s₂).1 := by
  rw [session_eq_spec_toggles, session_eq_spec_toggles, he]

/-- chunking invariance: two call sequences carrying the same bytes and split marks log the same messages -/
theorem chunking_invariant (s₁ s₂ : List Step) (h₁ : allEnabled s₁ = true) (h₂ : allEnabled s₂ = true)
    (he : events s₁ = events s₂) : (session s₁).1 = (session s₂).1 := by
  rw [session_eq_spec s₁ h₁, session_eq_spec s₂ h₂, he]

/-- plain Writes then Close: the lines of the concatenated stream, the unterminated tail last, and
    no empty message for a trailing newline -/
theorem writes_then_close (chunks : List Bytes) :
    (let (ms, b) := run [] chunks; ms ++ (sync b).1) =
    (let (ls, t) := lines [] chunks.flatten; ls ++ (if t.isEmpty then [] else [t])) := by
  rw [run_eq_lines]; simp [sync]

/-- the fast path (empty buffer: log the slice directly) and the buffered path agree -/
theorem fast_path_eq (buff s : Bytes) : write buff s = lines buff s := feed_eq_lines _ buff s (Nat.lt_succ_self _)

/-- a Sync is a split point: afterwards nothing is buffered -/
theorem sync_is_split (w : W) : (step w .sync).1.buff = [] := by simp [step, sync]

/-- no empty message at a mark: a stream ending in a newline leaves an empty tail, so Close logs nothing -/
theorem no_trailing_empty (cur s : Bytes) : (lines cur (s ++ [10])).2 = [] := by
  rw [lines_append]; simp [lines]

/-- every Write reports all bytes as consumed with a nil error (enabled or not) -/
theorem write_count_full (w : W) (bs : Bytes) : (step w (.write bs)).2.2 = some (bs.length, false) := by
  simp only [step]; split <;> rfl

/-- nothing is logged while the level is disabled, and a disabled Write leaves the writer untouched -/
theorem disabled_logs_nothing_and_keeps_state (b : Bytes) (s : Step) :
    (step ⟨b, false⟩ s).2.1 = [] ∧ (∀ bs, s = .write bs → (step ⟨b, false⟩ s).1 = ⟨b, false⟩) := by
  constructor
  · cases s <;> simp [step]
  · intro bs h; subst h; simp [step]

/-- non-vacuity: a concrete chunked stream with an interior empty line, a Sync and a trailing newline -/
example : (session [.write [97, 10, 10], .write [98], .sync, .write [99, 10]]).1 = [[97], [], [98], [99]] := by
  decide
example : allEnabled [.write [97, 10, 10], .write [98], .sync, .write [99, 10]] = true := by decide

end ZapVerif.C17

/-! ## the model's writer IS the source (Go→GoMini translation, docs/TRANSLATOR.md)

`Gen/TransZio.lean` holds the bodies of `Writer.Write`, `writeLine`, `flush` and `Sync` as read from zapio/writer.go on
this run.  For every buffer content, every chunk (any length < 2^63, any number of newlines) and either answer of the
level check, the interpreted functions do exactly what `Zio.step` says: same new buffer, same messages in the same
order, `(len(bs), nil)`; the slice expressions `line[:idx]`, `line[idx+1:]` cannot panic. -/
namespace ZapVerif.C17
open ZapVerif ZapVerif.Zio ZapVerif.GoMini ZapVerif.TransZio ZapVerif.Gen.TransZio

/-- `w.log(b)` on the message trace -/
def logged (en : Bool) (out : List Val) (b : Bytes) : List Val := if en then out ++ [.bytes b] else out

/-- body of `flush(allowEmpty)`: log the buffer if allowed or non-empty, then reset it -/
theorem flush_exec_matches_source (en allow : Bool) (buff : Bytes) (lvl : Int) (out : List Val) (fuel : Nat) :
    (exec (X en) (fuel + 1) flush_body ⟨[("p0", .bool allow)], zfld buff lvl out⟩).fin =
      some ([], zfld [] lvl (if allow ∨ buff ≠ [] then logged en out buff else out)) := by
  rw [exec_succ]
  simp [flush_body, logged, orK_ok_bool, -orK_bool, Out.andThen_ite, Out.fin_ite, List.length_pos_iff]
  split <;> rfl

/-- body of `writeLine(line)` ≡ `TransZio.wl`: no newline ⇒ everything is buffered and nothing remains; otherwise
    the part before the first newline is logged (alone on the fast path, after the buffered bytes otherwise), the
    buffer ends empty, and the bytes after the newline remain.  `line[:idx]` and `line[idx+1:]` are in bounds. -/
theorem writeLine_exec_matches_source (en : Bool) (buff line : Bytes) (lvl : Int) (out : List Val) (fuel : Nat)
    (hl : (line.length : Int) < 9223372036854775808) :
    (exec (X en) (fuel + 2) writeLine_body ⟨[("p0", .bytes line), ("r0", .bytes [])], zfld buff lvl out⟩).fin =
      some ([.bytes (wl buff line).2.2], zfld (wl buff line).1 lvl ((wl buff line).2.1.foldl (logged en) out)) := by
  have hflush : ∀ (σ : State) (b : Bytes), retK σ [] "flush"
      (exec (X en) (fuel + 1) flush_body ⟨[("p0", .bool true)], zfld b lvl out⟩) =
        .normal { σ with fld := zfld [] lvl (logged en out b) } := by
    intro σ b
    have := retK_of_fin0 σ "flush" _ _ (flush_exec_matches_source en true b lvl out fuel)
    simpa using this
  rw [exec_succ]
  cases hd : line.dropWhile (fun b => b != 10) with
  | nil =>
    have hi := indexByte_none line hd
    simp [writeLine_body, wl, hd, hi]
  | cons c rest =>
    obtain ⟨hi, hsplit⟩ := indexByte_some line c rest hd
    generalize htw : line.takeWhile (fun b => b != 10) = tw at hi hsplit
    have hwl : wl buff line = ([], [if buff.isEmpty then tw else buff ++ tw], rest) := by
      simp [wl, hd, htw]
    rw [hwl]
    subst hsplit
    have hlen : (tw.length : Int) + 1 < 9223372036854775808 := by
      simp only [List.length_append, List.length_cons] at hl; omega
    have hw : wrap .int ((tw.length : Int) + 1) = ((tw.length + 1 : Nat) : Int) := by
      rw [wrap_int_id] <;> omega
    have hnn : ¬ ((tw.length : Int) < 0) := by omega
    have ht : (tw ++ 10 :: rest).take tw.length = tw := List.take_left' rfl
    have hdr : (tw ++ 10 :: rest).drop (tw.length + 1) = rest := by
      rw [show tw ++ 10 :: rest = (tw ++ [10]) ++ rest by simp]
      exact List.drop_left' (by simp)
    have hc1 : (tw.length : Int) ≤ tw.length + ((rest.length : Int) + 1) := by omega
    have hc2 : 0 ≤ (tw.length : Int) + 1 ∧ (1 : Int) ≤ (rest.length : Int) + 1 := by omega
    have htake : List.take ((tw.length : Int) + ((rest.length : Int) + 1)).toNat (tw ++ 10 :: rest) = tw ++ 10 :: rest := by
      apply List.take_of_length_le; simp; omega
    -- one run of the body with the buffer a variable: `if len(w.buff) == 0` is decided afterwards
    simp [writeLine_body, hi, hw, hnn, ht, hdr, logged, hflush, hc1, hc2, htake, Out.andThen_ite, Out.fin_ite]
    by_cases hb : buff = [] <;> simp [hb]

/-- the loop `for len(bs) > 0 { bs = w.writeLine(bs) }` ≡ the model's `lines` (= `write`, `fast_path_eq`): it
    terminates after at most `len(bs)` iterations with the unterminated tail in the buffer and the complete lines
    logged in order -/
theorem Write_loop_matches_source (en : Bool) (buff bs : Bytes) (lvl : Int) (out : List Val) (n : Int) (fuel : Nat)
    (hl : (bs.length : Int) < 9223372036854775808) :
    execS (X en) (exec (X en) (fuel + bs.length + 2)) Write_loop0
        ⟨[("p0", .bytes bs), ("r0", .int n), ("r1", .list [])], zfld buff lvl out⟩ =
      .normal ⟨[("p0", .bytes []), ("r0", .int n), ("r1", .list [])],
        zfld (lines buff bs).2 lvl ((lines buff bs).1.foldl (logged en) out)⟩ := by
  unfold Write_loop0
  refine (loop_fold (α := Bytes × Bytes × List Val) (X en) _ _ _ 2
    (fun a => ⟨[("p0", .bytes a.2.1), ("r0", .int n), ("r1", .list [])], zfld a.1 lvl a.2.2⟩)
    (fun a => (a.2.1.length : Int) < 9223372036854775808)
    (fun a => decide (a.2.1 ≠ []))
    (fun a => ((wl a.1 a.2.1).1, (wl a.1 a.2.1).2.2, (wl a.1 a.2.1).2.1.foldl (logged en) a.2.2))
    (fun a => ((lines a.1 a.2.1).2, [], (lines a.1 a.2.1).1.foldl (logged en) a.2.2))
    (fun a => a.2.1.length)
    ?_ ?_ ?_ ?_ ?_ ?_ bs.length (buff, bs, out) fuel hl (Nat.le_refl _)).trans (by simp)
  · intro a _
    obtain ⟨b, s, o⟩ := a
    cases s <;> simp
  · intro a fuel ha hc
    obtain ⟨b, s, o⟩ := a
    have h := retK_of_fin1 ⟨[("p0", .bytes s), ("r0", .int n), ("r1", .list [])], zfld b lvl o⟩ (.loc "p0") "writeLine" _ _ _
      (writeLine_exec_matches_source en b s lvl o fuel ha)
    simp [h]
  · intro a ha hc
    obtain ⟨b, s, o⟩ := a
    have hs : s ≠ [] := by simpa using hc
    have := wl_shorter b s hs
    show ((wl b s).2.2.length : Int) < 9223372036854775808
    have ha' : (s.length : Int) < 9223372036854775808 := ha
    omega
  · intro a ha hc
    obtain ⟨b, s, o⟩ := a
    have hs : s ≠ [] := by simpa using hc
    exact wl_shorter b s hs
  · intro a ha hc
    obtain ⟨b, s, o⟩ := a
    have hs : s = [] := by simpa using hc
    subst hs
    simp [lines]
  · intro a ha hc
    obtain ⟨b, s, o⟩ := a
    have hs : s ≠ [] := by simpa using hc
    simp only [lines_wl b s hs, List.foldl_append]

/-- `Writer.Write(bs)` ≡ `Zio.step w (.write bs)`: a disabled level returns `(len(bs), nil)` and touches nothing;
    otherwise every complete line is logged, the tail stays buffered, and the result is `(len(bs), nil)` — for every
    buffer content and every chunk -/
theorem Write_matches_source (w : W) (bs : Bytes) (lvl : Int) (out : List Bytes) (fuel : Nat)
    (hl : (bs.length : Int) < 9223372036854775808) :
    run (X w.enabled) (fuel + bs.length + 3) "Write" [.bytes bs] (zfld w.buff lvl (out.map .bytes)) =
      .done [.int bs.length, .list []]
        (zfld (step w (.write bs)).1.buff lvl ((out ++ (step w (.write bs)).2.1).map .bytes)) := by
  refine run_of_exec (X_funs w.enabled) funs_Write rfl ?_
  obtain ⟨buff, en⟩ := w
  cases en
  · simp [Write_body, step]
  · have hloop := Write_loop_matches_source true buff bs lvl (out.map .bytes) bs.length fuel hl
    have hlog : ∀ (ms : List Bytes) (o : List Bytes),
        ms.foldl (logged true) (o.map Val.bytes) = (o ++ ms).map Val.bytes := by
      intro ms
      induction ms with
      | nil => intro o; simp
      | cons m r ih => intro o; simp only [List.foldl_cons, logged, if_true]
                       rw [show o.map Val.bytes ++ [Val.bytes m] = (o ++ [m]).map Val.bytes by simp, ih]; simp
    simp [Write_body, step, hloop, hlog, fast_path_eq]

/-- `Writer.Sync()` (and `Close`) ≡ `Zio.step w .sync`: a non-empty buffer is logged (if the level is enabled) and
    the buffer is reset; no empty message is produced -/
theorem Sync_matches_source (w : W) (lvl : Int) (out : List Bytes) (fuel : Nat) :
    run (X w.enabled) (fuel + 2) "Sync" [] (zfld w.buff lvl (out.map .bytes)) =
      .done [.list []] (zfld (step w .sync).1.buff lvl ((out ++ (step w .sync).2.1).map .bytes)) := by
  refine run_of_exec (X_funs w.enabled) funs_Sync rfl ?_
  obtain ⟨buff, en⟩ := w
  have h := fun σ => retK_of_fin0 σ "flush" _ _ (flush_exec_matches_source en false buff lvl (out.map .bytes) fuel)
  cases en <;> cases buff <;> simp [Sync_body, h, step, sync, logged]

end ZapVerif.C17
