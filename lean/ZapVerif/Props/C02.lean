import ZapVerif.Proofs.EntryWF
import ZapVerif.Proofs.Unesc
import ZapVerif.Proofs.Num
import ZapVerif.Gen.EntryMeta
import ZapVerif.Proofs.MapEnc
import ZapVerif.Proofs.Base64
import ZapVerif.Model.Binary
import ZapVerif.Proofs.SubEnc
import ZapVerif.Props.C15
import ZapVerif.Gen.SubEncSrc
import ZapVerif.Proofs.TransJsonEntry
/-! # C02 — JSON output decodes to exactly the logged values, in order, at the right nesting -/
namespace ZapVerif.C02
open ZapVerif ZapVerif.Esc ZapVerif.Json ZapVerif.Enc ZapVerif.Entry

/-- the emitted line IS the rendering of the object whose members are `entryMembers` (Proofs/EntryWF.lean):
    metadata under the omission rules of `metaCalls`, then context fields, then call-site fields, in the order
    added, every namespace nesting what follows it, the stack trace last at top level -/
theorem encodeEntry_eq_render (c : Cfg) (e : Ent) (ctx : List (List Field)) (fields : List Field)
    (he : EntOK e) (hc : ∀ fs ∈ ctx, ∀ f ∈ fs, FieldOK f) (hf : ∀ f ∈ fields, FieldOK f) :
    jsonLine c e ctx fields = render (J.obj (entryMembers c e ctx fields)) ++ c.ending :=
  jsonLine_eq_render c e ctx fields he hc hf

/-- decoding an emitted line yields exactly that tree: every member, in order, at its nesting, duplicates kept -/
theorem decode_emitted (c : Cfg) (e : Ent) (ctx : List (List Field)) (fields : List Field)
    (he : EntOK e) (hc : ∀ fs ∈ ctx, ∀ f ∈ fs, FieldOK f) (hf : ∀ f ∈ fields, FieldOK f) :
    ∃ body, jsonLine c e ctx fields = body ++ c.ending ∧
      parseV (size (J.obj (entryMembers c e ctx fields))) body = some (J.obj (entryMembers c e ctx fields), []) :=
  ⟨_, jsonLine_eq_render c e ctx fields he hc hf, parse_render _ (entryMembers_ok c e ctx fields he hc hf).1⟩

/-! nesting lemmas: what each kind of call contributes to the tree -/

theorem denote_prim (k : Bytes) (v : J) (r : List OC) : denO (OC.prim k v :: r) = (esc k, v) :: denO r := by
  simp [denO]
theorem denote_object (k : Bytes) (body r : List OC) :
    denO (OC.obj k body :: r) = (esc k, J.obj (denO body)) :: denO r := by simp [denO]
theorem denote_array (k : Bytes) (body : List AC) (r : List OC) :
    denO (OC.arr k body :: r) = (esc k, J.arr (denA body)) :: denO r := by simp [denO]
/-- a namespace nests *everything that follows at that level* -/
theorem denote_namespace (k : Bytes) (r : List OC) : denO (OC.ns k :: r) = [(esc k, J.obj (denO r))] := by
  simp [denO]
/-- inlined and dict fields: an inline marshaler's calls land in the enclosing object; a dict is an object of
    its fields' calls -/
theorem denote_inline (k : Bytes) (body : List OC) : addTo (.inline k body none) = body := by simp [addTo, errCall]

/-! values: integers are rendered by `fmtInt`/`fmtNat` (decimal, full range — `Int`/`Nat` are unbounded),
    non-finite floats as the strings NaN / +Inf / -Inf, strings through `esc` -/

theorem value_nan (txt : Bytes) (inf : Int) : scalarJ (.float true inf txt) = J.str [78, 97, 78] := by simp [scalarJ]
theorem value_posinf (txt : Bytes) : scalarJ (.float false 1 txt) = J.str [43, 73, 110, 102] := by simp [scalarJ]
theorem value_neginf (txt : Bytes) : scalarJ (.float false (-1) txt) = J.str [45, 73, 110, 102] := by simp [scalarJ]
theorem value_finite (txt : Bytes) : scalarJ (.float false 0 txt) = J.atom txt := by simp [scalarJ]
theorem value_string (s : Bytes) : scalarJ (.str s) = J.str (esc s) := rfl

/-! errors: message under the key, verbose form under key+"Verbose" iff it differs, causes under key+"Causes" -/

theorem error_basic (k basic : Bytes) :
    addTo (.error k (.mk (.ok basic) none false [])) = [strPrim k basic] := by simp [addTo, encErr, errCall]
theorem error_verbose (k basic v : Bytes) (h : v ≠ basic) :
    addTo (.error k (.mk (.ok basic) (some v) false [])) = [strPrim k basic, strPrim (sfx k "Verbose") v] := by
  simp [addTo, encErr, errCall, h]

/-- strings byte for byte: decoding the escaped body gives back the logged bytes with each invalid UTF-8 byte
    replaced by U+FFFD exactly once (and nothing else changed) -/
theorem string_recoverable (s : Bytes) : unescape (esc s) = some (sanitize s.length s) := unescape_escape s.length s

/-- an ASCII string (no byte ≥ 0x80) is recovered unchanged -/
theorem sanitize_ascii (fuel : Nat) (s : Bytes) (hf : s.length ≤ fuel) (h : ∀ b ∈ s, b < 128) : sanitize fuel s = s :=
  sanitize_of_ascii fuel s hf h

/-- a byte that starts no valid UTF-8 sequence becomes exactly one U+FFFD and decoding resumes at the next byte -/
theorem sanitize_invalid_once (fuel : Nat) (b : UInt8) (r : Bytes) (hb : b ≥ 128) (hv : validLen (b :: r) = none) :
    sanitize (fuel + 1) (b :: r) = replacement ++ sanitize fuel r := by
  simp [sanitize, hb, hv]

/-- zap.Binary: the value emitted is the JSON string whose body is the base64 text of the payload, written with no
    escape at all (every character is a letter, digit, `+`, `/` or `=`) -/
theorem binary_value (raw : Bytes) : primJ (binaryPrim raw) = J.str (B64.b64enc raw) := by
  simp only [binaryPrim, primJ, scalarJ, esc]
  rw [B64.escape_plain_id _ _ (Nat.le_refl _) (B64.enc_plain raw)]

/-- … and decoding it (JSON string → bytes → base64) gives back exactly the logged payload, for every payload -/
theorem binary_recoverable (raw : Bytes) : (unescape (esc (B64.b64enc raw))).bind B64.b64dec = some raw := by
  have hs : sanitize (B64.b64enc raw).length (B64.b64enc raw) = B64.b64enc raw := by
    exact sanitize_ascii _ _ (Nat.le_refl _) (fun b hb => (B64.enc_plain raw b hb).2)
  rw [string_recoverable, hs]
  simpa using B64.dec_enc raw

/-- the encoded text has the canonical padded length -/
theorem binary_length (raw : Bytes) : (B64.b64enc raw).length = (raw.length + 2) / 3 * 4 := B64.enc_length raw

/-- integers over the full 64-bit range (indeed every Int / Nat): the decimal text decodes to the value -/
theorem int_recoverable (i : Int) : intOf (fmtInt i) = i := intOf_fmtInt i
theorem uint_recoverable (n : Nat) : natOf (fmtNat n) = n := natOf_fmtNat n

/-- namespaces, objects, arrays, inlined and dict fields produce the nesting the in-memory map encoder records:
    the map `MapObjectEncoder` builds from a call list (keys as emitted) is the last-wins map of the tree the JSON
    encoder denotes for the same calls (`denTO` is `denO` with the leaves marked: `erase_denTO`).  The model of
    memory_encoder.go (`MapEnc.mapFrom`, raw keys) is compared with the real MapObjectEncoder on every run. -/
theorem map_agrees (calls : List OC) (acc : List (Bytes × MapEnc.MV)) :
    MapEnc.mapFrom esc acc calls = MapEnc.toMapM acc (denTO calls) ∧ eraseM (denTO calls) = denO calls :=
  ⟨MapEnc.mapFrom_eq calls acc, erase_denTO calls⟩

/-- the guard structure of `jsonEncoder.EncodeEntry` that `metaCalls` / `stackCalls` / `encodeEntry` mirror: level
    (key ∧ encoder, no-op fall-back), time (key ∧ non-zero), name (name ∧ key, nil → full-name encoder, fall-back),
    caller (defined; key ∧ encoder, fall-back; function key), message key, context bytes, stack (stack ∧ key) — in
    this order.  `Gen.jsonEntryGuards` is re-read from zapcore/json_encoder.go on every run. -/
def expectedJsonEntryGuards : List String := [
  "0:final.LevelKey != \"\" && final.EncodeLevel != nil",
  "1:cur == final.buf.Len()",
  "0:final.TimeKey != \"\" && !ent.Time.IsZero()",
  "0:ent.LoggerName != \"\" && final.NameKey != \"\"",
  "1:nameEncoder == nil",
  "1:cur == final.buf.Len()",
  "0:ent.Caller.Defined",
  "1:final.CallerKey != \"\" && final.EncodeCaller != nil",
  "2:cur == final.buf.Len()",
  "1:final.FunctionKey != \"\"",
  "0:final.MessageKey != \"\"",
  "0:enc.buf.Len() > 0",
  "0:ent.Stack != \"\" && final.StacktraceKey != \"\""
]

theorem entry_guards_as_modelled : Gen.jsonEntryGuards = expectedJsonEntryGuards := rfl

/-! ## built-in sub-encoders (model `Model/SubEnc.lean`, lemmas `Proofs/SubEnc.lean`)

The level / duration / time / caller / name encoder functions of zapcore/encoder.go whose output is integer- or
text-exact are not parameters of the model: the driver computes what they append from the raw entry values
(`SubEnc.lvlRes`, `durRes`, `timeRes`, `callerRes`, `nameRes`) and the result is compared with the real encoder's bytes
on every run. Parameters are only `EpochTimeEncoder`, `EpochMillisTimeEncoder`, `SecondsDurationEncoder` (float text)
and the `time.Format` text of the layout encoders. -/
section SubEncoders
open ZapVerif.SubEnc

/-- the source text of every built-in sub-encoder function and of the `EntryCaller` methods they call, as the model
    assumes it (`Gen.subEncBodies` is re-read from zapcore/encoder.go and zapcore/entry.go on every run) -/
def expectedSubEncBodies : List (String × String × List String) := [
  ("LowercaseLevelEncoder", "l Level, enc PrimitiveArrayEncoder", ["0:enc.AppendString(l.String())"]),
  ("LowercaseColorLevelEncoder", "l Level, enc PrimitiveArrayEncoder", ["0:s, ok := _levelToLowercaseColorString[l]", "0:if !ok", "1:s = _unknownLevelColor.Add(l.String())", "0:enc.AppendString(s)"]),
  ("CapitalLevelEncoder", "l Level, enc PrimitiveArrayEncoder", ["0:enc.AppendString(l.CapitalString())"]),
  ("CapitalColorLevelEncoder", "l Level, enc PrimitiveArrayEncoder", ["0:s, ok := _levelToCapitalColorString[l]", "0:if !ok", "1:s = _unknownLevelColor.Add(l.CapitalString())", "0:enc.AppendString(s)"]),
  ("EpochTimeEncoder", "t time.Time, enc PrimitiveArrayEncoder", ["0:nanos := t.UnixNano()", "0:sec := float64(nanos) / float64(time.Second)", "0:enc.AppendFloat64(sec)"]),
  ("EpochMillisTimeEncoder", "t time.Time, enc PrimitiveArrayEncoder", ["0:nanos := t.UnixNano()", "0:millis := float64(nanos) / float64(time.Millisecond)", "0:enc.AppendFloat64(millis)"]),
  ("EpochNanosTimeEncoder", "t time.Time, enc PrimitiveArrayEncoder", ["0:enc.AppendInt64(t.UnixNano())"]),
  ("encodeTimeLayout", "t time.Time, layout string, enc PrimitiveArrayEncoder", ["0:type appendTimeEncoder interface{AppendTimeLayout(time.Time, string)}", "0:if enc, ok := enc.(appendTimeEncoder); ok", "1:enc.AppendTimeLayout(t, layout)", "1:return", "0:enc.AppendString(t.Format(layout))"]),
  ("ISO8601TimeEncoder", "t time.Time, enc PrimitiveArrayEncoder", ["0:encodeTimeLayout(t, \"2006-01-02T15:04:05.000Z0700\", enc)"]),
  ("RFC3339TimeEncoder", "t time.Time, enc PrimitiveArrayEncoder", ["0:encodeTimeLayout(t, time.RFC3339, enc)"]),
  ("RFC3339NanoTimeEncoder", "t time.Time, enc PrimitiveArrayEncoder", ["0:encodeTimeLayout(t, time.RFC3339Nano, enc)"]),
  ("TimeEncoderOfLayout", "layout string", ["0:return func(t time.Time, enc PrimitiveArrayEncoder)", "1:encodeTimeLayout(t, layout, enc)"]),
  ("SecondsDurationEncoder", "d time.Duration, enc PrimitiveArrayEncoder", ["0:enc.AppendFloat64(float64(d) / float64(time.Second))"]),
  ("NanosDurationEncoder", "d time.Duration, enc PrimitiveArrayEncoder", ["0:enc.AppendInt64(int64(d))"]),
  ("MillisDurationEncoder", "d time.Duration, enc PrimitiveArrayEncoder", ["0:enc.AppendInt64(d.Nanoseconds() / 1e6)"]),
  ("StringDurationEncoder", "d time.Duration, enc PrimitiveArrayEncoder", ["0:enc.AppendString(d.String())"]),
  ("FullCallerEncoder", "caller EntryCaller, enc PrimitiveArrayEncoder", ["0:enc.AppendString(caller.String())"]),
  ("ShortCallerEncoder", "caller EntryCaller, enc PrimitiveArrayEncoder", ["0:enc.AppendString(caller.TrimmedPath())"]),
  ("FullNameEncoder", "loggerName string, enc PrimitiveArrayEncoder", ["0:enc.AppendString(loggerName)"]),
  ("EntryCaller.String", "ec EntryCaller", ["0:return ec.FullPath()"]),
  ("EntryCaller.FullPath", "ec EntryCaller", ["0:if !ec.Defined", "1:return \"undefined\"", "0:buf := bufferpool.Get()", "0:buf.AppendString(ec.File)", "0:buf.AppendByte(':')", "0:buf.AppendInt(int64(ec.Line))", "0:caller := buf.String()", "0:buf.Free()", "0:return caller"]),
  ("EntryCaller.TrimmedPath", "ec EntryCaller", ["0:if !ec.Defined", "1:return \"undefined\"", "0:idx := strings.LastIndexByte(ec.File, '/')", "0:if idx == -1", "1:return ec.FullPath()", "0:idx = strings.LastIndexByte(ec.File[:idx], '/')", "0:if idx == -1", "1:return ec.FullPath()", "0:buf := bufferpool.Get()", "0:buf.AppendString(ec.File[idx+1:])", "0:buf.AppendByte(':')", "0:buf.AppendInt(int64(ec.Line))", "0:caller := buf.String()", "0:buf.Free()", "0:return caller"])
]

theorem subenc_sources_as_modelled : Gen.subEncBodies = expectedSubEncBodies := rfl

/-- the `UnmarshalText` dispatch of each encoder kind: text ↦ function, anything else ↦ the default -/
def expectedEncoderTextTables : List (String × List (String × String) × String) := [
  ("LevelEncoder", [("capital", "CapitalLevelEncoder"), ("capitalColor", "CapitalColorLevelEncoder"), ("color", "LowercaseColorLevelEncoder")], "LowercaseLevelEncoder"),
  ("TimeEncoder", [("rfc3339nano", "RFC3339NanoTimeEncoder"), ("RFC3339Nano", "RFC3339NanoTimeEncoder"), ("rfc3339", "RFC3339TimeEncoder"), ("RFC3339", "RFC3339TimeEncoder"), ("iso8601", "ISO8601TimeEncoder"), ("ISO8601", "ISO8601TimeEncoder"), ("millis", "EpochMillisTimeEncoder"), ("nanos", "EpochNanosTimeEncoder")], "EpochTimeEncoder"),
  ("DurationEncoder", [("string", "StringDurationEncoder"), ("nanos", "NanosDurationEncoder"), ("ms", "MillisDurationEncoder")], "SecondsDurationEncoder"),
  ("CallerEncoder", [("full", "FullCallerEncoder")], "ShortCallerEncoder"),
  ("NameEncoder", [("full", "FullNameEncoder")], "FullNameEncoder")
]

theorem encoder_text_tables : Gen.encoderTextTables = expectedEncoderTextTables := rfl

/-- the colour tables: ANSI colour numbers, `Color.Add`'s escape format `ESC[<n>m<text>ESC[0m`, the level ↦ colour map,
    the colour of unknown levels, and the two maps `init()` fills (re-read from internal/color/color.go and
    zapcore/level_strings.go on every run) -/
theorem level_colors_as_documented :
    Gen.colorValues = [("Black", 30), ("Red", 31), ("Green", 32), ("Yellow", 33), ("Blue", 34), ("Magenta", 35), ("Cyan", 36), ("White", 37)] ∧
    Gen.levelToColor = [(-1, 35), (0, 34), (1, 33), (2, 31), (3, 31), (4, 31), (5, 31)] ∧ Gen.unknownLevelColor = 31 ∧
    Gen.colorAddPre = [27, 91] ∧ Gen.colorAddMid = [109] ∧ Gen.colorAddSuf = [27, 91, 48, 109] ∧
    Gen.levelColorInit = [("_levelToLowercaseColorString", "String"), ("_levelToCapitalColorString", "CapitalString")] :=
  ⟨rfl, rfl, rfl, rfl, rfl, rfl, rfl⟩

/-! levels: the member written under `LowercaseLevelEncoder` / `CapitalLevelEncoder` is exactly the text
    `Level.String()` / `CapitalString()` has in the regenerated 256-row table (whatever the no-op fall-back `fb`) -/

theorem level_text_lower (o : SubRes) (l : Int) (fb : Bytes) :
    subOrStr (lvlRes (some .lower) o l) fb = J.str (esc (Level.stringOf l)) := rfl
theorem level_text_capital (o : SubRes) (l : Int) (fb : Bytes) :
    subOrStr (lvlRes (some .capital) o l) fb = J.str (esc (Level.capitalOf l)) := rfl

/-! the colour variants wrap that same text in the colour escape of the level (`_unknownLevelColor` when the level has
    no colour of its own) -/

theorem level_text_color (o : SubRes) (l : Int) (fb : Bytes) :
    subOrStr (lvlRes (some .color) o l) fb =
      J.str (esc (Gen.colorAddPre ++ fmtNat (colorOf l) ++ Gen.colorAddMid ++ Level.stringOf l ++ Gen.colorAddSuf)) := by
  simp only [lvlRes, subOrStr, scalarJ, levelText, colorLevel_eq, colorAdd]
theorem level_text_capital_color (o : SubRes) (l : Int) (fb : Bytes) :
    subOrStr (lvlRes (some .capitalColor) o l) fb =
      J.str (esc (Gen.colorAddPre ++ fmtNat (colorOf l) ++ Gen.colorAddMid ++ Level.capitalOf l ++ Gen.colorAddSuf)) := by
  simp only [lvlRes, subOrStr, scalarJ, levelText, colorLevel_eq, colorAdd]

/-- the documented colours, for every int8 level: debug magenta, info blue, warn yellow, everything else red -/
theorem level_color_documented : ∀ l ∈ allLevels,
    colorOf l = (if l = -1 then 35 else if l = 0 then 34 else if l = 1 then 33 else 31) := colorOf_documented

/-- levels outside Debug…Fatal print as `Level(n)` / `LEVEL(n)` with the decimal of the value -/
theorem level_text_unknown : ∀ l ∈ allLevels, l ∉ Level.validLevels →
    Level.stringOf l = litStr "Level(" ++ fmtInt l ++ [41] ∧ Level.capitalOf l = litStr "LEVEL(" ++ fmtInt l ++ [41] :=
  unknown_level_text

/-- under each of the four level encoders distinct levels get distinct texts — all 256 values, not only the seven
    named ones (so the level is recoverable from the member) -/
theorem level_text_injective (k : LvlEnc) : ∀ a ∈ allLevels, ∀ b ∈ allLevels, levelText k a = levelText k b → a = b :=
  levelText_inj k

/-- … and the text survives the JSON string encoding unchanged (the ESC of the colour variants is written as \\u001b
    and read back), so the decoded level member determines the level -/
theorem level_member_decodes (k : LvlEnc) : ∀ l ∈ allLevels, unescape (esc (levelText k l)) = some (levelText k l) := by
  intro l hl
  rw [string_recoverable, sanitize_ascii _ _ (Nat.le_refl _) (levelText_ascii k l hl)]

/-- durations, `NanosDurationEncoder`: the integer nanoseconds, recoverable from the text -/
theorem nanos_duration_recoverable (o : SubRes) (n : Int) :
    primJ (.dur ⟨n, durRes (some .nanos) o n⟩) = J.atom (fmtInt n) ∧ intOf (fmtInt n) = n :=
  ⟨rfl, intOf_fmtInt n⟩

/-- `MillisDurationEncoder`: the quotient of Go's truncating division — toward zero on BOTH sides (−1.5 ms ↦ −1, not −2;
    −0.999999 ms ↦ 0), never further from zero than the duration, off by less than one millisecond -/
theorem millis_duration_value (o : SubRes) (n : Int) :
    primJ (.dur ⟨n, durRes (some .millis) o n⟩) = J.atom (fmtInt (millisOf n)) ∧
    (0 ≤ n → millisOf n = n / 1000000 ∧ 0 ≤ millisOf n ∧ millisOf n * 1000000 ≤ n ∧ n < (millisOf n + 1) * 1000000) ∧
    (n ≤ 0 → millisOf n = -((-n) / 1000000) ∧ millisOf n ≤ 0 ∧ n ≤ millisOf n * 1000000 ∧ (millisOf n - 1) * 1000000 < n) := by
  refine ⟨rfl, ?_, ?_⟩
  · intro h
    have e : millisOf n = n / 1000000 := Int.tdiv_eq_ediv_of_nonneg h
    rw [e]; omega
  · intro h
    have e : millisOf n = -((-n) / 1000000) := by
      unfold millisOf
      have hn : n = -(-n) := by omega
      rw [hn, Int.neg_tdiv, Int.tdiv_eq_ediv_of_nonneg (by omega)]; simp
    rw [e]; omega

example : millisOf (-1500000) = -1 ∧ millisOf (-999999) = 0 ∧ millisOf 1999999 = 1 ∧ millisOf (-(2 ^ 63)) = -9223372036854 := by decide

/-- `StringDurationEncoder`: the member is the JSON string of `time.Duration.String()` as modelled by `durString` -/
theorem string_duration_value (o : SubRes) (n : Int) :
    primJ (.dur ⟨n, durRes (some .string) o n⟩) = J.str (esc (durString n)) := rfl

/-- … and that text determines the duration: a `time.ParseDuration`-style reader (`durParse`: sign, then groups
    `digits[.digits]unit` over ns/us/µs/ms/s/m/h, summed) gives back exactly `d` — for every integer, hence the whole
    int64 range including MinInt64 -/
theorem string_duration_recoverable (d : Int) : durParse (durString d) = some d := durParse_durString d

theorem string_duration_injective (a b : Int) (h : durString a = durString b) : a = b := by
  have := congrArg durParse h
  simpa [durParse_durString] using this

/-- shape: zero is "0s"; a negative duration is '-' and the text of its magnitude -/
theorem string_duration_zero : durString 0 = litStr "0s" := by decide +kernel
theorem string_duration_neg (d : Int) (h : d < 0) : durString d = 45 :: durString (-d) := by
  simp [durString, h]
  omega

/-- shape below one second: ONE group in the largest unit not exceeding the value (ns: no fraction at all; µs: up to 3
    decimals; ms: up to 6), trailing zeros of the fraction dropped together with the point -/
theorem string_duration_subsecond (u : Nat) (h0 : 0 < u) (h1 : u < 1000000000) :
    durMag u = (if u < 1000 then fmtNat u ++ litStr "ns"
                else if u < 1000000 then fmtNat (u / 1000) ++ fracText 3 u ++ litStr "µs"
                else fmtNat (u / 1000000) ++ fracText 6 u ++ litStr "ms") := by
  have e0 : fracText 0 u = [] := rfl
  have lns : litStr "ns" = [110, 115] := by decide +kernel
  have lus : litStr "µs" = [194, 181, 115] := by decide +kernel
  have lms : litStr "ms" = [109, 115] := by decide +kernel
  rw [durMag_small u h0 h1, lns, lus, lms]
  unfold smallUnit
  split
  · rw [e0, Nat.pow_zero, Nat.div_one]; rfl
  · split <;> simp only [List.append_assoc] <;> rfl

/-- shape from one second up: hours (only when non-zero), minutes (when hours or minutes are non-zero, modulo 60),
    seconds modulo 60 with up to 9 decimals — never days -/
theorem string_duration_shape (u : Nat) (h : 1000000000 ≤ u) :
    durMag u =
      (if u / 1000000000 / 60 / 60 > 0 then fmtNat (u / 1000000000 / 60 / 60) ++ [104] else []) ++
      (if u / 1000000000 / 60 > 0 then fmtNat (u / 1000000000 / 60 % 60) ++ [109] else []) ++
      fmtNat (u / 1000000000 % 60) ++ fracText 9 u ++ [115] := durMag_large u h

/-- the fraction never ends in '0' (trailing zeros are trimmed) -/
theorem string_duration_frac_trimmed (p v : Nat) (h : fracDigits p v false ≠ []) :
    (fracDigits p v false).getLast h ≠ 48 := frac_no_trailing_zero p v h

example : durString 1500000000 = litStr "1.5s" ∧ durString 999 = litStr "999ns" ∧ durString 1000 = litStr "1µs" ∧
    durString 999999000 = litStr "999.999ms" ∧ durString 59999999999 = litStr "59.999999999s" ∧
    durString 3600000000000 = litStr "1h0m0s" ∧ durString (-1) = litStr "-1ns" ∧
    durString (2 ^ 63 - 1) = litStr "2562047h47m16.854775807s" ∧
    durString (-(2 ^ 63)) = litStr "-2562047h47m16.854775808s" := by decide +kernel

/-- the duration text survives the JSON string encoding byte for byte: decoding the emitted string body gives back
    `Duration.String()` exactly — including the two-byte `µ` of "µs", the only non-ASCII text a built-in emits -/
theorem string_duration_decodes (d : Int) : unescape (esc (durString d)) = some (durString d) := by
  rw [string_recoverable, sanitize_durString]

/-- so the whole chain closes for `StringDurationEncoder`: JSON string → text → duration -/
theorem string_duration_roundtrip (d : Int) : (unescape (esc (durString d))).bind durParse = some d := by
  rw [string_duration_decodes]; exact durParse_durString d

/-- times, `EpochNanosTimeEncoder`: the integer `UnixNano()`, recoverable from the text -/
theorem epoch_nanos_recoverable (o : SubRes) (n : Int) :
    subOrNanos (timeRes true o n) n = J.atom (fmtInt n) ∧ intOf (fmtInt n) = n := ⟨rfl, intOf_fmtInt n⟩

/-- `encodeTimeLayout`: whichever call it makes (`AppendTimeLayout` when the encoder has it — the JSON encoder — else
    `AppendString(t.Format(layout))` — the console's slice encoder), the value is the escaped `time.Format` text -/
theorem time_layout_dispatch (hasATL : Bool) (formatted : Bytes) :
    (encodeTimeLayout hasATL formatted).toJ = J.str (esc formatted) ∧
    (encodeTimeLayout hasATL formatted).res = .val (.str formatted) := by
  cases hasATL <;> exact ⟨rfl, rfl⟩

/-- callers, `FullCallerEncoder`: `file:line` (decimal, sign kept), and both parts are recoverable: the file is
    everything before the LAST ':' -/
theorem full_caller_value (o : SubRes) (file : Bytes) (line : Int) (fb : Bytes) :
    subOrStr (callerRes (some .full) o true file line) fb = J.str (esc (file ++ 58 :: fmtInt line)) ∧
    callerDecode (file ++ 58 :: fmtInt line) = some (file, line) :=
  ⟨rfl, callerDecode_join file line⟩

/-- `ShortCallerEncoder`: the last two '/'-separated elements of the file (`Callers.trimmedFile`, C15), then `:line` -/
theorem short_caller_value (o : SubRes) (pre dir file : Bytes) (line : Int) (fb : Bytes)
    (hd : Callers.slash ∉ dir) (hf : Callers.slash ∉ file) :
    subOrStr (callerRes (some .short) o true (pre ++ Callers.slash :: (dir ++ Callers.slash :: file)) line) fb =
      J.str (esc ((dir ++ Callers.slash :: file) ++ 58 :: fmtInt line)) ∧
    callerDecode ((dir ++ Callers.slash :: file) ++ 58 :: fmtInt line) = some (dir ++ Callers.slash :: file, line) := by
  refine ⟨?_, callerDecode_join _ line⟩
  simp only [callerRes, subOrStr, scalarJ, callerText, callerShort, if_true, C15.trimmed_keeps_last_two pre dir file hd hf]

/-- with fewer than two separators — a bare file name, `dir/file`, or a Windows path that uses only backslashes — the
    short form is the full form -/
theorem short_caller_few_segments (dir file : Bytes) (line : Int) (hd : Callers.slash ∉ dir) (hf : Callers.slash ∉ file) :
    callerText .short true file line = callerText .full true file line ∧
    callerText .short true (dir ++ Callers.slash :: file) line = callerText .full true (dir ++ Callers.slash :: file) line := by
  obtain ⟨h1, h2⟩ := C15.trimmed_short dir file hd hf
  simp [callerText, callerShort, callerFull, h1, h2]

/-- an undefined caller prints as "undefined" whatever file and line it carries -/
theorem caller_undefined (k : CallerEnc) (file : Bytes) (line : Int) : callerText k false file line = litStr "undefined" := by
  cases k <;> rfl

/-- names, `FullNameEncoder` (also used when `EncodeName` is nil): the logger name itself -/
theorem full_name_value (o : SubRes) (name fb : Bytes) : subOrStr (nameRes true o name) fb = J.str (esc name) := rfl

example : callerText .short true (litStr "/home/u/go/src/pkg/sub/file.go") 42 = litStr "sub/file.go:42" ∧
    callerText .short true (litStr "C:\\Users\\u\\file.go") (-1) = litStr "C:\\Users\\u\\file.go:-1" ∧
    callerText .full true [] 0 = litStr ":0" ∧
    levelText .capitalColor 42 = [27, 91, 51, 49, 109] ++ litStr "LEVEL(42)" ++ [27, 91, 48, 109] ∧
    levelText .color (-1) = [27, 91, 51, 53, 109] ++ litStr "debug" ++ [27, 91, 48, 109] := by decide +kernel

end SubEncoders

end ZapVerif.C02

/-! ## `jsonEncoder.EncodeEntry` IS the source (table `Gen/TransJsonEnc.lean`)

The body of zapcore/json_encoder.go `EncodeEntry`, translated mechanically, is interpreted for EVERY configuration (keys
empty or not, sub-encoders nil or not), every entry, every context buffer of the logger's encoder and every behaviour
of the sub-encoders and of `addFields` (parameters).  Statement by statement (`EE_*`) and as a whole
(`EncodeEntry_matches_source`) it computes `TransJsonEnc.entryBytes`: clone, `{`, the six metadata members each behind
its guard and with its fall-back when the configured encoder appended nothing, the raw context bytes after a
SEPARATOR (`addElementSeparator`, not a hard-coded comma), the fields, `closeOpenNamespaces`, the stack, `}`, the line
ending; the buffer is read (`ret := final.buf`) BEFORE `putJSONEncoder(final)`, which is the last thing that happens. -/
namespace ZapVerif.C02
open ZapVerif ZapVerif.Enc ZapVerif.GoMini ZapVerif.TransJsonEnc ZapVerif.Gen.TransJsonEnc

/-- the k-th top-level statement of the body -/
def eeStmt : Nat → Stmt → Stmt
  | 0, s => s.hd
  | k + 1, s => eeStmt k s.tl

/-- the locals every statement of the body relies on: the two parameters -/
def LocOK (loc : Env) (e : EEnt) (fields : Val) : Prop := loc.get "p0" = some e.val ∧ loc.get "p1" = some fields

theorem LocOK.set {loc : Env} {e : EEnt} {fields : Val} (h : LocOK loc e fields) (x : String) (v : Val)
    (h0 : x ≠ "p0") (h1 : x ≠ "p1") : LocOK (loc.set x v) e fields :=
  ⟨by rw [Env.get_set_other _ _ _ _ (Ne.symm h0)]; exact h.1, by rw [Env.get_set_other _ _ _ _ (Ne.symm h1)]; exact h.2⟩

/-- `final := enc.clone()`: fresh buffer, `spaced` and `openNamespaces` of the receiver, no reflection scratch -/
theorem EE_clone (P : Par) (c : ECfg) (b : Bytes) (sp : Bool) (ns : Int) (rb re : List Val)
    (obuf : Bytes) (osp : Bool) (ons : Int) (self : Val) (ev : List Val) (rec : Stmt → State → GoMini.Out) (loc : Env) :
    execS (X P) rec (eeStmt 0 EncodeEntry_body) ⟨loc, eeFld c b sp ns rb re obuf osp ons self ev⟩ =
      .normal ⟨loc, eeFld c [] osp ons [] [] obuf osp ons self
        (ev ++ [.list [TransJsonEnc.nm "jsonEncoder.clone", .bool osp, .int ons]])⟩ := by
  simp [eeStmt, Stmt.hd, EncodeEntry_body, nm_clone]

theorem EE_open (P : Par) (c : ECfg) (b : Bytes) (sp : Bool) (ns : Int) (rb re : List Val)
    (obuf : Bytes) (osp : Bool) (ons : Int) (self : Val) (ev : List Val) (rec : Stmt → State → GoMini.Out) (loc : Env) :
    execS (X P) rec (eeStmt 1 EncodeEntry_body) ⟨loc, eeFld c b sp ns rb re obuf osp ons self ev⟩ =
      .normal ⟨loc, eeFld c (b ++ [123]) sp ns rb re obuf osp ons self ev⟩ := by
  simp [eeStmt, Stmt.hd, Stmt.tl, EncodeEntry_body]

/-! The guarded statements below are run ONCE each: `Res.out_ite` / `Res.bind_ite` / `Out.andThen_ite` carry the rest of the
    statement into both arms of an undecided guard, so the interpreter's result is an `if`-tree over the same guards as the
    `…Block` it is compared with; what remains after the run is to go through the guards. -/

theorem EE_level (P : Par) (c : ECfg) (e : EEnt) (fields : Val) (b : Bytes) (sp : Bool) (ns : Int) (rb re : List Val)
    (obuf : Bytes) (osp : Bool) (ons : Int) (self : Val) (ev : List Val) (rec : Stmt → State → GoMini.Out)
    (loc : Env) (hl : LocOK loc e fields) :
    ∃ loc', execS (X P) rec (eeStmt 2 EncodeEntry_body) ⟨loc, eeFld c b sp ns rb re obuf osp ons self ev⟩ =
        .normal ⟨loc', eeFld c (levelBlock P c sp e b) sp ns rb re obuf osp ons self ev⟩ ∧ LocOK loc' e fields := by
  have h0 := hl.1
  have hset : ∀ v, LocOK (loc.set "l0" v) e fields := fun v => hl.set "l0" v (by decide) (by decide)
  have g0 : ∀ v, Env.get "p0" (loc.set "l0" v) = some e.val := fun v => (hset v).1
  simp [eeStmt, Stmt.hd, Stmt.tl, EncodeEntry_body, levelBlock, subOr, g0, Int.natCast_inj, Res.out_ite]
  by_cases hk : c.levelKey = []
  · exact ⟨loc, by simp only [eq_true hk, if_true, true_or], hl⟩
  by_cases hf : c.encLevel = []
  · exact ⟨loc, by simp only [eq_false hk, eq_true hf, if_true, if_false, or_true], hl⟩
  refine ⟨loc.set "l0" (.int (Enc.addKey sp b c.levelKey).length), ?_, hset _⟩
  simp only [eq_false hk, eq_false hf, if_false, or_self]
  split <;> rfl

theorem EE_time (P : Par) (c : ECfg) (e : EEnt) (fields : Val) (b : Bytes) (sp : Bool) (ns : Int) (rb re : List Val)
    (obuf : Bytes) (osp : Bool) (ons : Int) (self : Val) (ev : List Val) (rec : Stmt → State → GoMini.Out)
    (loc : Env) (hl : LocOK loc e fields) :
    execS (X P) rec (eeStmt 3 EncodeEntry_body) ⟨loc, eeFld c b sp ns rb re obuf osp ons self ev⟩ =
        .normal ⟨loc, eeFld c (timeBlock P c sp e b) sp ns rb re obuf osp ons self ev⟩ := by
  have h0 := hl.1
  simp [eeStmt, Stmt.hd, Stmt.tl, EncodeEntry_body, timeBlock, h0, Res.out_ite]
  by_cases hk : c.timeKey = []
  · simp only [eq_true hk, if_true, true_or]
  · cases hz : P.timeIsZero e.time <;>
      simp only [eq_false hk, if_false, false_or, Bool.false_eq_true, Bool.true_eq_false, if_true]

theorem EE_name (P : Par) (c : ECfg) (e : EEnt) (fields : Val) (b : Bytes) (sp : Bool) (ns : Int) (rb re : List Val)
    (obuf : Bytes) (osp : Bool) (ons : Int) (self : Val) (ev : List Val) (rec : Stmt → State → GoMini.Out)
    (loc : Env) (hl : LocOK loc e fields) :
    ∃ loc', execS (X P) rec (eeStmt 4 EncodeEntry_body) ⟨loc, eeFld c b sp ns rb re obuf osp ons self ev⟩ =
        .normal ⟨loc', eeFld c (nameBlock P c sp e b) sp ns rb re obuf osp ons self ev⟩ ∧ LocOK loc' e fields := by
  have h0 := hl.1
  have hset : ∀ v w, LocOK ((loc.set "l1" v).set "l2" w) e fields := fun v w =>
    (hl.set "l1" v (by decide) (by decide)).set "l2" w (by decide) (by decide)
  have g0 : ∀ v w, Env.get "p0" ((loc.set "l1" v).set "l2" w) = some e.val := fun v w => (hset v w).1
  have g1 : ∀ v w, Env.get "l1" ((loc.set "l1" v).set "l2" w) = some v := fun v w => by
    rw [Env.get_set_other _ _ _ _ (by decide)]; simp
  have g00 : ∀ v, Env.get "p0" (loc.set "l1" v) = some e.val := fun v => (hl.set "l1" v (by decide) (by decide)).1
  simp [eeStmt, Stmt.hd, Stmt.tl, EncodeEntry_body, nameBlock, nameFn, subOr, h0, g0, g1, Int.natCast_inj,
    Res.out_ite, Out.andThen_ite]
  by_cases hn : e.name = []
  · exact ⟨loc, by simp only [eq_true hn, if_true, true_or], hl⟩
  by_cases hk : c.nameKey = []
  · exact ⟨loc, by simp only [eq_false hn, eq_true hk, if_true, if_false, or_true], hl⟩
  -- a nil `EncodeName` was replaced by the full-name encoder before the call: `l2` holds `nameFn c`
  refine ⟨(loc.set "l1" (.int (Enc.addKey sp b c.nameKey).length)).set "l2" (.list (nameFn c)), ?_, hset _ _⟩
  simp only [eq_false hn, eq_false hk, if_false, or_self, nameFn, List.isEmpty_iff]
  split <;> split <;> rfl

theorem EE_caller (P : Par) (c : ECfg) (e : EEnt) (fields : Val) (b : Bytes) (sp : Bool) (ns : Int) (rb re : List Val)
    (obuf : Bytes) (osp : Bool) (ons : Int) (self : Val) (ev : List Val) (rec : Stmt → State → GoMini.Out)
    (loc : Env) (hl : LocOK loc e fields) :
    ∃ loc', execS (X P) rec (eeStmt 5 EncodeEntry_body) ⟨loc, eeFld c b sp ns rb re obuf osp ons self ev⟩ =
        .normal ⟨loc', eeFld c (callerBlock P c sp e b) sp ns rb re obuf osp ons self ev⟩ ∧ LocOK loc' e fields := by
  have h0 := hl.1
  have hset : ∀ v, LocOK (loc.set "l3" v) e fields := fun v => hl.set "l3" v (by decide) (by decide)
  have g0 : ∀ v, Env.get "p0" (loc.set "l3" v) = some e.val := fun v => (hset v).1
  simp [eeStmt, Stmt.hd, Stmt.tl, EncodeEntry_body, callerBlock, subOr, h0, g0, Int.natCast_inj, Res.out_ite,
    Out.andThen_ite]
  cases hd : e.callerDefined
  · exact ⟨loc, by simp only [Bool.false_eq_true, if_false, if_true], hl⟩
  by_cases hk : c.callerKey = []
  · exact ⟨loc, by simp only [eq_true hk, if_true, true_or, Bool.true_eq_false, if_false]; split <;> rfl, hl⟩
  by_cases hf : c.encCaller = []
  · exact ⟨loc, by simp only [eq_false hk, eq_true hf, if_true, or_true, Bool.true_eq_false, if_false]; split <;> rfl, hl⟩
  refine ⟨loc.set "l3" (.int (Enc.addKey sp b c.callerKey).length), ?_, hset _⟩
  simp only [eq_false hk, eq_false hf, if_true, or_self, Bool.true_eq_false, if_false]
  split <;> split <;> rfl

theorem EE_message (P : Par) (c : ECfg) (e : EEnt) (fields : Val) (b : Bytes) (sp : Bool) (ns : Int) (rb re : List Val)
    (obuf : Bytes) (osp : Bool) (ons : Int) (self : Val) (ev : List Val) (rec : Stmt → State → GoMini.Out)
    (loc : Env) (hl : LocOK loc e fields) :
    execS (X P) rec (eeStmt 6 EncodeEntry_body) ⟨loc, eeFld c b sp ns rb re obuf osp ons self ev⟩ =
        .normal ⟨loc, eeFld c (messageBlock c sp e b) sp ns rb re obuf osp ons self ev⟩ := by
  have h0 := hl.1
  simp [eeStmt, Stmt.hd, Stmt.tl, EncodeEntry_body, messageBlock, h0]
  split <;> rfl

/-- the logger's context: a SEPARATOR (the last byte decides), then the raw bytes — only when there are any -/
theorem EE_ctx (P : Par) (c : ECfg) (b : Bytes) (sp : Bool) (ns : Int) (rb re : List Val)
    (obuf : Bytes) (osp : Bool) (ons : Int) (self : Val) (ev : List Val) (rec : Stmt → State → GoMini.Out) (loc : Env) :
    execS (X P) rec (eeStmt 7 EncodeEntry_body) ⟨loc, eeFld c b sp ns rb re obuf osp ons self ev⟩ =
        .normal ⟨loc, eeFld c (ctxBlock sp obuf b) sp ns rb re obuf osp ons self ev⟩ := by
  cases obuf with
  | nil => simp [eeStmt, Stmt.hd, Stmt.tl, EncodeEntry_body, ctxBlock]
  | cons o os =>
    have hpos : (0 : Int) < (os.length : Int) + 1 := by omega
    simp [eeStmt, Stmt.hd, Stmt.tl, EncodeEntry_body, ctxBlock, hpos]

theorem EE_fields (P : Par) (c : ECfg) (e : EEnt) (fields : Val) (b : Bytes) (sp : Bool) (ns : Int) (rb re : List Val)
    (obuf : Bytes) (osp : Bool) (ons : Int) (self : Val) (ev : List Val) (rec : Stmt → State → GoMini.Out)
    (loc : Env) (hl : LocOK loc e fields) :
    execS (X P) rec (eeStmt 8 EncodeEntry_body) ⟨loc, eeFld c b sp ns rb re obuf osp ons self ev⟩ =
        .normal ⟨loc, eeFld c (P.addFields fields sp ⟨b, ns, rb, re⟩).buf sp (P.addFields fields sp ⟨b, ns, rb, re⟩).ns
          (P.addFields fields sp ⟨b, ns, rb, re⟩).rbuf (P.addFields fields sp ⟨b, ns, rb, re⟩).renc obuf osp ons self ev⟩ := by
  simp [eeStmt, Stmt.hd, Stmt.tl, EncodeEntry_body, hl.2]

theorem EE_closeNs (P : Par) (c : ECfg) (b : Bytes) (sp : Bool) (ns : Int) (rb re : List Val)
    (obuf : Bytes) (osp : Bool) (ons : Int) (self : Val) (ev : List Val) (rec : Stmt → State → GoMini.Out) (loc : Env) :
    execS (X P) rec (eeStmt 9 EncodeEntry_body) ⟨loc, eeFld c b sp ns rb re obuf osp ons self ev⟩ =
        .normal ⟨loc, eeFld c (closeNs b ns) sp 0 rb re obuf osp ons self ev⟩ := by
  simp [eeStmt, Stmt.hd, Stmt.tl, EncodeEntry_body]

theorem EE_stack (P : Par) (c : ECfg) (e : EEnt) (fields : Val) (b : Bytes) (sp : Bool) (ns : Int) (rb re : List Val)
    (obuf : Bytes) (osp : Bool) (ons : Int) (self : Val) (ev : List Val) (rec : Stmt → State → GoMini.Out)
    (loc : Env) (hl : LocOK loc e fields) :
    execS (X P) rec (eeStmt 10 EncodeEntry_body) ⟨loc, eeFld c b sp ns rb re obuf osp ons self ev⟩ =
        .normal ⟨loc, eeFld c (stackBlock c sp e b) sp ns rb re obuf osp ons self ev⟩ := by
  have h0 := hl.1
  simp [eeStmt, Stmt.hd, Stmt.tl, EncodeEntry_body, stackBlock, h0, Res.out_ite]
  by_cases hs : e.stack = []
  · simp only [eq_true hs, if_true, true_or]
  · by_cases hk : c.stacktraceKey = [] <;> simp only [eq_false hs, hk, if_false, if_true, false_or]

/-- `}`, the line ending, `ret := final.buf`, THEN `putJSONEncoder(final)` — the last thing that happens — and `return ret, nil` -/
theorem EE_tail (P : Par) (c : ECfg) (b : Bytes) (sp : Bool) (ns : Int) (rb re : List Val)
    (obuf : Bytes) (osp : Bool) (ons : Int) (self : Val) (ev : List Val) (rec : Stmt → State → GoMini.Out) (loc : Env) :
    execS (X P) rec (EncodeEntry_body.tl.tl.tl.tl.tl.tl.tl.tl.tl.tl.tl) ⟨loc, eeFld c b sp ns rb re obuf osp ons self ev⟩ =
        .ret [.bytes (b ++ 125 :: c.lineEnding), .list []]
          ⟨loc.set "l4" (.bytes (b ++ 125 :: c.lineEnding)),
           eeFld c (b ++ 125 :: c.lineEnding) sp ns rb re obuf osp ons self
             (ev ++ [.list [TransJsonEnc.nm "putJSONEncoder", .list rb, self]])⟩ := by
  simp [Stmt.tl, EncodeEntry_body, nm_put]

/-- **EncodeEntry_matches_source**: for every configuration, entry, context and every behaviour of the sub-encoders
    and of `addFields`, the interpreted `EncodeEntry` returns `entryBytes` and a nil error; the trace is the clone
    first and `putJSONEncoder(final)` LAST (after the buffer was read) -/
theorem EncodeEntry_matches_source (P : Par) (c : ECfg) (e : EEnt) (fields : Val) (b0 : Bytes) (sp0 : Bool) (ns0 : Int)
    (rb0 re0 : List Val) (obuf : Bytes) (osp : Bool) (ons : Int) (self : Val) (ev : List Val) (fuel : Nat) :
    run (X P) (fuel + 1) "EncodeEntry" [e.val, fields] (eeFld c b0 sp0 ns0 rb0 re0 obuf osp ons self ev) =
      .done [.bytes (entryBytes P c osp ons obuf e fields), .list []]
        (eeFld c (entryBytes P c osp ons obuf e fields) osp 0 (afterFields P c osp ons obuf e fields).rbuf
          (afterFields P c osp ons obuf e fields).renc obuf osp ons self
          (ev ++ [.list [TransJsonEnc.nm "jsonEncoder.clone", .bool osp, .int ons],
                  .list [TransJsonEnc.nm "putJSONEncoder", .list (afterFields P c osp ons obuf e fields).rbuf, self]])) := by
  refine run_of_exec (X_funs P) funs_EncodeEntry rfl ?_
  show (execS (X P) (exec (X P) fuel) EncodeEntry_body ⟨[("p0", e.val), ("p1", fields)], _⟩).fin = _
  have hb : EncodeEntry_body =
      .seq (eeStmt 0 EncodeEntry_body) (.seq (eeStmt 1 EncodeEntry_body) (.seq (eeStmt 2 EncodeEntry_body)
      (.seq (eeStmt 3 EncodeEntry_body) (.seq (eeStmt 4 EncodeEntry_body) (.seq (eeStmt 5 EncodeEntry_body)
      (.seq (eeStmt 6 EncodeEntry_body) (.seq (eeStmt 7 EncodeEntry_body) (.seq (eeStmt 8 EncodeEntry_body)
      (.seq (eeStmt 9 EncodeEntry_body) (.seq (eeStmt 10 EncodeEntry_body)
        EncodeEntry_body.tl.tl.tl.tl.tl.tl.tl.tl.tl.tl.tl)))))))))) := rfl
  have hl0 : LocOK [("p0", e.val), ("p1", fields)] e fields := ⟨rfl, rfl⟩
  generalize hrec : exec (X P) fuel = rec
  rw [hb]
  simp only [execS_seq]
  rw [EE_clone]; simp only [Out.andThen_normal, execS_seq]
  rw [EE_open]; simp only [Out.andThen_normal, execS_seq]
  obtain ⟨loc2, h2, hl2⟩ := EE_level P c e fields ([] ++ [123]) osp ons [] [] obuf osp ons self
    (ev ++ [.list [TransJsonEnc.nm "jsonEncoder.clone", .bool osp, .int ons]]) rec _ hl0
  rw [h2]; simp only [Out.andThen_normal, execS_seq]
  rw [EE_time P c e fields _ _ _ _ _ _ _ _ _ _ rec _ hl2]; simp only [Out.andThen_normal, execS_seq]
  obtain ⟨loc4, h4, hl4⟩ := EE_name P c e fields (timeBlock P c osp e (levelBlock P c osp e ([] ++ [123]))) osp ons [] []
    obuf osp ons self (ev ++ [.list [TransJsonEnc.nm "jsonEncoder.clone", .bool osp, .int ons]]) rec _ hl2
  rw [h4]; simp only [Out.andThen_normal, execS_seq]
  obtain ⟨loc5, h5, hl5⟩ := EE_caller P c e fields
    (nameBlock P c osp e (timeBlock P c osp e (levelBlock P c osp e ([] ++ [123])))) osp ons [] []
    obuf osp ons self (ev ++ [.list [TransJsonEnc.nm "jsonEncoder.clone", .bool osp, .int ons]]) rec _ hl4
  rw [h5]; simp only [Out.andThen_normal, execS_seq]
  rw [EE_message P c e fields _ _ _ _ _ _ _ _ _ _ rec _ hl5]; simp only [Out.andThen_normal, execS_seq]
  rw [EE_ctx]; simp only [Out.andThen_normal, execS_seq]
  rw [EE_fields P c e fields _ _ _ _ _ _ _ _ _ _ rec _ hl5]; simp only [Out.andThen_normal, execS_seq]
  rw [EE_closeNs]; simp only [Out.andThen_normal, execS_seq]
  rw [EE_stack P c e fields _ _ _ _ _ _ _ _ _ _ rec _ hl5]; simp only [Out.andThen_normal]
  rw [EE_tail]
  simp [entryBytes, afterFields, metaBytes]

/-- the line is the model's: `Enc.encodeEntry` over `Entry.metaCalls` / `Entry.stackCalls` — the function `jsonLine` and
    the theorems of C01 / C02 are stated over — whenever the sub-encoders and `addFields` do on the buffer what the
    model's call trees say (`TransJsonEnc.EntryLink`, Proofs/TransJsonEntry.lean) -/
theorem EncodeEntry_is_encodeEntry (P : Par) (c : ECfg) (e : EEnt) (cfg : Entry.Cfg) (ent : Entry.Ent)
    (L : EntryLink P c e cfg ent) (fields : Val) (calls : List OC) (obuf : Bytes) (osp : Bool) (ons : Nat)
    (hf : ∀ b : Bytes, (P.addFields fields osp ⟨b, ons, [], []⟩).buf = (runO osp ⟨b, ons⟩ calls).buf ∧
      (P.addFields fields osp ⟨b, ons, [], []⟩).ns = ((runO osp ⟨b, ons⟩ calls).openNs : Int))
    (b0 : Bytes) (sp0 : Bool) (ns0 : Int) (rb0 re0 : List Val) (self : Val) (ev : List Val) (fuel : Nat) :
    ∃ fl, run (X P) (fuel + 1) "EncodeEntry" [e.val, fields] (eeFld c b0 sp0 ns0 rb0 re0 obuf osp ons self ev) =
      .done [.bytes (encodeEntry osp (Entry.metaCalls cfg ent) ⟨obuf, ons⟩ calls (Entry.stackCalls cfg ent) c.lineEnding),
             .list []] fl := by
  have h := EncodeEntry_matches_source P c e fields b0 sp0 ns0 rb0 re0 obuf osp ons self ev fuel
  rw [entryBytes_is_encodeEntry P c e cfg ent L osp ons obuf fields calls hf] at h
  exact ⟨_, h⟩

end ZapVerif.C02
