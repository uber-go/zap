import ZapVerif.Proofs.Writers
import ZapVerif.Proofs.TransMultiWS
import ZapVerif.Proofs.TransLocked
import ZapVerif.Proofs.Merge
import ZapVerif.Gen.Delegates
import ZapVerif.Proofs.TransWriters
/-! # C13 — zap's writers and WriteSyncer combinators honour the io.Writer contract -/
namespace ZapVerif.C13
open ZapVerif ZapVerif.Writers

theorem multiRun_append (p : Bytes) (a b : List Out) :
    multiRun p (a ++ b) = b.foldl (multiStep p) (multiRun p a) := by
  simp [multiRun, List.foldl_append]

/-- the count returned is the smallest count any sink reported (at least one sink) -/
theorem multi_count_min (p : Bytes) (o : Out) (outs : List Out) :
    (∀ x ∈ o :: outs, (multiWrite p (o :: outs)).1 ≤ x.n) ∧
    (∃ x ∈ o :: outs, (multiWrite p (o :: outs)).1 = x.n) := by
  have h0 : (multiStep p {} o).count = some o.n := by simp [multiStep]
  obtain ⟨c', h1, h2, h3, h4⟩ := fold_count_le p outs (multiStep p {} o) o.n h0
  have hv : (multiWrite p (o :: outs)).1 = c' := by
    simp [multiWrite, multiRun, List.foldl_cons, h1]
  rw [hv]
  constructor
  · intro x hx
    rcases List.mem_cons.mp hx with rfl | hx
    · exact h2
    · exact h3 x hx
  · rcases h4 with h4 | ⟨x, hx, hxe⟩
    · exact ⟨o, by simp, h4⟩
    · exact ⟨x, List.mem_cons_of_mem _ hx, hxe⟩

/-- identical bytes reach every sink, whatever earlier sinks returned -/
theorem multi_same_bytes_all (p : Bytes) (outs : List Out) :
    (multiRun p outs).delivered = List.replicate outs.length p := by
  have := (fold_delivered p outs {}).1
  simpa [multiRun] using this

/-- all errors are returned, in sink order, and nothing else -/
theorem multi_errors_all (p : Bytes) (outs : List Out) :
    (multiWrite p outs).2 = ((outs.zipIdx).filter (·.1.err)).map (·.2) := by
  have := fold_errs p outs {}
  simpa [multiWrite, multiRun] using this

/-- Sync reaches every sink and reports every error -/
theorem multi_sync_all (errs : List Bool) :
    (multiSync errs).2 = List.replicate errs.length true ∧
    (multiSync errs).1 = ((errs.zipIdx).filter (·.1)).map (·.2) := by
  constructor
  · simp [multiSync]; induction errs with
    | nil => rfl
    | cons e r ih => simp [List.replicate_succ, ih]
  · rfl

/-- AddSync keeps an existing Sync and adds a no-op one otherwise; Write is relayed unchanged -/
theorem addsync_keeps (o : Out) (se : Bool) : addSync true o se = (o.n, o.err, true, se) := by simp [addSync]
theorem addsync_adds_nop (o : Out) (se : Bool) : addSync false o se = (o.n, o.err, false, false) := by simp [addSync]

/-- Lock relays results unchanged and does not layer a second lock -/
theorem lock_relays (o : Out) (se : Bool) : lock o se = (o.n, o.err, se, true) := rfl

/-- the lock-protected wrappers (`zapcore.Lock`'s lockedWriteSyncer, BufferedWriteSyncer) call into the wrapped, not
    concurrency-safe WriteSyncer / bufio.Writer ONLY while holding their mutex — every call site of today's source
    (regenerated table Gen/Delegates; helpers that do not lock are guarded iff all their callers hold the lock) -/
theorem lock_delegate_calls_guarded : Gen.Delegates.rows.all (fun r => r.2.2.2.2.1) = true := by decide

/-- … and the table is not vacuous: both Write and Sync of each wrapper reach the wrapped object through such a site -/
theorem lock_delegate_surface :
    (["Write", "Sync"].all fun m => Gen.Delegates.rows.any fun r => r.1 == "lockedWriteSyncer" && r.2.1 == m && r.2.2.1 == "ws") = true ∧
    (Gen.Delegates.rows.any fun r => r.1 == "BufferedWriteSyncer" && r.2.2.1 == "WS" && r.2.2.2.1 == "Sync") = true ∧
    (Gen.Delegates.rows.any fun r => r.1 == "BufferedWriteSyncer" && r.2.2.1 == "writer" && r.2.2.2.1 == "Write") = true ∧
    (Gen.Delegates.rows.any fun r => r.1 == "BufferedWriteSyncer" && r.2.2.1 == "writer" && r.2.2.2.1 == "Flush") = true := by decide +kernel

/-- Lock makes writes mutually exclusive: under any schedule the sink holds whole writes in
    acquisition order whenever the mutex is free (instance of the C04 machine) -/
theorem lock_mutex (s : Merge.St) (sched : List Nat) (h : Merge.Inv s) (hf : (Merge.run s sched).lock = none) :
    (Merge.run s sched).sink = Merge.written (Merge.run s sched) :=
  Merge.sink_whole_lines s sched h hf

/-- every zap-provided writer reports len(p) with a nil error: never a short count without an error -/
theorem full_count (p : Bytes) : writerWrite p = (p.length, false) := rfl

/-- non-vacuity: the vector of finding F12 (a first sink reporting 0 must not be skipped) -/
example : multiWrite [1, 2, 3, 4, 5] [⟨0, false⟩, ⟨5, false⟩] = (0, []) := by decide
example : multiWrite [1, 2, 3] [⟨3, true⟩, ⟨1, false⟩, ⟨2, true⟩] = (1, [0, 2]) := by decide

end ZapVerif.C13

/-! ## the model's multi-syncer loops ARE the source (Go→GoMini translation, docs/TRANSLATOR.md)

`Gen/TransMultiWS.lean` holds the bodies of `multiWriteSyncer.Write` and `multiWriteSyncer.Sync` as read from
zapcore/write_syncer.go on this run.  Sinks are values that script their own outcome (`TransMultiWS.sinksOf`), errors
are lists of ids and `multierr.Append` is concatenation.  For EVERY number of sinks and every outcome vector the
interpreted loops return exactly `Writers.multiWrite` / `Writers.multiSync`, and every sink's `Write` is handed the
same `p` (the recorded calls). -/
namespace ZapVerif.C13
open ZapVerif ZapVerif.Writers ZapVerif.GoMini ZapVerif.TransMultiWS ZapVerif.Gen.TransMultiWS

/-- the state of `Write` at the loop head; `rest` holds the loop variables `i, w, n, err` once they are bound -/
def wSt (p : Bytes) (sinks : List Val) (a : Nat × List Val × List Val) (rest : Env) : State :=
  ⟨[("p0", .bytes p), ("l0", .list a.2.1), ("l1", .int a.1)] ++ rest, [("ws", .list sinks), ("writes", .list a.2.2)]⟩

/-- one iteration of the `Write` loop is `wstep` (hence `Writers.multiStep`): the sink is called with `p`, its
    error is appended, the count becomes the sink's count on the first iteration or when it is smaller -/
theorem multiWrite_iter_matches_source (p : Bytes) (sinks : List Val) (rec : Stmt → State → GoMini.Out)
    (a : Nat × List Val × List Val) (rest : Env) (i : Nat) (y : Writers.Out × Nat) :
    ∃ rest', execS X rec Write_loop0.rbody (((wSt p sinks a rest).assign1 (.loc "l2") (.int i)).assign1 (.loc "l3")
        (sinkV y.1.n (errIf y.1.err y.2) [])) = .normal (wSt p sinks (wstep p a i y) rest') := by
  obtain ⟨c, errs, ws⟩ := a
  refine ⟨Env.set "l5" (.list (errIf y.1.err y.2)) (Env.set "l4" (.int y.1.n)
    (Env.set "l3" (sinkV y.1.n (errIf y.1.err y.2) []) (Env.set "l2" (.int i) rest))), ?_⟩
  -- the body runs once, up to `if i == 0 || n < nWritten`; only then the two outcomes
  simp [Write_loop0, Stmt.rbody, wSt, wstep, traceName, orK_ok_bool, -orK_bool, Env.get_set_other]
  split <;> rfl

/-- the whole loop of `multiWriteSyncer.Write` is the model's fold, for every number of sinks; no fuel is needed -/
theorem multiWrite_loop_matches_source (p : Bytes) (outs : List Writers.Out) (rec : Stmt → State → GoMini.Out) :
    ∃ rest, execS X rec Write_loop0 (wSt p (sinksOf outs) (0, [], []) []) =
      .normal (wSt p (sinksOf outs) (wfold p outs 0 (0, [], [])) rest) := by
  have hws : evalE X (wSt p (sinksOf outs) (0, [], []) []) (.fld "ws") = .ok (.list (sinksOf outs)) := by
    simp [wSt]
  unfold Write_loop0
  rw [execS_range, hws]
  exact rangeRun_foldIdx (execS X rec Write_loop0.rbody) _ _ (fun y : Writers.Out × Nat => sinkV y.1.n (errIf y.1.err y.2) [])
    (wSt p (sinksOf outs)) (wstep p) outs.zipIdx (fun a rest i y _ => multiWrite_iter_matches_source p _ rec a rest i y)
    outs.zipIdx 0 (0, [], []) [] rfl

/-- `multiWriteSyncer.Write(p)` ≡ `Writers.multiWrite`: the count is the first sink's, then the minimum; every
    sink's error is kept, in order; every sink is handed `p` — for every number of sinks and every outcome vector -/
theorem multiWrite_matches_source (p : Bytes) (outs : List Writers.Out) (fuel : Nat) :
    run X (fuel + 1) "Write" [.bytes p] [("ws", .list (sinksOf outs)), ("writes", .list [])] =
      .done [.int (multiWrite p outs).1, .list ((multiWrite p outs).2.map fun (i : Nat) => Val.int i)]
        [("ws", .list (sinksOf outs)), ("writes", .list ((sinksOf outs).map fun s => Val.list [traceName, s, .bytes p]))] := by
  refine run_of_exec X_funs funs_Write rfl ?_
  obtain ⟨rest, hl⟩ := multiWrite_loop_matches_source p outs (exec X fuel)
  simp only [wSt, List.append_nil] at hl
  rw [show ((0 : Nat) : Int) = 0 from rfl] at hl
  obtain ⟨h1, h2, h3⟩ := wfold_multiWrite p outs
  simp [Write_body, hl, h1, h2, h3]

/-- the state of `Sync` at the loop head: the errors so far; `rest` holds the loop variable once bound -/
def sSt (sinks : List Val) (errs : List Val) (rest : Env) : State :=
  ⟨[("l0", .list errs)] ++ rest, [("ws", .list sinks)]⟩

/-- the loop of `multiWriteSyncer.Sync`: every sink is synced (no early exit), every error kept in order -/
theorem multiSync_loop_matches_source (errs : List Bool) (rec : Stmt → State → GoMini.Out) :
    ∃ rest, execS X rec Sync_loop0 (sSt (syncSinksOf errs) [] []) =
      .normal (sSt (syncSinksOf errs) ((multiSync errs).1.map (fun i : Nat => Val.int i)) rest) := by
  have hiter : ∀ (a : List Val) (rest : Env) (i : Nat) (y : Bool × Nat), errs.zipIdx[i]? = some y →
      ∃ rest', execS X rec Sync_loop0.rbody (((sSt (syncSinksOf errs) a rest).assign1 .blank (.int i)).assign1 (.loc "l1")
          (sinkV 0 [] (errIf y.1 y.2))) = .normal (sSt (syncSinksOf errs) (a ++ errIf y.1 y.2) rest') :=
    fun a rest i y _ => ⟨Env.set "l1" (sinkV 0 [] (errIf y.1 y.2)) rest, by simp [Sync_loop0, Stmt.rbody, sSt]⟩
  have hws : evalE X (sSt (syncSinksOf errs) [] []) (.fld "ws") = .ok (.list (syncSinksOf errs)) := by
    simp [sSt]
  unfold Sync_loop0
  rw [execS_range, hws]
  obtain ⟨rest, h⟩ := rangeRun_foldIdx (execS X rec Sync_loop0.rbody) _ _ (fun y : Bool × Nat => sinkV 0 [] (errIf y.1 y.2))
    (sSt (syncSinksOf errs)) (fun a _ y => a ++ errIf y.1 y.2) errs.zipIdx hiter errs.zipIdx 0 [] [] rfl
  refine ⟨rest, h.trans ?_⟩
  have hfold : ∀ (l : List ((Bool × Nat) × Nat)) (a : List Val),
      l.foldl (fun a q => a ++ errIf q.1.1 q.1.2) a = a ++ l.flatMap fun q => errIf q.1.1 q.1.2 := by
    intro l
    induction l with
    | nil => intro a; simp
    | cons q l ih => intro a; simp [ih]
  rw [hfold, List.nil_append, zipIdx_flatMap_fst (fun q : Bool × Nat => errIf q.1 q.2)]
  rw [← map_filter_errIf (·.1) (·.2) errs.zipIdx]; rfl

/-- `multiWriteSyncer.Sync()` ≡ `Writers.multiSync`: the combined error lists exactly the failing sinks, in order,
    for every number of sinks -/
theorem multiSync_matches_source (errs : List Bool) (fuel : Nat) :
    run X (fuel + 1) "Sync" [] [("ws", .list (syncSinksOf errs))] =
      .done [.list ((multiSync errs).1.map fun (i : Nat) => Val.int i)] [("ws", .list (syncSinksOf errs))] := by
  refine run_of_exec X_funs funs_Sync rfl ?_
  obtain ⟨rest, hl⟩ := multiSync_loop_matches_source errs (exec X fuel)
  simp only [sSt, List.append_nil] at hl
  simp [Sync_body, hl]

end ZapVerif.C13

/-! ## `lockedWriteSyncer.Write/Sync` ARE the source (table `Gen/TransLocked.lean`)

`zapcore.Lock(ws)`: exactly one call of the wrapped `Write` (resp. `Sync`), with the caller's bytes, strictly between
`Lock` and `Unlock`, and its results relayed unchanged (`lock_relays`). -/
namespace ZapVerif.C13
open ZapVerif ZapVerif.GoMini ZapVerif.TransLocked ZapVerif.Gen.TransLocked

theorem lockedWriteSyncer_Write_matches_source (P : Par) (bs : Bytes) (n : Int) (werrs serrs ev : List Val) (fuel : Nat) :
    run (X P) (fuel + 1) "lockedWriteSyncer_Write" [.bytes bs] (lkFld (TransLocked.sinkV n werrs serrs) ev) =
      .done [.int n, .list werrs] (lkFld (TransLocked.sinkV n werrs serrs)
        (ev ++ [.list [TransLocked.nm "Mutex.Lock"],
                .list [TransLocked.nm "WriteSyncer.Write", TransLocked.sinkV n werrs serrs, .bytes bs],
                .list [TransLocked.nm "Mutex.Unlock"]])) := by
  refine run_of_exec (TransLocked.X_funs P) funs_lockedWriteSyncer_Write rfl ?_
  simp [lockedWriteSyncer_Write_body, nm_lock, nm_unlock, TransLocked.nm_wwrite]

theorem lockedWriteSyncer_Sync_matches_source (P : Par) (n : Int) (werrs serrs ev : List Val) (fuel : Nat) :
    run (X P) (fuel + 1) "lockedWriteSyncer_Sync" [] (lkFld (TransLocked.sinkV n werrs serrs) ev) =
      .done [.list serrs] (lkFld (TransLocked.sinkV n werrs serrs)
        (ev ++ [.list [TransLocked.nm "Mutex.Lock"],
                .list [TransLocked.nm "WriteSyncer.Sync", TransLocked.sinkV n werrs serrs],
                .list [TransLocked.nm "Mutex.Unlock"]])) := by
  refine run_of_exec (TransLocked.X_funs P) funs_lockedWriteSyncer_Sync rfl ?_
  simp [lockedWriteSyncer_Sync_body, nm_lock, nm_unlock, TransLocked.nm_wsync]

end ZapVerif.C13

/-! ## the small writers ARE the source (table `Gen/TransWriters.lean`)

global.go `(*loggerWriter).Write` (the standard-library log bridge), zaptest `TestingWriter.Write`, zapcore `AddSync`,
`writerWrapper.Sync`, `Lock`, `NewMultiWriteSyncer`, translated mechanically, are interpreted with `bytes.TrimSpace` /
`TrimRight` and the two type assertions as parameters, the log function / `t.Logf` / `t.Fail` as recorded calls.  The
bridge and the testing writer report `len(p)` of what they were HANDED and a nil error whatever the trim leaves
(`Writers.writerWrite`, the function of `full_count`); `AddSync` / `Lock` return what `Writers.addSync` / `lock` describe. -/
namespace ZapVerif.C13
open ZapVerif ZapVerif.GoMini ZapVerif.TransWriters ZapVerif.Gen.TransWriters

/-- the std-log bridge `(*loggerWriter).Write`: ONE call of the log function with the space-trimmed text, and the count
    returned is the length of what was HANDED IN (`len(p)` is taken before trimming), the error nil — `Writers.writerWrite` -/
theorem loggerWriter_Write_matches_source (P : Par) (p : Bytes) (f : Val) (ev : List Val) (fuel : Nat) :
    run (X P) (fuel + 1) "loggerWriter_Write" [.bytes p] [("ev", .list ev), ("logFunc", f)] =
      .done [.int (Writers.writerWrite p).1, .list []]
        [("ev", .list (ev ++ [.list [TransWriters.nm "LogFunc.call", f, .bytes (P.trimSpace p)]])), ("logFunc", f)] := by
  refine run_of_exec (X_funs P) funs_loggerWriter_Write rfl ?_
  simp [loggerWriter_Write_body, nm_logFunc, Writers.writerWrite]

/-- `TestingWriter.Write`: ONE `t.Logf("%s", p without trailing newlines)`, then `t.Fail()` iff `markFailed`; `len(p)`
    of what was handed in and a nil error -/
theorem TestingWriter_Write_matches_source (P : Par) (p : Bytes) (t : Val) (mf : Bool) (ev : List Val) (fuel : Nat) :
    run (X P) (fuel + 1) "TestingWriter_Write" [.bytes p] [("ev", .list ev), ("t", t), ("markFailed", .bool mf)] =
      .done [.int (Writers.writerWrite p).1, .list []]
        [("ev", .list (ev ++ .list [TransWriters.nm "TB.Logf", t, .bytes [37, 115], .bytes (P.trimRight p [10])] ::
            (if mf then [.list [TransWriters.nm "TB.Fail", t]] else []))), ("t", t), ("markFailed", .bool mf)] := by
  refine run_of_exec (X_funs P) funs_TestingWriter_Write rfl ?_
  simp [TestingWriter_Write_body, nm_logf, nm_fail, Writers.writerWrite, Out.andThen_ite, Out.fin_ite]
  cases mf <;> simp

/-- `AddSync`: a writer that IS a WriteSyncer is returned as is (its own Sync is kept); anything else is wrapped in
    `writerWrapper{w}`, whose `Sync` is a no-op (next theorem) — `Writers.addSync` -/
theorem AddSync_matches_source (P : Par) (w : Val) (fl : Env) (fuel : Nat) :
    run (X P) (fuel + 1) "AddSync" [w] fl =
      .done [match P.asWS w with | some ws => ws | none => .list [.list [w]]] fl := by
  refine run_of_exec (X_funs P) funs_AddSync rfl ?_
  simp [AddSync_body, Out.fin_ite]
  cases P.asWS w <;> rfl

theorem writerWrapper_Sync_matches_source (P : Par) (fl : Env) (fuel : Nat) :
    run (X P) (fuel + 1) "writerWrapper_Sync" [] fl = .done [.list []] fl := by
  refine run_of_exec (X_funs P) funs_writerWrapper_Sync rfl ?_
  simp [writerWrapper_Sync_body]

/-- `Lock`: an already locked syncer is returned as is (no second layer); anything else gets ONE fresh
    `lockedWriteSyncer` (zero mutex) around it -/
theorem Lock_matches_source (P : Par) (ws : Val) (fl : Env) (fuel : Nat) :
    run (X P) (fuel + 1) "Lock" [ws] fl = .done [if P.isLocked ws then ws else .list [.list [.list [], ws]]] fl := by
  refine run_of_exec (X_funs P) funs_Lock rfl ?_
  simp [Lock_body, Out.fin_ite, Out.andThen_ite]
  cases P.isLocked ws <;> rfl

/-- `NewMultiWriteSyncer`: ONE syncer is returned itself; otherwise the multi-syncer over exactly the given ones in order -/
theorem NewMultiWriteSyncer_matches_source (P : Par) (ws : List Val) (fl : Env) (fuel : Nat) :
    run (X P) (fuel + 1) "NewMultiWriteSyncer" [.list ws] fl =
      .done [match ws with | [w] => w | _ => .list [.list ws]] fl := by
  refine run_of_exec (X_funs P) funs_NewMultiWriteSyncer rfl ?_
  cases ws with
  | nil => simp [NewMultiWriteSyncer_body]
  | cons a r =>
    cases r with
    | nil => simp [NewMultiWriteSyncer_body]
    | cons b r' =>
      have h1 : ¬ ((r'.length : Int) + 1 + 1 = 1) := by omega
      simp [NewMultiWriteSyncer_body, h1]

/-- the decisions of the translated `AddSync` (+ `writerWrapper.Sync`) are `Writers.addSync`: whether a later `Sync`
    reaches the sink, and with which error -/
theorem AddSync_is_addSync (isWS : Bool) (o : Writers.Out) (se : Bool) :
    Writers.addSync isWS o se = (o.n, o.err, isWS, if isWS then se else false) := by
  cases isWS <;> simp [Writers.addSync]

end ZapVerif.C13
