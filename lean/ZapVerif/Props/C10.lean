import ZapVerif.Model.Deliver
import ZapVerif.Proofs.EntryWF
import ZapVerif.Proofs.TransCE
import ZapVerif.Proofs.TransCores
/-! # C10 — field and sink failures are contained and reported; the entry is never lost -/
namespace ZapVerif.C10
open ZapVerif ZapVerif.Esc ZapVerif.Json ZapVerif.Enc ZapVerif.Entry ZapVerif.Deliver

/-- with failures injected at ANY set of positions (marshaler errors, panicking or nil Stringers / errors,
    reflection failures, failing causes inside error groups — `FieldOK` puts no constraint on them), the entry is
    still emitted as one well-formed object on one line -/
theorem field_failure_contained (c : Cfg) (e : Ent) (ctx : List (List Field)) (fields : List Field)
    (he : EntOK e) (hc : ∀ fs ∈ ctx, ∀ f ∈ fs, FieldOK f) (hf : ∀ f ∈ fields, FieldOK f) :
    jsonLine c e ctx fields = render (J.obj (entryMembers c e ctx fields)) ++ c.ending ∧
    WFj (J.obj (entryMembers c e ctx fields)) ∧ (∀ b ∈ render (J.obj (entryMembers c e ctx fields)), b ≥ 32) := by
  have hok := entryMembers_ok c e ctx fields he hc hf
  exact ⟨jsonLine_eq_render c e ctx fields he hc hf, hok.1, render_ge _ hok.1 hok.2⟩

/-- all other fields are intact: what a field contributes does not depend on its neighbours, failing or not -/
theorem siblings_independent (a b : List Field) (f : Field) :
    addFields (a ++ f :: b) = addFields a ++ addTo f ++ addFields b := by
  simp [addFields, List.flatMap_append, List.flatMap_cons]

/-- each failure is reported by a string member `<key>Error` right after what the field managed to write -/
theorem failing_object_reports (k : Bytes) (body : List OC) (msg : Bytes) :
    addTo (.obj k body (some msg)) = [OC.obj k body, strPrim (sfx k "Error") msg] := by simp [addTo, errCall]
theorem failing_array_reports (k : Bytes) (body : List AC) (msg : Bytes) :
    addTo (.arr k body (some msg)) = [OC.arr k body, strPrim (sfx k "Error") msg] := by simp [addTo, errCall]
theorem failing_inline_reports (k : Bytes) (body : List OC) (msg : Bytes) :
    addTo (.inline k body (some msg)) = body ++ [strPrim (sfx k "Error") msg] := by simp [addTo, errCall]
theorem panicking_stringer_reports (k m : Bytes) :
    addTo (.stringer k (.panic m)) = [strPrim (sfx k "Error") (panicText m)] := by simp [addTo, errCall]
theorem nil_stringer_is_nil_text (k : Bytes) : addTo (.stringer k .nilRecv) = [strPrim k nilText] := by simp [addTo]
theorem panicking_error_reports (k m : Bytes) (v : Option Bytes) (g : Bool) (cs : List ErrV) :
    addTo (.error k (.mk (.panic m) v g cs)) = [strPrim (sfx k "Error") (panicText m)] := by
  simp [addTo, encErr, errCall]

/-- a failed reflection writes nothing of its own (encode-before-key), only the report -/
theorem reflect_fail_writes_nothing (k msg : Bytes) :
    addTo (.refl k none msg) = [strPrim (sfx k "Error") msg] := by simp [addTo, errCall]

/-- an object or array is always closed, error or not: the bytes of a failing marshaler field are those of the
    succeeding one followed by the report member -/
theorem array_close_always (sp : Bool) (k : Bytes) (body : List AC) (msg : Bytes) (first : Bool) :
    (outO sp first (addTo (.arr k body (some msg)))).1 =
      (outO sp first (addTo (.arr k body none))).1 ++ (outO sp false [strPrim (sfx k "Error") msg]).1 := by
  simp [addTo, errCall, outO, strPrim, List.append_assoc]

/-- zap.Stringers: a nil element is rendered "<nil>", a panicking element ends the (closed) array and is
    reported under `<key>Error`; in every case the field is well-formed -/
theorem stringers_contained (k : Bytes) (os : List Entry.Outcome) : FieldOK (stringersField k os) := by
  unfold stringersField
  show GoodA (stringersBody os).1
  induction os with
  | nil => exact ⟨by simp [stringersBody, WFa], by simp [stringersBody, NoCtlA]⟩
  | cons o r ih =>
    cases o with
    | ok s => exact ⟨by simpa [stringersBody, WFa, WFj, esc_ok] using ih.1, by simpa [stringersBody, NoCtlA, NoCtlJ] using ih.2⟩
    | nilRecv => exact ⟨by simpa [stringersBody, WFa, WFj, esc_ok] using ih.1, by simpa [stringersBody, NoCtlA, NoCtlJ] using ih.2⟩
    | panic m => exact ⟨by simp [stringersBody, WFa], by simp [stringersBody, NoCtlA]⟩

/-- zap.Errors: every element — plain, verbose, a group with causes, nil pointer, panicking — yields a closed,
    well-formed object; a failing element reports itself inside its own object and the array goes on -/
theorem errors_field_contained (k : Bytes) (es : List ErrV) : FieldOK (errorsField k es) := by
  unfold errorsField
  show GoodA (es.map fun e => AC.obj (addTo (.error (litStr "error") e)))
  induction es with
  | nil => exact ⟨by simp [WFa], by simp [NoCtlA]⟩
  | cons e r ih =>
    have he := addTo_good (.error (litStr "error") e) trivial
    exact ⟨by simpa [WFa] using ⟨he.1, ih.1⟩, by simpa [NoCtlA] using ⟨he.2, ih.2⟩⟩

/-! ### sinks and cores -/

/-- every sink under every accepting core receives the entry, whatever any other sink or core returned -/
theorem ce_write_all_cores (c : Core) :
    (logOnce c).delivered = ((accepted c).flatMap sinksOf).map (·.id) := rfl

/-- delivery does not depend on the outcomes at all: flipping every error flag changes nothing -/
theorem delivery_ignores_errors (en : Bool) (sinks : List Sink) :
    (logOnce (.io en sinks)).delivered = (logOnce (.io en (sinks.map fun s => { s with writeErr := false }))).delivered := by
  cases en <;> simp [logOnce, accepted, sinksOf, List.map_map, Function.comp_def]

/-- a tee delivers to each enabled branch: the accepted cores of a tee are those of its branches, in order -/
theorem tee_write_all (cs : List Core) : accepted (.tee cs) = acceptedL cs := by simp [accepted]

/-- all write errors are reported, in order, on exactly one line of the error output; none ⇒ no line -/
theorem errors_all_reported (c : Core) :
    (logOnce c).reported = ((((accepted c).flatMap sinksOf).filter (·.writeErr)).map (·.id)) ∧
    (logOnce c).errorLines = (if (logOnce c).reported.isEmpty then 0 else 1) := ⟨rfl, rfl⟩

/-- non-vacuity: a tee whose first branch fails still delivers to the second and reports the failure -/
example : logOnce (.tee [.io true [⟨0, true, false⟩], .io false [⟨1, false, false⟩], .wrap (.tee [.io true [⟨2, false, false⟩, ⟨3, true, false⟩]])]) =
    ⟨[0, 2, 3], [0, 3], 1⟩ := by decide

end ZapVerif.C10

/-! ## `CheckedEntry.Write` IS the source (Go→GoMini translation, docs/TRANSLATOR.md)

`Gen/TransCE.lean` holds the body of `(*CheckedEntry).Write` as read from zapcore/entry.go on this run.  Every call it
makes to the outside is a recorded intrinsic; the theorem gives the exact trace for EVERY list of cores and every
combination of write outcomes: each core written once, in order, whatever the earlier ones returned; one
`Fprintf` + `Sync` on the ErrorOutput iff some write failed (and an ErrorOutput is set), carrying ALL errors in order;
then the hook, unconditionally, if one is set; then the pool put — in this order. -/
namespace ZapVerif.C10
open ZapVerif ZapVerif.Deliver ZapVerif.GoMini ZapVerif.TransCE ZapVerif.Gen.TransCE

/-- state at the head of the core loop and after it (`rest`: the loop variables earlier iterations left) -/
abbrev ceAbs (eo after cores : List Val) (time entry self fs : Val) (acc tr : List Val) (rest : Env) : State :=
  ⟨("p0", fs) :: ("l0", .list acc) :: rest, ceFld false true eo after cores time entry self tr⟩

theorem CheckedEntry_Write_loop_matches_source (cs : List (Nat × List Val)) (eo after : List Val)
    (time entry self fs : Val) (ev : List Val) (rec : Stmt → State → GoMini.Out) :
    ∃ rest, execS X rec Write_loop0 (ceAbs eo after (cs.map coreOf) time entry self fs [] ev []) =
      .normal (ceAbs eo after (cs.map coreOf) time entry self fs
        (cs.flatMap (·.2)) (ev ++ cs.map fun c => evCore (coreOf c) entry fs) rest) := by
  have hcs : evalE X (ceAbs eo after (cs.map coreOf) time entry self fs [] ev []) (.fld "cores") =
      .ok (.list (cs.map coreOf)) := by simp
  unfold Write_loop0
  rw [execS_range, hcs, Res.out_ok]
  refine rangeRun_collect _ _ _ coreOf (·.2) (fun c => evCore (coreOf c) entry fs)
    (ceAbs eo after (cs.map coreOf) time entry self fs) cs ?_ cs 0 [] ev [] rfl
  intro acc tr rest i c hc
  have hidx := indexVal_list_map coreOf cs i c hc
  refine ⟨Env.set "l2" (.list c.2) (Env.set "l1" (.int i) rest), ?_⟩
  simp [hidx, evCore, nm_coreWrite]

/-- `if err != nil && ce.ErrorOutput != nil { fmt.Fprintf(ce.ErrorOutput, "%v write error: %v\n", …); ce.ErrorOutput.Sync() }` -/
def Write_report : Stmt := Write_body.tl.tl.tl.tl.tl.hd
/-- `hook := ce.after; if hook != nil { hook.OnWrite(ce, fields) }; putCheckedEntry(ce)` -/
def Write_finish : Stmt := Write_body.tl.tl.tl.tl.tl.tl

theorem Write_body_split : Write_body = .seq Write_body.hd (.seq Write_body.tl.hd
    (.seq (.assign [.fld "dirty"] [.lit (.bool true)]) (.seq (.assign [.loc "l0"] [.lit (.list [])])
    (.seq Write_loop0 (.seq Write_report Write_finish))))) := rfl

theorem Write_report_matches_source (eo after cores : List Val) (time entry self fs : Val) (errs tr : List Val) (rest : Env)
    (rec : Stmt → State → GoMini.Out) :
    execS X rec Write_report (ceAbs eo after cores time entry self fs errs tr rest) =
      .normal (ceAbs eo after cores time entry self fs errs
        (tr ++ if errs ≠ [] ∧ eo ≠ [] then [evErrLine eo time errs, evErrSync eo] else []) rest) := by
  simp only [Write_report, Write_body, Stmt.hd, Stmt.tl]
  simp [evErrLine, evErrSync, nm_fprintf, nm_sync, nm_errfmt, Res.out_ite]
  by_cases he : errs = [] <;> by_cases ho : eo = [] <;> simp [he, ho]

theorem Write_finish_matches_source (eo after cores : List Val) (time entry self fs : Val) (errs tr : List Val) (rest : Env)
    (rec : Stmt → State → GoMini.Out) :
    (execS X rec Write_finish (ceAbs eo after cores time entry self fs errs tr rest)).fin =
      some ([], ceFld false true eo after cores time entry self
        (tr ++ (if after ≠ [] then [evHook after self fs] else []) ++ [evPut self])) := by
  simp only [Write_finish, Write_body, Stmt.tl]
  simp [evHook, evPut, nm_hook, nm_put, Out.andThen_ite, Out.fin_ite]
  by_cases ha : after = [] <;> simp [ha]

/-- `(*CheckedEntry).Write(fields…)` on a fresh (non-nil, not dirty) entry, for EVERY list of cores and write outcomes:
    the entry is marked dirty and the calls made are exactly `TransCE.expected` — all cores in order, the error line
    (+ Sync) iff some write failed and an ErrorOutput is set, with every error in order, then the hook if set
    (whatever the writes returned), then the pool put last -/
theorem CheckedEntry_Write_matches_source (cs : List (Nat × List Val)) (eo after : List Val)
    (time entry self fs : Val) (ev : List Val) (fuel : Nat) :
    run X (fuel + 1) "Write" [fs] (ceFld false false eo after (cs.map coreOf) time entry self ev) =
      .done [] (ceFld false true eo after (cs.map coreOf) time entry self
        (ev ++ expected cs eo after time entry self fs)) := by
  refine run_of_exec X_funs funs_Write rfl ?_
  rw [Write_body_eq, Write_body_split]
  obtain ⟨rest, hl⟩ := CheckedEntry_Write_loop_matches_source cs eo after time entry self fs ev (exec X fuel)
  simp [Write_body, Stmt.hd, Stmt.tl, hl, Write_report_matches_source, Write_finish_matches_source, expected,
    List.append_assoc]

/-- a nil `*CheckedEntry`: `Write` does nothing at all -/
theorem CheckedEntry_Write_nil_matches_source (dirty : Bool) (eo after cores : List Val) (time entry self fs : Val)
    (ev : List Val) (fuel : Nat) :
    run X (fuel + 1) "Write" [fs] (ceFld true dirty eo after cores time entry self ev) =
      .done [] (ceFld true dirty eo after cores time entry self ev) := by
  refine run_of_exec X_funs funs_Write rfl ?_
  simp [Write_body]

/-- a dirty entry (re-used after it went back to the pool): no core is written, no hook runs, nothing is put back;
    only the re-use report goes to the ErrorOutput, if there is one -/
theorem CheckedEntry_Write_dirty_matches_source (eo after cores : List Val) (time entry self fs : Val)
    (ev : List Val) (fuel : Nat) :
    run X (fuel + 1) "Write" [fs] (ceFld false true eo after cores time entry self ev) =
      .done [] (ceFld false true eo after cores time entry self
        (ev ++ if eo = [] then [] else [evReuse eo time entry, evErrSync eo])) := by
  refine run_of_exec X_funs funs_Write rfl ?_
  simp [Write_body, evReuse, evErrSync, nm_fprintf, nm_sync, nm_reusefmt, Out.andThen_ite, Out.fin_ite]
  by_cases ho : eo = [] <;> simp [ho]

/-! ### reading the trace as `Deliver.ceWrite`

`Deliver.ceWrite c after` describes a log call at the level of SINKS: the cores of the checked entry are `accepted c`,
and a core's `Write` reaches `sinksOf core` and fails iff one of them fails (what `ioCore.Write`, `multiCore.Write` and
`multiWriteSyncer.Write` do — their own `…_matches_source` theorems).  Under that reading the recorded trace of
`CheckedEntry.Write` is `Deliver.ceWrite`. -/

/-- the core value for a `Deliver.Core`: position and the ids of its failing sinks -/
def dcore (p : Deliver.Core × Nat) : Nat × List Val :=
  (p.2, ((sinksOf p.1).filter (·.writeErr)).map fun s => Val.int s.id)

/-- a recorded call as sink-level events: a `Core.Write` of the core at position `i` reaches that core's sinks, the
    `Fprintf` on the ErrorOutput is the failure line, `hook.OnWrite` is the loss of control; `Sync` and the pool put
    are not events of `Deliver` -/
def readEv (cores : List Deliver.Core) : Val → List Deliver.DEv
  | .list (.bytes n :: rest) =>
    if n = [67, 111, 114, 101, 46, 87, 114, 105, 116, 101] then
      (match rest with
       | .list (.int i :: _) :: _ =>
         (match cores[i.toNat]? with | some c => (sinksOf c).map fun s => Deliver.DEv.wrote s.id | none => [])
       | _ => [])
    else if n = [104, 111, 111, 107, 46, 79, 110, 87, 114, 105, 116, 101] then [Deliver.DEv.term]
    else if n = [102, 109, 116, 46, 70, 112, 114, 105, 110, 116, 102] then [Deliver.DEv.errLine]
    else []
  | _ => []

theorem readEv_evCore (cores : List Deliver.Core) (p : Deliver.Core × Nat) (entry fs : Val) :
    readEv cores (evCore (coreOf (dcore p)) entry fs) =
      match cores[p.2]? with | some c => (sinksOf c).map fun s => Deliver.DEv.wrote s.id | none => [] := by
  simp [readEv, evCore, coreOf, coreV, dcore, nm_coreWrite]
theorem readEv_evErrLine (cores : List Deliver.Core) (eo : List Val) (time : Val) (errs : List Val) :
    readEv cores (evErrLine eo time errs) = [Deliver.DEv.errLine] := by simp [readEv, evErrLine, nm_fprintf]
theorem readEv_evErrSync (cores : List Deliver.Core) (eo : List Val) : readEv cores (evErrSync eo) = [] := by
  simp [readEv, evErrSync, nm_sync]
theorem readEv_evHook (cores : List Deliver.Core) (hook : List Val) (self fs : Val) :
    readEv cores (evHook hook self fs) = [Deliver.DEv.term] := by simp [readEv, evHook, nm_hook]
theorem readEv_evPut (cores : List Deliver.Core) (self : Val) : readEv cores (evPut self) = [] := by
  simp [readEv, evPut, nm_put]

/-- the `Core.Write` records of the cores `l`, standing at positions `pre.length …`, read as the writes to their sinks -/
theorem readEv_cores (entry fs : Val) (pre : List Deliver.Core) :
    ∀ (l : List Deliver.Core),
      ((l.zipIdx pre.length).map fun p => evCore (coreOf (dcore p)) entry fs).flatMap (readEv (pre ++ l)) =
        (l.flatMap sinksOf).map fun s => Deliver.DEv.wrote s.id
  | [] => by simp
  | c :: l => by
    have ih := readEv_cores entry fs (pre ++ [c]) l
    simp only [List.length_append, List.length_singleton, List.append_assoc, List.singleton_append] at ih
    simp [List.zipIdx_cons, ih, readEv_evCore]

theorem dcore_errs (l : List Deliver.Core) (k : Nat) :
    ((l.zipIdx k).map dcore).flatMap (·.2) = ((l.flatMap sinksOf).filter (·.writeErr)).map fun s => Val.int s.id := by
  induction l generalizing k with
  | nil => simp
  | cons c l ih => simp [List.zipIdx_cons, dcore, ih]

/-- the recorded trace of `CheckedEntry.Write`, read at sink level, is `Deliver.ceWrite` — the function
    `ce_write_all_cores`, `errors_all_reported` and C06's `terminal_despite_sink_failures` are stated over -/
theorem CheckedEntry_Write_is_ceWrite (c : Deliver.Core) (eo : Val) (after : List Val) (time entry self fs : Val) :
    (expected ((accepted c).zipIdx.map dcore) [eo] after time entry self fs).flatMap (readEv (accepted c)) =
      Deliver.ceWrite c (decide (after ≠ [])) := by
  have h1 := readEv_cores entry fs [] (accepted c)
  simp only [List.length_nil, List.nil_append] at h1
  simp only [expected, Deliver.ceWrite, List.flatMap_append, List.map_map, Function.comp_def, h1, dcore_errs]
  generalize ((accepted c).flatMap sinksOf).filter (·.writeErr) = failed
  cases failed <;> cases after <;> simp [readEv_evErrLine, readEv_evErrSync, readEv_evHook, readEv_evPut]

end ZapVerif.C10

/-! ## `ioCore.Write`, `multiCore.Write/Sync`, `hooked.Write` ARE the source (table `Gen/TransCores.lean`)

What a core's `Write` does with the entry, for every scripted outcome of the encoder, the sink, the sub-cores and the
hook functions (the calls are recorded in `ev`):
* `ioCore.Write`: encode; an encoder error is returned and nothing is written; otherwise ONE `out.Write` with the
  encoded bytes; a write error is returned as it is and no Sync follows; otherwise `out.Sync` iff the level is above
  Error, its error ignored, and `nil` is returned;
* `multiCore.Write` / `multiCore.Sync`: every sub-core is called, in order, whatever the earlier ones returned, and
  ALL errors are returned in order;
* `hooked.Write`: every hook function is called with the entry, in order; all errors returned. -/
namespace ZapVerif.C10
open ZapVerif ZapVerif.GoMini ZapVerif.TransCores ZapVerif.Gen.TransCores

def evEnc (enc ent fs : Val) : Val := .list [TransCores.nm "Encoder.EncodeEntry", enc, ent, fs]
def evOutWrite (out : Val) (b : Bytes) : Val := .list [TransCores.nm "WriteSyncer.Write", out, .bytes b]
def evOutSync (out : Val) : Val := .list [TransCores.nm "WriteSyncer.Sync", out]

theorem ioCore_Sync_exec_matches_source (P : Par) (enc self : Val) (n : Int) (werrs serrs ev : List Val)
    (rec : Stmt → State → GoMini.Out) :
    (execS (X P) rec ioCore_Sync_body ⟨[], ioFld enc (sinkV n werrs serrs) self ev⟩).fin =
      some ([.list serrs], ioFld enc (sinkV n werrs serrs) self (ev ++ [evOutSync (sinkV n werrs serrs)])) := by
  simp [ioCore_Sync_body, evOutSync, nm_wsync]

/-- `(*ioCore).Sync()` is `c.out.Sync()` -/
theorem ioCore_Sync_matches_source (P : Par) (enc self : Val) (n : Int) (werrs serrs ev : List Val) (fuel : Nat) :
    run (X P) (fuel + 1) "ioCore_Sync" [] (ioFld enc (sinkV n werrs serrs) self ev) =
      .done [.list serrs] (ioFld enc (sinkV n werrs serrs) self (ev ++ [evOutSync (sinkV n werrs serrs)])) :=
  run_of_exec (X_funs P) funs_ioCore_Sync rfl (ioCore_Sync_exec_matches_source P enc self n werrs serrs ev _)

/-- what `ioCore.Write` returns and records -/
def ioWriteSpec (l : Int) (enc : Val) (out : Val) (b : Bytes) (eerrs werrs : List Val) (ent fs : Val) : List Val × List Val :=
  if eerrs ≠ [] then (eerrs, [evEnc enc ent fs])
  else if werrs ≠ [] then (werrs, [evEnc enc ent fs, evOutWrite out b])
  else ([], [evEnc enc ent fs, evOutWrite out b] ++ (if l > 2 then [evOutSync out] else []))

/-- `(*ioCore).Write(ent, fields)` for every outcome of the encoder and the sink -/
theorem ioCore_Write_matches_source (P : Par) (l : Int) (fs self : Val) (b : Bytes) (eerrs : List Val)
    (n : Int) (werrs serrs ev : List Val) (fuel : Nat) :
    run (X P) (fuel + 2) "ioCore_Write" [entV l, fs] (ioFld (encV b eerrs) (sinkV n werrs serrs) self ev) =
      .done [.list (ioWriteSpec l (encV b eerrs) (sinkV n werrs serrs) b eerrs werrs (entV l) fs).1]
        (ioFld (encV b eerrs) (sinkV n werrs serrs) self
          (ev ++ (ioWriteSpec l (encV b eerrs) (sinkV n werrs serrs) b eerrs werrs (entV l) fs).2)) := by
  refine run_of_exec (X_funs P) funs_ioCore_Write rfl ?_
  have hsync : ∀ (σ : State) (ev' : List Val), retK σ [.blank] "ioCore_Sync"
      (exec (X P) (fuel + 1) ioCore_Sync_body ⟨[], ioFld (encV b eerrs) (sinkV n werrs serrs) self ev'⟩) = _ :=
    fun σ ev' => retK_of_fin1 σ _ _ _ _ _ (ioCore_Sync_exec_matches_source P _ self n werrs serrs ev' _)
  -- one symbolic run: with the `_ite` lemmas the body's three `if`s stay `if`s over `eerrs`, `werrs`, `l`, and each
  -- branch is run once (a `cases` on the three would run the body eight times)
  simp [ioCore_Write_body, entV, hsync, Out.andThen_ite, Out.fin_ite]
  by_cases he : eerrs = [] <;> by_cases hw : werrs = [] <;> by_cases hl : 2 < l <;>
    simp [ioWriteSpec, he, hw, hl, evEnc, evOutWrite, evOutSync, nm_enc, nm_wwrite]

/-- a sub-core of a tee, by (id, write errors, sync errors) -/
def mcSub (c : Nat × List Val × List Val) : Val := subV c.1 c.2.1 c.2.2
/-- a hook function, by (id, errors, unused) -/
def hkFn (c : Nat × List Val × List Val) : Val := fnV c.1 c.2.1

abbrev mcwAbs (mc : List Val) (ent fs : Val) (acc tr : List Val) (rest : Env) : State :=
  ⟨("p0", ent) :: ("p1", fs) :: ("l0", .list acc) :: rest, mcFld mc tr⟩

def mcwEv (ent fs : Val) (c : Val) : Val := .list ([TransCores.nm "Core.Write", c, ent, fs])

theorem multiCore_Write_loop_matches_source (P : Par) (cs : List (Nat × List Val × List Val)) (ent fs : Val) (ev : List Val)
    (rec : Stmt → State → GoMini.Out) :
    ∃ rest, execS (X P) rec multiCore_Write_loop0 (mcwAbs (cs.map mcSub) ent fs [] ev []) =
      .normal (mcwAbs (cs.map mcSub) ent fs
        (cs.flatMap (fun c => c.2.1)) (ev ++ cs.map fun c => mcwEv ent fs (mcSub c)) rest) := by
  have hcs : evalE (X P) (mcwAbs (cs.map mcSub) ent fs [] ev []) (.fld "mc") = .ok (.list (cs.map mcSub)) := by simp
  unfold multiCore_Write_loop0
  rw [execS_range, hcs, Res.out_ok]
  refine rangeRun_collect _ _ _ mcSub (fun c => c.2.1) (fun c => mcwEv ent fs (mcSub c))
    (mcwAbs (cs.map mcSub) ent fs) cs ?_ cs 0 [] ev [] rfl
  intro acc tr rest i c hc
  have hidx := indexVal_list_map mcSub cs i c hc
  refine ⟨Env.set "l2" (.list c.2.1) (Env.set "l1" (.int i) rest), ?_⟩
  simp [hidx, mcwEv, mcSub, subV, nm_cwrite]

/-- `multiCore.Write` for every number of elements and every outcome -/
theorem multiCore_Write_matches_source (P : Par) (cs : List (Nat × List Val × List Val)) (ent fs : Val) (ev : List Val) (fuel : Nat) :
    run (X P) (fuel + 1) "multiCore_Write" [ent, fs] (mcFld (cs.map mcSub) ev) =
      .done [.list (cs.flatMap fun c => c.2.1)]
        (mcFld (cs.map mcSub) (ev ++ cs.map fun c => mcwEv ent fs (mcSub c))) := by
  refine run_of_exec (X_funs P) funs_multiCore_Write rfl ?_
  obtain ⟨rest, hl⟩ := multiCore_Write_loop_matches_source P cs ent fs ev (exec (X P) fuel)
  simp [multiCore_Write_body, hl]

abbrev mcsAbs (mc : List Val) (acc tr : List Val) (rest : Env) : State :=
  ⟨("l0", .list acc) :: rest, mcFld mc tr⟩

/-- (`()` stands where `mcwEv` / `hkwEv` take the arguments of the call: `Sync` has none) -/
def mcsEv (_u : Unit) (c : Val) : Val := .list ([TransCores.nm "Core.Sync", c])

theorem multiCore_Sync_loop_matches_source (P : Par) (cs : List (Nat × List Val × List Val)) (ev : List Val)
    (rec : Stmt → State → GoMini.Out) :
    ∃ rest, execS (X P) rec multiCore_Sync_loop0 (mcsAbs (cs.map mcSub) [] ev []) =
      .normal (mcsAbs (cs.map mcSub)
        (cs.flatMap (fun c => c.2.2)) (ev ++ cs.map fun c => mcsEv () (mcSub c)) rest) := by
  have hcs : evalE (X P) (mcsAbs (cs.map mcSub) [] ev []) (.fld "mc") = .ok (.list (cs.map mcSub)) := by simp
  unfold multiCore_Sync_loop0
  rw [execS_range, hcs, Res.out_ok]
  refine rangeRun_collect _ _ _ mcSub (fun c => c.2.2) (fun c => mcsEv () (mcSub c))
    (mcsAbs (cs.map mcSub)) cs ?_ cs 0 [] ev [] rfl
  intro acc tr rest i c hc
  have hidx := indexVal_list_map mcSub cs i c hc
  refine ⟨Env.set "l2" (.list c.2.2) (Env.set "l1" (.int i) rest), ?_⟩
  simp [hidx, mcsEv, mcSub, subV, nm_csync]

/-- `multiCore.Sync` for every number of elements and every outcome -/
theorem multiCore_Sync_matches_source (P : Par) (cs : List (Nat × List Val × List Val)) (_u : Unit) (ev : List Val) (fuel : Nat) :
    run (X P) (fuel + 1) "multiCore_Sync" [] (mcFld (cs.map mcSub) ev) =
      .done [.list (cs.flatMap fun c => c.2.2)]
        (mcFld (cs.map mcSub) (ev ++ cs.map fun c => mcsEv () (mcSub c))) := by
  refine run_of_exec (X_funs P) funs_multiCore_Sync rfl ?_
  obtain ⟨rest, hl⟩ := multiCore_Sync_loop_matches_source P cs ev (exec (X P) fuel)
  simp [multiCore_Sync_body, hl]

abbrev hkwAbs (core : Val) (funcs : List Val) (self ent fs : Val) (acc tr : List Val) (rest : Env) : State :=
  ⟨("p0", ent) :: ("p1", fs) :: ("l0", .list acc) :: rest, hkFld core funcs self tr⟩

def hkwEv (ent : Val) (c : Val) : Val := .list ([TransCores.nm "HookFn", c, ent])

theorem hooked_Write_loop_matches_source (P : Par) (cs : List (Nat × List Val × List Val)) (core self ent fs : Val) (ev : List Val)
    (rec : Stmt → State → GoMini.Out) :
    ∃ rest, execS (X P) rec hooked_Write_loop0 (hkwAbs core (cs.map hkFn) self ent fs [] ev []) =
      .normal (hkwAbs core (cs.map hkFn) self ent fs
        (cs.flatMap (fun c => c.2.1)) (ev ++ cs.map fun c => hkwEv ent (hkFn c)) rest) := by
  have hcs : evalE (X P) (hkwAbs core (cs.map hkFn) self ent fs [] ev []) (.fld "funcs") = .ok (.list (cs.map hkFn)) := by
    simp
  unfold hooked_Write_loop0
  rw [execS_range, hcs, Res.out_ok]
  refine rangeRun_collect _ _ _ hkFn (fun c => c.2.1) (fun c => hkwEv ent (hkFn c))
    (hkwAbs core (cs.map hkFn) self ent fs) cs ?_ cs 0 [] ev [] rfl
  intro acc tr rest i c hc
  have hidx := indexVal_list_map hkFn cs i c hc
  refine ⟨Env.set "l2" (.list c.2.1) (Env.set "l1" (.int i) rest), ?_⟩
  simp [hidx, hkwEv, hkFn, fnV, nm_fn]

/-- `hooked.Write` for every number of elements and every outcome -/
theorem hooked_Write_matches_source (P : Par) (cs : List (Nat × List Val × List Val)) (core self ent fs : Val) (ev : List Val) (fuel : Nat) :
    run (X P) (fuel + 1) "hooked_Write" [ent, fs] (hkFld core (cs.map hkFn) self ev) =
      .done [.list (cs.flatMap fun c => c.2.1)]
        (hkFld core (cs.map hkFn) self (ev ++ cs.map fun c => hkwEv ent (hkFn c))) := by
  refine run_of_exec (X_funs P) funs_hooked_Write rfl ?_
  obtain ⟨rest, hl⟩ := hooked_Write_loop_matches_source P cs core self ent fs ev (exec (X P) fuel)
  simp [hooked_Write_body, hl]

end ZapVerif.C10
