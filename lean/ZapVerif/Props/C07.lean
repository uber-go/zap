import ZapVerif.Model.Derive
import ZapVerif.Model.Slices
import ZapVerif.Proofs.Derive
import ZapVerif.Gen.SliceOwn
import ZapVerif.Proofs.TransDerive
/-! # C07 — logger context is exact and isolated across derived loggers

Pure semantics: a derivation path builds a core (`derive`) by the real per-wrapper `With` push-downs and lazy wrappers;
what any leaf emits for it is the leaf's own context, then the path's fields in order, then the call-site fields
(`path_fields`), under the dot-joined non-empty names (`path_name`). Isolation is functional in the model (a step only
appends a node, `step_keeps_nodes`); the state that IS shared between loggers — the once-cells of WithLazy — only ever
goes from "pending" to "evaluated" and then never changes (`once_cells_stable`). The two places where the real code
relies on Go slice / buffer ownership are proved as refinements over the heap model M11. -/
namespace ZapVerif.C07
open ZapVerif ZapVerif.Cores ZapVerif.Derive

/-- every wrapper forwards `With` to what it wraps and re-wraps (tee: every branch; lazy: the initialised core, and
    the result is no longer lazy) -/
theorem wrapper_with_structure (sn : Snap) (fs : List FldP) :
    (∀ cs, pushF sn (.tee cs) fs = .tee (pushFAll sn cs fs)) ∧
    (∀ c en, pushF sn (.incr c en) fs = .incr (pushF sn c fs) en) ∧
    (∀ c h, pushF sn (.hooked c h) fs = .hooked (pushF sn c fs) h) ∧
    (∀ c s p, pushF sn (.sampler c s p) fs = .sampler (pushF sn c fs) s p) ∧
    (∀ cell c pfs, pushF sn (.lazy cell c pfs) fs = pushF sn c (cellPairs sn cell pfs ++ fs)) ∧
    (∀ id en io ctx, pushF sn (.leaf id en io ctx) fs = .leaf id en io (ctx ++ fs.map (·.pick io))) := by
  simp [pushF]

/-- `With` commutes with every wrapper: checking the derived core is checking the original core with the fields
    added to whatever each accepting leaf emits — same leaves, same hooks, same order -/
theorem wrapper_with_commutes (σ : Store) (sn : Snap) (l : Level) (c : Core) (fs pend : List FldP) (ce : List Item) :
    check σ sn l (pushF sn c fs) pend ce = check σ sn l c (fs ++ pend) ce :=
  check_pushF σ sn l c fs pend ce

/-- a leaf emits its own context, then the pending fields in order -/
theorem leaf_emits (σ : Store) (sn : Snap) (l : Level) (id : Nat) (en : Enab) (io : Bool) (ctx : List Fld)
    (pend : List FldP) (h : en.on σ l = true) :
    check σ sn l (.leaf id en io ctx) pend [] = [.leaf id io (ctx ++ pend.map (·.pick io))] := by
  simp [check, h]

/-- and the written entry is that context followed by the call-site fields (resolved now for an encoder) -/
theorem write_appends_callsite (μ : Val) (l : Level) (fs : List Fld) (id : Nat) (ctx : List Fld) :
    (Ev.write id false (ctx ++ fs) ∈ writeItem μ l fs (.leaf id false ctx)) ∧
    (Ev.write id true (ctx ++ fs.map (Fld.resolve μ)) ∈ writeItem μ l fs (.leaf id true ctx)) := by
  simp [writeItem]

/-- exactness: the core built by ANY derivation path over ANY root core checks like the root core with the path's
    fields (in path order) pending — hence every leaf that accepts emits exactly own context ++ path fields ++ call site -/
theorem path_fields (σ : Store) (sn : Snap) (l : Level) (segs : List Seg) : ∀ (c : Core) (pend : List FldP) (ce : List Item),
    check σ sn l (derive sn c segs) pend ce = check σ sn l c (segPairs sn segs ++ pend) ce := by
  induction segs with
  | nil => intro c pend ce; rfl
  | cons s r ih =>
    intro c pend ce
    cases s with
    | eager fs =>
      simp only [derive, segPairs]
      rw [ih, check_pushF]; simp [List.append_assoc]
    | lazy cell pfs =>
      simp only [derive, segPairs]
      rw [ih, check_lazy]; simp [List.append_assoc]

/-- deriving changes neither which levels are enabled nor which leaves/hooks are reached -/
theorem path_same_destinations (σ : Store) (sn : Snap) (l : Level) (segs : List Seg) (c : Core) :
    leafIds (check σ sn l (derive sn c segs) [] []) = leafIds (check σ sn l c [] []) := by
  rw [path_fields, leafIds_check, leafIds_check]

/-- WithLazy = With of the fields as they were evaluated when the cell was first forced -/
theorem lazy_eq_with (σ : Store) (sn : Snap) (l : Level) (cell : Nat) (c : Core) (pfs : List Fld) (pend : List FldP)
    (ce : List Item) :
    check σ sn l (.lazy cell c pfs) pend ce = check σ sn l (pushF sn c (cellPairs sn cell pfs)) pend ce := by
  rw [check_lazy, check_pushF]

/-- evaluation happens at first use: forcing an un-initialised cell stores the pending fields resolved under the
    valuation of THAT moment -/
theorem lazy_evaluates_at_first_use (μ : Val) (cell : Nat) (c : Core) (pfs : List Fld) (w : W) (h : w.snap cell = none) :
    (forceCell μ cell c pfs w).snap cell = some (pfs.map (Fld.resolve μ)) := by
  simp [forceCell, h, Snap.set]

/-- … and only once: an initialised cell is never re-evaluated, by any later With, Check or log on any logger that
    shares it, under any later valuation -/
theorem once_cells_stable (σ : Store) (μ : Val) (w : W) (cell : Nat) (r : List Fld) (h : w.snap cell = some r) :
    (∀ c pfs, (forceCell μ cell c pfs w) = w) ∧
    (∀ c fs, (withEv μ c fs w).snap cell = some r) ∧
    (∀ l c, (checkEv σ μ l c w).snap cell = some r) ∧
    (∀ lg l fs, (Logger.log σ μ lg l fs w).snap cell = some r) := by
  refine ⟨?_, ?_, ?_, ?_⟩
  · intro c pfs; simp [forceCell, h]
  · intro c fs; exact withEv_keeps μ c fs w cell r h
  · intro l c; exact checkEv_keeps σ μ l c w cell r h
  · intro lg l fs; exact log_keeps σ μ lg l fs w cell r h

/-- no emission ever reads an un-initialised once-cell: by the time `Check` has run, every cell whose fields an
    accepting leaf emits is initialised; by the time `With` has run, every cell of the tree is. (So the default arm of
    `cellPairs` in the model is unreachable.) -/
theorem lazy_cells_initialised_before_read (σ : Store) (μ : Val) (l : Level) (c : Core) (fs : List Fld) (w : W) :
    readsOk σ (checkEv σ μ l c w).snap l c = true ∧ allForced (withEv μ c fs w).snap c = true :=
  ⟨checkEv_reads σ μ l c w, withEv_forces μ c fs w⟩

/-- the logger name is the dot-joined sequence of the non-empty names along the path -/
theorem path_name (segs : List (List UInt8)) :
    pathName [] segs = joinDots (segs.filter (· ≠ [])) := by
  have := foldl_named segs [] (by simp)
  simpa [pathName, joinDots] using this

/-- functional isolation in the machine: a step only appends; no existing node (parent, sibling, descendant) changes -/
theorem step_keeps_nodes (σ : Store) (s : St) (st : Step) (i : Nat) (hi : i < s.nodes.size) :
    (step σ s st).nodes[i]? = s.nodes[i]? := by
  have hpush : ∀ n : Node, (s.nodes.push n)[i]? = s.nodes[i]? := fun n => by
    simp [Array.getElem?_push, Nat.ne_of_lt hi]
  cases st with
  | withF p fs => simp only [step]; split <;> exact hpush _
  | fieldsOpt p fs => simp only [step]; exact hpush _
  | lazyF p fs => simp only [step]; split <;> exact hpush _
  | named p nm => exact hpush _
  | clone p => exact hpush _
  | shandler p => exact hpush _
  | sattrs p fs => simp only [step]; exact hpush _
  | sgroup p g => exact hpush _
  | log p l fs => rfl
  | «mut» k v => rfl
  | slog p l fs => rfl

/-! ## aliasing refinements (M11) -/
open ZapVerif.Slices

/-- observer.With appends through `ctx[:len:len]`: no view of any other live header — parent, siblings, descendants,
    whatever their capacities — changes -/
theorem observer_with_no_alias (h : Heap) (ctx t : Slice) (fields : List Nat) (ht : Live h t) :
    view (observerWith h ctx fields).1 t = view h t :=
  capped_append_no_alias h ctx t fields ht

/-- and the child sees the parent's context followed by its own fields -/
theorem observer_with_view (h : Heap) (ctx : Slice) (fields : List Nat) (hx : fields ≠ []) :
    view (observerWith h ctx fields).1 (observerWith h ctx fields).2 = view h ctx ++ fields :=
  capped_append_view h ctx fields hx

/-- without the cap a sibling derived earlier is overwritten -/
theorem uncapped_aliases :
    ∃ (h : Heap) (s : Slice),
      let (h1, t) := append h s [7]
      let (h2, _) := append h1 s [9]
      view h2 t ≠ view h1 t := by
  refine ⟨{ arr := fun _ => [1, 0], next := 1 }, { id := 0, len := 1, cap := 2 }, ?_⟩
  decide

/-- jsonEncoder.Clone: the clone holds the parent's bytes in a buffer of its own; cloning changes no live view, and
    whatever is appended to the clone afterwards (in place or not) changes no view that was live before the clone -/
theorem json_clone_no_alias (h : Heap) (buf t : Slice) (ht : Live h t) (xs : List Nat) :
    view (jsonClone h buf).1 (jsonClone h buf).2 = view h buf ∧
    view (jsonClone h buf).1 t = view h t ∧
    view (append (jsonClone h buf).1 (jsonClone h buf).2 xs).1 t = view h t := by
  have hne : t.id ≠ h.next := by unfold Live at ht; omega
  have hlive : Live (jsonClone h buf).1 t := by unfold Live at *; simp [jsonClone]; omega
  have h2 : view (jsonClone h buf).1 t = view h t := by simp [jsonClone, view, setArr, hne]
  refine ⟨?_, h2, ?_⟩
  · simp only [jsonClone, view, setArr, if_true]
    apply List.take_of_length_le; simp
  · rw [append_other _ _ _ _ hlive (by simpa [jsonClone] using hne), h2]

/-- the mutant that shares the header: a second clone's append overwrites the first clone's bytes -/
theorem json_clone_shared_aliases :
    ∃ (h : Heap) (buf : Slice),
      let (h0, c1) := jsonCloneShared h buf
      let (h0', c2) := jsonCloneShared h0 buf
      let (h1, c1') := append h0' c1 [7]
      let (h2, _) := append h1 c2 [9]
      view h2 c1' ≠ view h1 c1' := by
  refine ⟨{ arr := fun _ => [1, 0], next := 1 }, { id := 0, len := 1, cap := 2 }, ?_⟩
  decide

/-- non-vacuity: a three-step path (With, WithLazy forced with value 5, With) over a tee of an encoder and an observer -/
example :
    let sn : Snap := fun c => if c = 9 then some [{ key := 2, val := some 5 }] else none
    let a : FldP := ⟨{ key := 1 }, { key := 1 }⟩
    let b : FldP := ⟨{ key := 3 }, { key := 3 }⟩
    check (fun _ => 0) sn 0
      (derive sn (.tee [.leaf 1 (.fn fun _ => true) true [], .leaf 2 (.fn fun _ => true) false []])
        [.eager [a], .lazy 9 [{ key := 2, ref := some 0 }], .eager [b]]) [] [] =
      [.leaf 1 true [{ key := 1 }, { key := 2, val := some 5 }, { key := 3 }],
       .leaf 2 false [{ key := 1 }, { key := 2, ref := some 0 }, { key := 3 }]] := by decide

/-! ### slice ownership (regenerated table Gen/SliceOwn: every site in zap's sources where a slice may end up shared) -/

/-- The reviewed sites. Pattern A (an `append` to a field or slice parameter whose result goes elsewhere — the aliasing hazard
    behind "sibling loggers see each other's fields") does not occur at all; F (`x[:0]` reuse) occurs only on pooled objects
    that own their storage (Buffer.Reset, putSliceEncoder, CheckedEntry.reset); K (a slice parameter kept as it is) occurs
    in the array-field constructors and Binary/ByteString (the Field holds the caller's slice until it is encoded, as
    documented), in DictObject, in NewTee / NewMultiWriteSyncer (the variadic slice becomes the combinator), in NewLazyWith
    (by design: evaluated at first use) and in zaptest.WrapOptions. -/
def reviewedSliceSites : List (String × String × String × String) := [
  ("array.go", "Bools", "K", "bools()"),
  ("array.go", "ByteStrings", "K", "byteStringsArray()"),
  ("array.go", "Complex128s", "K", "complex128s()"),
  ("array.go", "Complex64s", "K", "complex64s()"),
  ("array.go", "Durations", "K", "durations()"),
  ("array.go", "Float32s", "K", "float32s()"),
  ("array.go", "Float64s", "K", "float64s()"),
  ("array.go", "Int16s", "K", "int16s()"),
  ("array.go", "Int32s", "K", "int32s()"),
  ("array.go", "Int64s", "K", "int64s()"),
  ("array.go", "Int8s", "K", "int8s()"),
  ("array.go", "Ints", "K", "ints()"),
  ("array.go", "Strings", "K", "stringArray()"),
  ("array.go", "Times", "K", "times()"),
  ("array.go", "Uint16s", "K", "uint16s()"),
  ("array.go", "Uint32s", "K", "uint32s()"),
  ("array.go", "Uint64s", "K", "uint64s()"),
  ("array.go", "Uint8s", "K", "uint8s()"),
  ("array.go", "Uintptrs", "K", "uintptrs()"),
  ("array.go", "Uints", "K", "uints()"),
  ("buffer/buffer.go", "*Buffer.Reset", "F", "b.bs[:0]"),
  ("field.go", "Binary", "K", "Interface: val"),
  ("field.go", "ByteString", "K", "Interface: val"),
  ("field.go", "DictObject", "K", "dictObject()"),
  ("field.go", "dictField", "K", "dictObject()"),
  ("zapcore/console_encoder.go", "putSliceEncoder", "F", "e.elems[:0]"),
  ("zapcore/entry.go", "*CheckedEntry.reset", "F", "ce.cores[:0]"),
  ("zapcore/lazy_with.go", "NewLazyWith", "K", "fields: fields"),
  ("zapcore/tee.go", "NewTee", "K", "multiCore()"),
  ("zapcore/write_syncer.go", "NewMultiWriteSyncer", "K", "multiWriteSyncer()"),
  ("zaptest/logger.go", "WrapOptions", "K", "opts.zapOptions = zapOpts")
]

/-- today's source has exactly the reviewed slice-sharing sites: a new `append(h.groups, g)`-style derivation, an in-place
    filter of a caller's slice, or a constructor that starts keeping its argument fails here until it is reviewed -/
theorem slice_ownership_as_reviewed : Gen.SliceOwn.rows = reviewedSliceSites := rfl

/-- no aliasing append anywhere in the sources -/
theorem no_aliasing_append : (Gen.SliceOwn.rows.filter fun r => r.2.2.1 == "A") = [] := by decide

end ZapVerif.C07

/-! # logger.go's derivations and the cores' `With` methods ARE the source (table `Gen.TransDerive`)

`(*Logger).clone`, `Named`, `With`, `WithOptions`, `WithLazy`; `ioCore.clone/With`, `multiCore.With`, `sampler.With`,
`hooked.With`, `levelFilterCore.With`, `contextObserver.With`; `lazyWithCore.initOnce/With/Check/Enabled/Write/Sync`,
translated mechanically, are interpreted with `Core.With` of a sub-core, `Encoder.Clone`, `addFields`, `Option.apply`,
`Enabled`, `Check` and the errors of `Write` / `Sync` as parameters.  What is proved: a derived logger is a copy of EVERY
field with exactly the derived one replaced and the receiver is never written (`Logger_*_matches_source`); the name is
`Cores.named` (the function of `path_name`); every wrapper forwards `With` to what it wraps and re-wraps it with its own
other parts, a tee to every branch in order (`*_With_matches_source`), which are the clauses of `Cores.pushF`
(`With_results_are_pushF`, the function of `wrapper_with_structure` / `path_fields`); a lazy core evaluates
`originalCore.With(fields)` at first use and only once (`lazy_initOnce_matches_source`, `lazy_initOnce_idempotent` — the
source-level facts behind `lazy_evaluates_at_first_use`, `once_cells_stable`), `Check` on a disabled level forces nothing.
`contextObserver.With` is translated only in its capped form (`noFieldAppend`); `observer_with_no_alias` is about that form. -/
namespace ZapVerif.C07
open ZapVerif ZapVerif.GoMini ZapVerif.TransDerive ZapVerif.Gen.TransDerive

/-- `(*Logger).clone`: a copy of EVERY field (`clone := *log`) -/
theorem Logger_clone_exec_matches_source (P : Par) (s o : LgSt) (self oself : Val) (ev : List Val)
    (rec : Stmt → State → GoMini.Out) :
    (execS (X P) rec Logger_clone_body ⟨[], lgEnv s self o oself ev⟩).fin = some ([oself], lgEnv s self s oself ev) := by
  simp [Logger_clone_body, lgEnv]

theorem Logger_clone_matches_source (P : Par) (s o : LgSt) (self oself : Val) (ev : List Val) (fuel : Nat) :
    run (X P) (fuel + 1) "Logger_clone" [] (lgEnv s self o oself ev) = .done [oself] (lgEnv s self s oself ev) :=
  run_of_exec (X_funs P) funs_Logger_clone rfl (Logger_clone_exec_matches_source P s o self oself ev _)

theorem Logger_clone_call (P : Par) (s o : LgSt) (self oself : Val) (ev : List Val) (fuel : Nat) (σ : State) :
    retK σ [.blank] "Logger_clone" (exec (X P) (fuel + 1) Logger_clone_body ⟨[], lgEnv s self o oself ev⟩) =
      .normal { σ with fld := lgEnv s self s oself ev } :=
  retK_of_fin1 σ _ _ _ _ _ (Logger_clone_exec_matches_source P s o self oself ev _)

/-- `Named`: the empty name returns the receiver itself; otherwise the clone carries every field of the receiver and
    the name `Cores.named name s` (the receiver's name, a dot, the new segment — no dot after an empty name) -/
theorem Logger_Named_matches_source (P : Par) (s o : LgSt) (name seg : Bytes) (self oself : Val) (ev : List Val) (fuel : Nat)
    (hn : s.name = .bytes name) :
    run (X P) (fuel + 2) "Logger_Named" [.bytes seg] (lgEnv s self o oself ev) =
      if seg = [] then .done [self] (lgEnv s self o oself ev)
      else .done [oself] (lgEnv s self { s with name := .bytes (Cores.named name seg) } oself ev) := by
  have hcall := Logger_clone_call P s o self oself ev fuel
  simp only [lgEnv, hn] at hcall
  by_cases hs : seg = []
  · rw [if_pos hs]
    refine run_of_exec (X_funs P) funs_Logger_Named rfl ?_
    simp [Logger_Named_body, lgEnv, hs]
  · rw [if_neg hs]
    refine run_of_exec (X_funs P) funs_Logger_Named rfl ?_
    have hs' : (seg == []) = false := by simpa using hs
    -- one run; `if log.name == ""` stays an `if`
    simp [Logger_Named_body, lgEnv, hn, hs', hcall, Out.andThen_ite, Out.fin_ite]
    by_cases hname : name = [] <;> simp [hname, hs, Cores.named, joinB]

/-- `With`: no fields — the receiver itself; otherwise the clone with `core.With(fields)` as its core, every other field
    the receiver's; the receiver is not written -/
theorem Logger_With_matches_source (P : Par) (s o : LgSt) (fields : List Val) (self oself : Val) (ev : List Val) (fuel : Nat) :
    run (X P) (fuel + 2) "Logger_With" [.list fields] (lgEnv s self o oself ev) =
      if fields = [] then .done [self] (lgEnv s self o oself ev)
      else .done [oself] (lgEnv s self { s with core := P.coreWith s.core (.list fields) } oself ev) := by
  have hcall := Logger_clone_call P s o self oself ev fuel
  simp only [lgEnv] at hcall
  by_cases hf : fields = []
  · rw [if_pos hf]
    refine run_of_exec (X_funs P) funs_Logger_With rfl ?_
    simp [Logger_With_body, lgEnv, hf]
  · rw [if_neg hf]
    refine run_of_exec (X_funs P) funs_Logger_With rfl ?_
    simp [Logger_With_body, lgEnv, hf, hcall]

/-- `WithOptions`: the clone (a copy of every field), then every option applied to the clone IN ORDER; the receiver is
    not written.  (The primary object of the environment is the clone from the first statement on; `o.…` is the receiver.) -/
theorem Logger_WithOptions_matches_source (P : Par) (s o : LgSt) (opts : List Val) (self oself : Val) (ev : List Val) (fuel : Nat) :
    run (X P) (fuel + 1) "Logger_WithOptions" [.list opts] (lgEnv s self o oself ev) =
      .done [self] (lgEnv (opts.foldl (fun st opt => P.applyOpt opt st) o) self o oself ev) := by
  refine run_of_exec (X_funs P) funs_Logger_WithOptions rfl ?_
  generalize exec (X P) fuel = rec
  show (execS (X P) rec Logger_WithOptions_body ⟨[("p0", .list opts)], lgEnv s self o oself ev⟩).fin = _
  have hloop : ∃ rest, execS (X P) rec Logger_WithOptions_loop0 ⟨[("p0", .list opts)], lgEnv o self o oself ev⟩ =
      .normal ⟨("p0", .list opts) :: rest, lgEnv (opts.foldl (fun st opt => P.applyOpt opt st) o) self o oself ev⟩ := by
    have hp : evalE (X P) ⟨[("p0", .list opts)], lgEnv o self o oself ev⟩ (.loc "p0") = .ok (.list opts) := by simp
    have hfold := rangeRun_foldIdx (execS (X P) rec Logger_WithOptions_loop0.rbody) .blank (.loc "l0") id
      (fun st rest => ⟨("p0", .list opts) :: rest, lgEnv st self o oself ev⟩) (fun st _ opt => P.applyOpt opt st) opts
      (fun st rest i opt _ => ⟨Env.set "l0" opt rest, by simp [Logger_WithOptions_loop0, Stmt.rbody, lgEnv, LgSt.toList]⟩)
      opts 0 o [] rfl
    rw [zipIdx_foldl_fst (fun st opt => P.applyOpt opt st), List.map_id] at hfold
    unfold Logger_WithOptions_loop0
    rw [execS_range, hp, Res.out_ok]
    exact hfold
  obtain ⟨rest, hl⟩ := hloop
  have hb : Logger_WithOptions_body = .seq Logger_WithOptions_body.hd (.seq Logger_WithOptions_loop0 (.ret [.fld "self"])) := rfl
  have h0 : execS (X P) rec Logger_WithOptions_body.hd ⟨[("p0", .list opts)], lgEnv s self o oself ev⟩ =
      .normal ⟨[("p0", .list opts)], lgEnv o self o oself ev⟩ := by
    simp [Logger_WithOptions_body, Stmt.hd, lgEnv]
  rw [hb, execS_seq, h0, Out.andThen_normal, execS_seq, hl]
  simp [lgEnv]

/-- the source text of the wrapper literal `func(core zapcore.Core) zapcore.Core { return zapcore.NewLazyWith(core, fields) }`,
    as the translation of `WithLazy` carries it into the closure value (read off the generated term: editing the text
    does not break the theorem, what the closure captures does) -/
def lazyText : Val :=
  match Logger_WithLazy_body.tl with
  | .ret [.call _ [_, _, _, _, _, _, _, _, _, _, .call _ [.call _ (.lit t :: _)]]] => t
  | _ => .list []

/-- `WithLazy`: no fields — the receiver itself; otherwise `WithOptions` of ONE option, `WrapCore` of the wrapper closure
    that captures exactly the fields (nothing is evaluated here: the core is not asked) -/
theorem Logger_WithLazy_matches_source (P : Par) (s o : LgSt) (fields : List Val) (self oself : Val) (ev : List Val) (fuel : Nat) :
    run (X P) (fuel + 1) "Logger_WithLazy" [.list fields] (lgEnv s self o oself ev) =
      .done [if fields = [] then self
             else .list (P.applyOpt (.list [TransDerive.nm "WrapCore", .list [lazyText, .list fields]]) s).toList]
        (lgEnv s self o oself ev) := by
  refine run_of_exec (X_funs P) funs_Logger_WithLazy rfl ?_
  cases fields with
  | nil => simp [Logger_WithLazy_body, lgEnv]
  | cons f fs =>
    have hp : ¬ ((fs.length : Int) + 1 = 0) := by omega
    simp [Logger_WithLazy_body, lgEnv, hp, lazyText, Stmt.tl]

/-! ### the cores' `With` methods: every wrapper forwards `With` to what it wraps and re-wraps it with its OWN other parts -/

/-- `ioCore.clone`: same enabler, a CLONE of the encoder, same sink -/
theorem ioCore_clone_exec_matches_source (P : Par) (en enc out : Val) (fl0 : Env) (rec : Stmt → State → GoMini.Out) :
    (execS (X P) rec ioCore_clone_body ⟨[], ("en", en) :: ("enc", enc) :: ("out", out) :: fl0⟩).fin =
      some ([.list [en, P.encClone enc, out]], ("en", en) :: ("enc", enc) :: ("out", out) :: fl0) := by
  simp [ioCore_clone_body]

theorem ioCore_clone_matches_source (P : Par) (en enc out : Val) (fl0 : Env) (fuel : Nat) :
    run (X P) (fuel + 1) "ioCore_clone" [] (("en", en) :: ("enc", enc) :: ("out", out) :: fl0) =
      .done [.list [en, P.encClone enc, out]] (("en", en) :: ("enc", enc) :: ("out", out) :: fl0) :=
  run_of_exec (X_funs P) funs_ioCore_clone rfl (ioCore_clone_exec_matches_source P en enc out fl0 _)

/-- `ioCore.With`: the fields are added to the CLONE's encoder; the receiver (its encoder included) is not written -/
theorem ioCore_With_matches_source (P : Par) (en enc out fields : Val) (fl0 : Env) (fuel : Nat) :
    run (X P) (fuel + 2) "ioCore_With" [fields] (("en", en) :: ("enc", enc) :: ("out", out) :: fl0) =
      .done [.list [.list [en, P.addFields (P.encClone enc) fields, out]]] (("en", en) :: ("enc", enc) :: ("out", out) :: fl0) := by
  have hcall : ∀ σ : State, retK σ [.loc "l0"] "ioCore_clone"
      (exec (X P) (fuel + 1) ioCore_clone_body ⟨[], ("en", en) :: ("enc", enc) :: ("out", out) :: fl0⟩) = _ :=
    fun σ => retK_of_fin1 σ _ _ _ _ _ (ioCore_clone_exec_matches_source P en enc out fl0 _)
  refine run_of_exec (X_funs P) funs_ioCore_With rfl ?_
  simp [ioCore_With_body, hcall]

theorem sampler_With_matches_source (P : Par) (core counts tick first thereafter hook fields : Val) (fl0 : Env) (fuel : Nat) :
    run (X P) (fuel + 1) "sampler_With" [fields]
        (("core", core) :: ("counts", counts) :: ("tick", tick) :: ("first", first) :: ("thereafter", thereafter) :: ("hook", hook) :: fl0) =
      .done [.list [.list [P.coreWith core fields, counts, tick, first, thereafter, hook]]]
        (("core", core) :: ("counts", counts) :: ("tick", tick) :: ("first", first) :: ("thereafter", thereafter) :: ("hook", hook) :: fl0) := by
  refine run_of_exec (X_funs P) funs_sampler_With rfl ?_
  simp [sampler_With_body]

theorem hooked_With_matches_source (P : Par) (core funcs fields : Val) (fl0 : Env) (fuel : Nat) :
    run (X P) (fuel + 1) "hooked_With" [fields] (("core", core) :: ("funcs", funcs) :: fl0) =
      .done [.list [.list [P.coreWith core fields, funcs]]] (("core", core) :: ("funcs", funcs) :: fl0) := by
  refine run_of_exec (X_funs P) funs_hooked_With rfl ?_
  simp [hooked_With_body]

theorem levelFilterCore_With_matches_source (P : Par) (core level fields : Val) (fl0 : Env) (fuel : Nat) :
    run (X P) (fuel + 1) "levelFilterCore_With" [fields] (("core", core) :: ("level", level) :: fl0) =
      .done [.list [.list [P.coreWith core fields, level]]] (("core", core) :: ("level", level) :: fl0) := by
  refine run_of_exec (X_funs P) funs_levelFilterCore_With rfl ?_
  simp [levelFilterCore_With_body]

/-- `contextObserver.With`: same enabler, same log store, the receiver's context FOLLOWED BY the new fields — as a
    value; that the append cannot write into the receiver's backing array is the syntactic side condition of the whitelist
    entry (`noFieldAppend`: only the capped form `co.context[:len(co.context):len(co.context)]` is translated), and
    `observer_with_no_alias` is the theorem about that form -/
theorem contextObserver_With_matches_source (P : Par) (en logs : Val) (ctx fields : List Val) (fl0 : Env) (fuel : Nat) :
    run (X P) (fuel + 1) "contextObserver_With" [.list fields] (("en", en) :: ("logs", logs) :: ("context", .list ctx) :: fl0) =
      .done [.list [.list [en, logs, .list (ctx ++ fields)]]] (("en", en) :: ("logs", logs) :: ("context", .list ctx) :: fl0) := by
  refine run_of_exec (X_funs P) funs_contextObserver_With rfl ?_
  simp [contextObserver_With_body]

/-- `multiCore.With`: a fresh slice of the same length holding `With(fields)` of EVERY branch, in order -/
theorem multiCore_With_matches_source (P : Par) (mc : List Val) (fields : Val) (fl0 : Env) (fuel : Nat) :
    run (X P) (fuel + 1) "multiCore_With" [fields] (("mc", .list mc) :: fl0) =
      .done [.list [.list (mc.map fun c => P.coreWith c fields)]] (("mc", .list mc) :: fl0) := by
  refine run_of_exec (X_funs P) funs_multiCore_With rfl ?_
  -- the loop state is the fresh slice together with its length (`slice.set` is only defined inside the slice)
  have hloop : ∃ rest, execS (X P) (exec (X P) fuel) multiCore_With_loop0
      ⟨[("p0", fields), ("l0", .list (List.replicate mc.length (.list [])))], ("mc", .list mc) :: fl0⟩ =
      .normal ⟨("p0", fields) :: ("l0", .list (mc.map fun c => P.coreWith c fields)) :: rest, ("mc", .list mc) :: fl0⟩ := by
    have hmc : evalE (X P) ⟨[("p0", fields), ("l0", .list (List.replicate mc.length (.list [])))], ("mc", .list mc) :: fl0⟩
        (.fld "mc") = .ok (.list mc) := by simp
    have hfold := rangeRun_foldIdx (execS (X P) (exec (X P) fuel) multiCore_With_loop0.rbody) (.loc "l1") .blank id
      (fun (a : { l : List Val // l.length = mc.length }) rest =>
        ⟨("p0", fields) :: ("l0", .list a.1) :: rest, ("mc", .list mc) :: fl0⟩)
      (fun a i c => ⟨a.1.set i (P.coreWith c fields), by simp [a.2]⟩) mc
      (fun a rest i c hc => by
        have hi : i < mc.length := by
          rcases Nat.lt_or_ge i mc.length with h | h
          · exact h
          · rw [List.getElem?_eq_none h] at hc; cases hc
        have hidx : indexVal (.list mc) (.int (i : Int)) = .ok c := by
          simpa using indexVal_list_map id mc i c hc
        exact ⟨Env.set "l1" (.int i) rest, by
          simp [multiCore_With_loop0, Stmt.rbody, hidx, ext_set P a.1 i _ (by omega)]⟩)
      mc 0 ⟨List.replicate mc.length (.list []), by simp⟩ [] rfl
    have hval : ∀ (l : List (Val × Nat)) (a : { l : List Val // l.length = mc.length }),
        (l.foldl (fun a p => (⟨a.1.set p.2 (P.coreWith p.1 fields), by simp [a.2]⟩ : { l : List Val // l.length = mc.length })) a).1 =
          l.foldl (fun a p => a.set p.2 (P.coreWith p.1 fields)) a.1 :=
      fun l a => (List.foldl_hom Subtype.val (H := fun _ _ => rfl)).symm
    obtain ⟨rest, h⟩ := hfold
    rw [List.map_id, hval, foldl_set_eq_map (fun c => P.coreWith c fields) mc 0 _ (by simp)] at h
    simp only [List.take_zero, List.nil_append, Nat.zero_add, List.drop_replicate, Nat.sub_self,
      List.replicate_zero, List.append_nil] at h
    refine ⟨rest, ?_⟩
    unfold multiCore_With_loop0
    rw [execS_range, hmc, Res.out_ok]
    exact h
  obtain ⟨rest, hl⟩ := hloop
  have hb : multiCore_With_body = .seq multiCore_With_body.hd (.seq multiCore_With_loop0 multiCore_With_body.tl.tl) := rfl
  have h0 : execS (X P) (exec (X P) fuel) multiCore_With_body.hd ⟨[("p0", fields)], ("mc", .list mc) :: fl0⟩ =
      .normal ⟨[("p0", fields), ("l0", .list (List.replicate mc.length (.list [])))], ("mc", .list mc) :: fl0⟩ := by
    simp [multiCore_With_body, Stmt.hd, ext_makeCores]
  simp only [multiCore_With_body_eq, multiCore_With_params_eq, multiCore_With_named_eq, List.zip_cons_cons, List.zip_nil_right,
    List.append_nil]
  rw [hb, execS_seq, h0, Out.andThen_normal, execS_seq, hl]
  simp [multiCore_With_body, Stmt.tl]

/-! ### `lazyWithCore`: evaluated at first use, once -/

/-- the fields of a `lazyWithCore`: the initialised core (nil before), the wrapped core, "the Once has fired", the
    pending fields, the trace -/
def lzEnv (core orig : Val) (done : Bool) (fields : Val) (ev : List Val) : Env :=
  [("core", core), ("orig", orig), ("done", .bool done), ("fields", fields), ("ev", .list ev)]

/-- what `initOnce` leaves in `core` -/
def lzCore (P : Par) (core orig : Val) (done : Bool) (fields : Val) : Val := if done then core else P.coreWith orig fields

/-- `initOnce`: the first call evaluates `originalCore.With(fields)` into `core`; every later call does nothing -/
theorem lazy_initOnce_exec_matches_source (P : Par) (core orig fields : Val) (done : Bool) (ev : List Val)
    (rec : Stmt → State → GoMini.Out) :
    (execS (X P) rec lazyWithCore_initOnce_body ⟨[], lzEnv core orig done fields ev⟩).fin =
      some ([], lzEnv (lzCore P core orig done fields) orig true fields ev) := by
  cases done <;> simp [lazyWithCore_initOnce_body, lzEnv, lzCore]

theorem lazy_initOnce_matches_source (P : Par) (core orig fields : Val) (done : Bool) (ev : List Val) (fuel : Nat) :
    run (X P) (fuel + 1) "lazyWithCore_initOnce" [] (lzEnv core orig done fields ev) =
      .done [] (lzEnv (lzCore P core orig done fields) orig true fields ev) :=
  run_of_exec (X_funs P) funs_lazyWithCore_initOnce rfl (lazy_initOnce_exec_matches_source P core orig fields done ev _)

/-- only once: a second `initOnce` changes nothing, whatever `Core.With` would answer now -/
theorem lazy_initOnce_idempotent (P P' : Par) (core orig fields : Val) (done : Bool) (ev : List Val) (fuel : Nat) :
    run (X P') (fuel + 1) "lazyWithCore_initOnce" [] (lzEnv (lzCore P core orig done fields) orig true fields ev) =
      .done [] (lzEnv (lzCore P core orig done fields) orig true fields ev) := by
  rw [lazy_initOnce_matches_source]; simp [lzCore]

theorem lazy_initOnce_call (P : Par) (core orig fields : Val) (done : Bool) (ev : List Val) (fuel : Nat) (σ : State) :
    retK σ [] "lazyWithCore_initOnce" (exec (X P) (fuel + 1) lazyWithCore_initOnce_body ⟨[], lzEnv core orig done fields ev⟩) =
      .normal { σ with fld := lzEnv (lzCore P core orig done fields) orig true fields ev } :=
  retK_of_fin0 σ _ _ _ (lazy_initOnce_exec_matches_source P core orig fields done ev _)

/-- `With`: force, then `With` on the INITIALISED core (so the pending fields precede the new ones, and the result is
    not lazy) -/
theorem lazy_With_matches_source (P : Par) (core orig fields more : Val) (done : Bool) (ev : List Val) (fuel : Nat) :
    run (X P) (fuel + 2) "lazyWithCore_With" [more] (lzEnv core orig done fields ev) =
      .done [P.coreWith (lzCore P core orig done fields) more] (lzEnv (lzCore P core orig done fields) orig true fields ev) := by
  refine run_of_exec (X_funs P) funs_lazyWithCore_With rfl ?_
  simp [lazyWithCore_With_body, lazy_initOnce_call]
  simp [lzEnv]

/-- `Check`: the level question goes to the ORIGINAL core and a disabled level forces nothing; otherwise force, then
    `Check` on the initialised core -/
theorem lazy_Check_matches_source (P : Par) (core orig fields rest ce : Val) (l : Int) (done : Bool) (ev : List Val) (fuel : Nat) :
    run (X P) (fuel + 2) "lazyWithCore_Check" [.list [.int l, rest], ce] (lzEnv core orig done fields ev) =
      if P.cen orig l then
        .done [P.chk (lzCore P core orig done fields) (.list [.int l, rest]) ce] (lzEnv (lzCore P core orig done fields) orig true fields ev)
      else .done [ce] (lzEnv core orig done fields ev) := by
  have hcall := lazy_initOnce_call P core orig fields done ev fuel
  cases hc : P.cen orig l
  · simp only [Bool.false_eq_true, if_false]
    refine run_of_exec (X_funs P) funs_lazyWithCore_Check rfl ?_
    simp [lazyWithCore_Check_body, lzEnv, hc]
  · simp only [if_true]
    refine run_of_exec (X_funs P) funs_lazyWithCore_Check rfl ?_
    simp only [lzEnv] at hcall ⊢
    simp [lazyWithCore_Check_body, hc, hcall]

theorem lazy_Enabled_matches_source (P : Par) (core orig fields : Val) (l : Int) (done : Bool) (ev : List Val) (fuel : Nat) :
    run (X P) (fuel + 1) "lazyWithCore_Enabled" [.int l] (lzEnv core orig done fields ev) =
      .done [.bool (P.cen orig l)] (lzEnv core orig done fields ev) := by
  refine run_of_exec (X_funs P) funs_lazyWithCore_Enabled rfl ?_
  simp [lazyWithCore_Enabled_body, lzEnv]

/-- `Write` / `Sync`: force, then the call on the initialised core (recorded), its error returned -/
theorem lazy_Write_matches_source (P : Par) (core orig fields e fs : Val) (done : Bool) (ev : List Val) (fuel : Nat) :
    run (X P) (fuel + 2) "lazyWithCore_Write" [e, fs] (lzEnv core orig done fields ev) =
      .done [.list (P.werr (lzCore P core orig done fields) e fs)]
        (lzEnv (lzCore P core orig done fields) orig true fields
          (ev ++ [.list [TransDerive.nm "Core.Write", lzCore P core orig done fields, e, fs]])) := by
  have hcall := lazy_initOnce_call P core orig fields done ev fuel
  refine run_of_exec (X_funs P) funs_lazyWithCore_Write rfl ?_
  simp only [lzEnv] at hcall ⊢
  simp [lazyWithCore_Write_body, hcall, nm_write]

theorem lazy_Sync_matches_source (P : Par) (core orig fields : Val) (done : Bool) (ev : List Val) (fuel : Nat) :
    run (X P) (fuel + 2) "lazyWithCore_Sync" [] (lzEnv core orig done fields ev) =
      .done [.list (P.serr (lzCore P core orig done fields))]
        (lzEnv (lzCore P core orig done fields) orig true fields
          (ev ++ [.list [TransDerive.nm "Core.Sync", lzCore P core orig done fields]])) := by
  have hcall := lazy_initOnce_call P core orig fields done ev fuel
  refine run_of_exec (X_funs P) funs_lazyWithCore_Sync rfl ?_
  simp only [lzEnv] at hcall ⊢
  simp [lazyWithCore_Sync_body, hcall, nm_sync]

/-- an encoding of the model's cores as the values the translated methods build and are handed: the records of the
    wrappers (what the other parts `aux` are does not matter), the branch list of a tee, and for an `ioCore` leaf the
    encoder as a function of its context -/
structure WithLink (P : Par) (sn : Cores.Snap) where
  enc : Cores.Core → GoMini.Val
  fv : List Cores.FldP → GoMini.Val
  aux : Nat → GoMini.Val
  lvOf : Cores.Enab → GoMini.Val
  encoder : List Cores.Fld → GoMini.Val
  hooked : ∀ c h, enc (.hooked c h) = .list [.list [enc c, aux h]]
  incr : ∀ c en, enc (.incr c en) = .list [.list [enc c, lvOf en]]
  sampler : ∀ c s p, enc (.sampler c s p) = .list [.list [enc c, aux s, aux (s + 1), aux (s + 2), aux (s + 3), .bool p]]
  tee : ∀ cs, enc (.tee cs) = .list [.list (cs.map enc)]
  leaf : ∀ id en ctx, enc (.leaf id en true ctx) = .list [.list [lvOf en, encoder ctx, aux id]]
  /-- `addFields` on a clone of the encoder of a context gives the encoder of the extended context -/
  add : ∀ ctx fs, P.addFields (P.encClone (encoder ctx)) (fv fs) = encoder (ctx ++ fs.map (·.pick true))
  /-- the dynamic dispatch: `With` of an encoded sub-core is the encoding of its push-down -/
  cw : ∀ c fs, P.coreWith (enc c) (fv fs) = enc (Cores.pushF sn c fs)

/-- what the translated `hooked.With`, `levelFilterCore.With`, `sampler.With`, `multiCore.With` and `ioCore.With` return on
    encoded cores IS the encoding of `Cores.pushF` — the function `wrapper_with_structure`, `wrapper_with_commutes` and
    `path_fields` are stated over -/
theorem With_results_are_pushF (P : Par) (sn : Cores.Snap) (L : WithLink P sn) (fs : List Cores.FldP) :
    (∀ c h, GoMini.Val.list [.list [P.coreWith (L.enc c) (L.fv fs), L.aux h]] = L.enc (Cores.pushF sn (.hooked c h) fs)) ∧
    (∀ c s p, GoMini.Val.list [.list [P.coreWith (L.enc c) (L.fv fs), L.aux s, L.aux (s + 1), L.aux (s + 2), L.aux (s + 3), .bool p]] =
      L.enc (Cores.pushF sn (.sampler c s p) fs)) ∧
    (∀ cs, GoMini.Val.list [.list ((cs.map L.enc).map fun c => P.coreWith c (L.fv fs))] = L.enc (Cores.pushF sn (.tee cs) fs)) ∧
    (∀ c en, GoMini.Val.list [.list [P.coreWith (L.enc c) (L.fv fs), L.lvOf en]] = L.enc (Cores.pushF sn (.incr c en) fs)) ∧
    (∀ id en ctx, GoMini.Val.list [.list [L.lvOf en, P.addFields (P.encClone (L.encoder ctx)) (L.fv fs), L.aux id]] =
      L.enc (Cores.pushF sn (.leaf id en true ctx) fs)) := by
  refine ⟨?_, ?_, ?_, ?_, ?_⟩
  · intro c h; rw [L.cw]; simp [Cores.pushF, L.hooked]
  · intro c s p; rw [L.cw]; simp [Cores.pushF, L.sampler]
  · intro cs
    simp only [Cores.pushF, L.tee, Cores.pushFAll_map, List.map_map]
    congr 3
    apply List.map_congr_left
    intro c _; simp [L.cw]
  · intro c en; rw [L.cw]; simp [Cores.pushF, L.incr]
  · intro id en ctx; rw [L.add]; simp [Cores.pushF, L.leaf]

end ZapVerif.C07
