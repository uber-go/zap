import ZapVerif.Proofs.Publish
import ZapVerif.Proofs.Deadlock
import ZapVerif.Proofs.SiteProgramsFollows
import ZapVerif.Proofs.SiteProgramsDemo
import ZapVerif.Gen.SyncFacts
import ZapVerif.Gen.Delegates
/-! # C09 — the documented concurrent API is free of data races, deadlocks (and panics: sampled only)

Generic part (proved once over M10, `Model/Sync.lean`): a synchronisation *discipline* followed by all
accesses to a variable implies that no two conflicting accesses are unordered by happens-before.
Specific part: the regenerated table `Gen/SyncFacts.lean` lists every syntactic access to every field of
the shared types with its guard; `all_fields_disciplined` re-checks on every run that each field fits one
discipline class, and `class_sound` maps every class to its generic theorem.
Link (last section): `Model/SitePrograms.lean` gives the table a meaning as a set of traces (`GeneratedBy`: every
access to a table field is an execution of one of the field's sites under the site's guard); `table_drf` proves
that every well-formed trace generated by today's table is data-race free on every field of the table.

Trusted (DESIGN §3): the happens-before relation `Sync.HB` is the rendering of the Go memory model; Go's
`sync.Mutex`/`RWMutex`/`Once`/`sync/atomic` implement `Sync.okStep`; the extractor's site table describes the
source: every access to a field of a shared type happens at a listed site, and a listed guard holds dynamically
in the sense of `SitePrograms.GuardHolds` (syntactic, over-approximating towards "unguarded"); the meanings of five
guards contain a dynamic fact no syntactic guard can give — `FreshUntilPublished` (`fresh`, `optfn`, `nilinit`: objects
are handed to other goroutines only through synchronisation, after their construction), `NoWriteFrom` (`afterCS`) /
`InitialisedBefore` (`forked`: BufferedWriteSyncer's ticker/stop/done are write-once state, initialised before the flusher
is started). -/
namespace ZapVerif.C09
open ZapVerif ZapVerif.Sync

/-- soundness of the vector clock used by `lockset_ordered`: it never reports an ordering that is not in
    the inductive happens-before closure -/
theorem know_sound (e : Ev) (tr : List Ev) (k : Nat) (h : know tr e.tid k = true) :
    HB (e :: tr) k tr.length := Sync.know_sound e tr k h

/-- all accesses to x inside critical sections of one mutex ⇒ no data race on x -/
theorem lockset_drf (x : Var) (m : Lock) (tr : List Ev) (hwf : WF tr) (hg : Guarded x m tr) : DRF tr x :=
  Sync.lockset_drf x m tr hwf hg

/-- writes under the exclusive lock, reads under the exclusive or the read lock ⇒ no data race -/
theorem rw_lockset_drf (x : Var) (m : Lock) (tr : List Ev) (hwf : WF tr) (hg : RWGuarded x m tr) : DRF tr x :=
  Sync.rw_lockset_drf x m tr hwf hg

/-- only sync/atomic accesses ⇒ no data race (by definition of a conflict) -/
theorem atomic_only_drf (x : Var) (tr : List Ev) (h : AtomicOnly x tr) : DRF tr x :=
  Sync.atomic_only_drf x tr h

/-- written inside `Once.Do`, read there or after returning from a `Do` ⇒ no data race -/
theorem once_publish_drf (x : Var) (o : OnceId) (tr : List Ev) (hwf : WF tr) (hg : OnceGuarded x o tr) :
    DRF tr x := Sync.once_publish_drf x o tr hwf hg

/-- written by its constructor only, handed over after the last write ⇒ no data race -/
theorem immutable_after_publish_drf (x : Var) (c : Tid) (tr : List Ev) (h : PublishedBy x c tr) : DRF tr x :=
  Sync.immutable_after_publish_drf x c tr h

/-- touched by a single goroutine (a fresh clone under construction) ⇒ no data race -/
theorem owner_only_drf (x : Var) (c : Tid) (tr : List Ev) (h : OwnerOnly x c tr) : DRF tr x :=
  Sync.owner_only_drf x c tr h

/-- written under a mutex, read under it or after a later critical section of it ⇒ no data race -/
theorem lock_publish_drf (x : Var) (m : Lock) (tr : List Ev) (hwf : WF tr) (hg : LockPublished x m tr) :
    DRF tr x := Sync.lock_publish_drf x m tr hwf hg

/-- locks acquired in increasing rank, no other blocking operation inside a critical section ⇒ from every
    reachable state either some goroutine can step or all unfinished goroutines wait — holding no lock —
    at a blocking operation that is not a lock -/
theorem no_deadlock (ts : List Nat) (ready : Nat → Bool) (s0 : Deadlock.St) (sched : List Nat)
    (h0 : Deadlock.Init ts s0) :
    (∃ t ∈ ts, Deadlock.enabled ts ready (Deadlock.run s0 sched) t = true) ∨
    (∀ t ∈ ts, (Deadlock.run s0 sched).prog t ≠ [] →
      ∃ r, (Deadlock.run s0 sched).prog t = .wait :: r ∧ (Deadlock.run s0 sched).held t = []) :=
  Deadlock.progress ts ready _ (Deadlock.inv_run ts sched s0 (Deadlock.init_inv ts s0 h0))

/-- what it means for the accesses to variable x in a trace to follow class c -/
def Follows (c : SyncFacts.Class) (x : Var) (tr : List Ev) : Prop :=
  match c with
  | .immutable => ∃ owner, PublishedBy x owner tr
  | .syncprim => AtomicOnly x tr
  | .atomic => AtomicOnly x tr
  | .mutex m => Guarded x m tr
  | .rwmutex m => RWGuarded x m tr
  | .once o => OnceGuarded x o tr
  | .lockPublish m => LockPublished x m tr

/-- every discipline class implies data-race freedom -/
theorem class_sound (c : SyncFacts.Class) (x : Var) (tr : List Ev) (hwf : WF tr) (h : Follows c x tr) :
    DRF tr x := by
  cases c with
  | immutable => obtain ⟨o, ho⟩ := h; exact Sync.immutable_after_publish_drf x o tr ho
  | syncprim => exact Sync.atomic_only_drf x tr h
  | atomic => exact Sync.atomic_only_drf x tr h
  | mutex m => exact Sync.lockset_drf x m tr hwf h
  | rwmutex m => exact Sync.rw_lockset_drf x m tr hwf h
  | once o => exact Sync.once_publish_drf x o tr hwf h
  | lockPublish m => exact Sync.lock_publish_drf x m tr hwf h

/-! ## obligations over the regenerated table (re-proved against today's source on every run) -/

/-- every field of every shared type fits one discipline class -/
theorem all_fields_disciplined : SyncFacts.allDisciplined Gen.SyncFacts.table = true := by decide +kernel

/-- option closures (the only writers of Logger/Handler/sampler fields) are applied to fresh objects only -/
theorem apply_sites_fresh : Gen.SyncFacts.applySites.all id = true := by decide +kernel

/-- the lock-protected wrappers (`zapcore.Lock`'s lockedWriteSyncer, BufferedWriteSyncer) call into the wrapped, not
    concurrency-safe WriteSyncer / bufio.Writer ONLY while holding their mutex — every call site of today's source
    (regenerated table Gen/Delegates; helpers that do not lock are guarded iff all their callers hold the lock) -/
theorem delegate_calls_guarded : Gen.Delegates.rows.all (fun r => r.2.2.2.2.1) = true := by decide

/-- … and the table is not vacuous: both Write and Sync of each wrapper reach the wrapped object through such a site -/
theorem delegate_surface :
    (["Write", "Sync"].all fun m => Gen.Delegates.rows.any fun r => r.1 == "lockedWriteSyncer" && r.2.1 == m && r.2.2.1 == "ws") = true ∧
    (Gen.Delegates.rows.any fun r => r.1 == "BufferedWriteSyncer" && r.2.2.1 == "WS" && r.2.2.2.1 == "Sync") = true ∧
    (Gen.Delegates.rows.any fun r => r.1 == "BufferedWriteSyncer" && r.2.2.1 == "writer" && r.2.2.2.1 == "Write") = true ∧
    (Gen.Delegates.rows.any fun r => r.1 == "BufferedWriteSyncer" && r.2.2.1 == "writer" && r.2.2.2.1 == "Flush") = true := by
  decide +kernel

/-- inside critical sections: only calls into the wrapped object, known non-blocking helpers, or (ObservedLogs.Filter)
    the caller's predicate — no channel operation, select, Wait, Sleep, second lock, or re-entry into the own object -/
theorem cs_calls_nonblocking :
    Gen.SyncFacts.csCalls.all (fun c => c.2 == 0 || c.2 == 1 || c.2 == 6) = true := by decide +kernel

/-- a write through d nested lock-protected wrappers (BufferedWriteSyncer over Lock(sink) over …): wrapper i takes
    its own lock (rank b+i), calls the wrapped object, releases -/
def wrapProg : Nat → Nat → List Deadlock.Op
  | _, 0 => [.other]
  | b, d + 1 => .acq b :: (wrapProg (b + 1) d ++ [.rel b])

theorem okProg_wrap (d : Nat) : ∀ (b : Nat) (h : List Nat) (rest : List Deadlock.Op), (∀ x ∈ h, x < b) →
    Deadlock.okProg h (wrapProg b d ++ rest) = Deadlock.okProg h rest := by
  induction d with
  | zero => intro b h rest _; simp [wrapProg, Deadlock.okProg]
  | succ d ih =>
    intro b h rest hb
    have hall : h.all (· < b) = true := by simpa using hb
    have h1 : ∀ x ∈ b :: h, x < b + 1 := by
      intro x hx; rcases List.mem_cons.mp hx with rfl | hx
      · omega
      · have := hb x hx; omega
    simp only [wrapProg, List.cons_append, List.append_assoc, Deadlock.okProg, hall, Bool.true_and]
    rw [ih (b + 1) (b :: h) _ h1]
    simp [Deadlock.okProg]

/-- nested wrapper critical sections of any depth follow the lock-order discipline -/
theorem wrapper_programs_ordered (d : Nat) : Deadlock.okProg [] (wrapProg 0 d) = true := by
  have := okProg_wrap d 0 [] [] (by simp)
  simpa [Deadlock.okProg] using this

/-- two goroutines incrementing under one mutex: well-formed and guarded -/
example : WF [.rel 1 0, .wr 1 7, .rd 1 7, .acq 1 0, .rel 0 0, .wr 0 7, .rd 0 7, .acq 0 0] ∧
    Guarded 7 0 [.rel 1 0, .wr 1 7, .rd 1 7, .acq 1 0, .rel 0 0, .wr 0 7, .rd 0 7, .acq 0 0] := by
  decide

/-- the pre-repair `lazyWithCore`: goroutine 0 wins `Once.Do` and replaces the embedded Core inside it; goroutine 1
    calls the promoted `Enabled` (a plain read of the field) before passing the once -/
def lazyUnrepaired : List Ev := [.rd 1 0, .onceEnd 0 0, .wr 0 0, .onceBegin 0 0]

/-- F8 in the model: the trace is well-formed, violates the once discipline, and has a data race -/
theorem lazy_unrepaired_races : WF lazyUnrepaired ∧ ¬ OnceGuarded 0 0 lazyUnrepaired ∧ Race lazyUnrepaired 0 := by
  refine ⟨by decide, by decide, ?_⟩
  · -- the read is goroutine 1's first event, and no earlier event synchronises with a plain read
    exact ⟨1, 3, .wr 0 0, .rd 1 0, by decide, rfl, rfl, rfl, not_HB_of_no_edge (b := .rd 1 0) rfl (by decide) 1⟩

/-- the repaired shape (read only after passing the once) follows the discipline -/
example : OnceGuarded 0 0 [.rd 1 0, .onceRet 1 0, .onceEnd 0 0, .wr 0 0, .onceBegin 0 0] := by
  decide

/-! ## program semantics of the site table: from "all sites of a field fit class c" to "every trace follows c"

`SitePrograms.GeneratedBy I table tr`: every access of `tr` to a variable that instantiates a field of `table`
(interpretation `I`: any number of objects per type, each with its own mutex / once) is an execution of one of that
field's sites, the guard of the site read as a statement about the executing goroutine's own earlier events
(`SitePrograms.GuardHolds`, one clause per constructor of `SyncFacts.Guard`).  Nothing else about `tr` is assumed
but `WF`. -/
section SiteTable
open ZapVerif.SitePrograms

/-- the event-level guard clauses give the lock / once state the disciplines of M10 speak about:
    an own `Lock` not yet undone ⇒ holder; an own `RLock` not yet undone ⇒ reader; inside the own `Do` body ⇒ the once
    is running under this goroutine; returned from a `Do` ⇒ passed -/
theorem guard_state_sound (t : Tid) (m : Lock) (o : OnceId) (pre : List Ev) (hwf : WF pre) :
    (HeldExcl t m pre → holder m pre = some t) ∧ (HeldRead t m pre → t ∈ readers m pre) ∧
    (InOnceBody t o pre → onceSt o pre = .running t) ∧ (ReturnedFromDo t o pre → passed o t pre = true) :=
  ⟨holder_of_heldExcl hwf, readers_of_heldRead, onceSt_of_inOnceBody hwf, passed_of_returned⟩

/-- if all sites of x's field fit class c (the table-level fact decided by
    `all_fields_disciplined`), then in every well-formed trace generated by the table every access to x satisfies the
    per-event condition of c (for x's own lock / once) — or is made by x's creator before it hands the object over
    (sites with guard fresh / optfn / nilinit, which every class admits) -/
theorem generated_disciplined (I : Interp) (table : List SyncFacts.Row) (x : Var) (c : SyncFacts.Class)
    (tr : List Ev) (hgen : GeneratedOn I table x tr) (hwf : WF tr)
    (hc : SyncFacts.classify (sitesOf table (I.field x)) = some c) :
    Disciplined (instClass I x c) (I.creator x) x tr :=
  SitePrograms.generated_disciplined I table x c tr hgen hwf hc

/-- every class, with the hand-over phase of a freshly made object in front of it, implies data-race freedom
    (`class_sound` for traces in which constructors run, too) -/
theorem disciplined_sound (c : SyncFacts.Class) (owner : Tid) (x : Var) (tr : List Ev) (hwf : WF tr)
    (h : Disciplined c owner x tr) : DRF tr x :=
  SitePrograms.disciplined_drf c owner x tr hwf h

/-- fields none of whose sites is fresh / optfn / nilinit / forked: the generated traces satisfy the discipline
    predicate of their class literally (`Follows`: AtomicOnly, Guarded, RWGuarded, OnceGuarded, LockPublished) -/
theorem generated_follows (I : Interp) (table : List SyncFacts.Row) (x : Var) (c : SyncFacts.Class)
    (tr : List Ev) (hgen : GeneratedOn I table x tr) (hwf : WF tr)
    (hc : SyncFacts.classify (sitesOf table (I.field x)) = some c)
    (hsh : ∀ s ∈ sitesOf table (I.field x), SyncFacts.unshared s.guard = false ∧ s.guard ≠ .forked)
    (hci : c ≠ .immutable) :
    Follows (instClass I x c) x tr := by
  have hs := generated_shared I table x c tr hgen hwf hc (fun s h => (hsh s h).1)
  cases c with
  | immutable => exact absurd rfl hci
  | syncprim => exact atomicOnly_of_split hs
  | atomic => exact atomicOnly_of_split hs
  | mutex m => exact guarded_iff_split.mpr hs
  | rwmutex m => exact rwGuarded_iff_split.mpr hs
  | once o => exact onceGuarded_iff_split.mpr hs
  | lockPublish m => exact generated_lockPublished I table x m tr hgen hwf hc hsh

/-- the immutable class (any sites): a field that is written at all in a generated trace is `PublishedBy` its creator -/
theorem generated_follows_immutable (I : Interp) (table : List SyncFacts.Row) (x : Var) (tr : List Ev)
    (hgen : GeneratedOn I table x tr) (hwf : WF tr)
    (hc : SyncFacts.classify (sitesOf table (I.field x)) = some .immutable)
    (hex : ∃ e ∈ tr, e.touches x = true ∧ e.isWrite = true) :
    Follows (instClass I x .immutable) x tr :=
  ⟨I.creator x, disciplined_published (SitePrograms.generated_disciplined I table x _ tr hgen hwf hc) hex⟩

/-- the dynamic part of the `forked` guard follows from write-once when the `go` statement is executed inside a
    critical section of the lock all writes are made under (BufferedWriteSyncer.initialize) -/
theorem forked_in_cs_initialised (x : Var) (m : Lock) (tr postg preg : List Ev) (f : Ev) (hwf : WF tr)
    (hwr : ∀ post a pre, tr = post ++ a :: pre → a.touches x = true → a.isWrite = true → holder m pre = some a.tid)
    (hg : tr = postg ++ f :: preg) (hf : holder m preg = some f.tid) (hnw : NoWriteFrom x preg.length tr) :
    InitialisedBefore x preg.length tr :=
  initialisedBefore_of_cs hwf hwr hg hf hnw

/-- field ids of today's table are pairwise distinct (`sitesOf` = the row of the field) -/
theorem table_fields_distinct : (fieldsOf Gen.SyncFacts.table).Nodup := by
  -- the extractor numbers the fields in the order of the rows
  rw [show fieldsOf Gen.SyncFacts.table = List.range Gen.SyncFacts.table.length by decide +kernel]
  exact List.nodup_range

/-- generic form of `table_drf`, for any table all of whose fields are disciplined -/
theorem disciplined_table_drf (I : Interp) (table : List SyncFacts.Row)
    (hd : SyncFacts.allDisciplined table = true) (tr : List Ev) (hgen : GeneratedBy I table tr) (hwf : WF tr) :
    ∀ x, I.field x ∈ fieldsOf table → DRF tr x :=
  fun x hx =>
    have ⟨c, hc⟩ := sitesOf_classified hd hx
    disciplined_drf _ _ x tr hwf (SitePrograms.generated_disciplined I table x c tr (hgen x hx) hwf hc)

/-- any well-formed execution whose accesses to the fields of the shared types happen at the sites
    extracted from today's source, under the extracted guards, is free of data races on every such field — for every
    number of objects, goroutines and every interleaving -/
theorem table_drf (I : Interp) (tr : List Ev) (hgen : GeneratedBy I Gen.SyncFacts.table tr) (hwf : WF tr) :
    ∀ x, I.field x ∈ fieldsOf Gen.SyncFacts.table → DRF tr x :=
  disciplined_table_drf I _ all_fields_disciplined tr hgen hwf

/-- non-vacuity: a table with one field per class (immutable with a constructor write, mutex, rwmutex, once, atomic,
    lock-publish with a forked reader and a read after a critical section) generates a well-formed 26-event trace of
    three goroutines that exercises every guard clause -/
theorem site_semantics_nonvacuous :
    SyncFacts.allDisciplined demo = true ∧ GeneratedBy .single demo demoTr ∧ WF demoTr ∧
    demoTr.length = 26 ∧ (∀ x ∈ fieldsOf demo, ∃ e ∈ demoTr, e.touches x = true ∧ e.isWrite = true) :=
  ⟨by decide +kernel, demo_generated, demo_wf, rfl, by decide +kernel⟩

/-- … and with several objects of one type, each field under the mutex of its own object -/
theorem site_semantics_many_objects : GeneratedBy manyObjs demo twoTr ∧ WF twoTr :=
  ⟨two_generated, two_wf⟩

/-- sensitivity: a table with one unguarded write site is rejected by the classifier and does generate a
    well-formed trace with a data race — `table_drf` is not true for trivial reasons -/
theorem unguarded_site_races :
    SyncFacts.allDisciplined racy = false ∧ GeneratedBy .single racy racyTr ∧ WF racyTr ∧ Race racyTr 0 :=
  ⟨racy_undisciplined, racy_generated, racy_wf, racy_race⟩

end SiteTable

end ZapVerif.C09
