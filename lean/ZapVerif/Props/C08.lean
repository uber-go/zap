import ZapVerif.Proofs.PoolsStep
import ZapVerif.Gen.Pools
import ZapVerif.Proofs.TransJsonEnc
import ZapVerif.Props.C02
/-! # C08 — output is independent of logging history and of pooled-object reuse

Model: `Model/Pools.lean` — zap's seven pools as a heap machine in which `sync.Pool.Get` returns `New()` or ANY
object put before (an arbitrary oracle chooses), a GC drops any subset of any pool, and operations of any kind
(JSON and console `EncodeEntry`, With-clones, checked entries, error-array elements, stack captures, scratch
buffers, a console entry whose field panics) interleave freely with Writes that are still in flight.

What is proved (all for the code as it is, `Code.real`; every `leak_*` shows one switched-off statement breaks it):
* `pool_inv_preserved` — every operation (hence every put site) re-establishes the put-invariant of every pool and
  the ownership discipline of the buffers;
* `encode_independent_of_garbage`, `console_independent_of_heap`, `*_independent_of_garbage` — the result of an
  operation is the same for every pooled object satisfying the put-invariant as for a fresh one;
* `history_independent` — for every history and every behaviour of `sync.Pool`, every observable result equals
  the result of the pool-free run, in which each result is a function of its own operation only; the JSON line is
  `Enc.encodeEntry` of C01/C02, the console line is `Console.consoleLine` of C16;
* `buffer_owner`, `in_flight_undisturbed` — the buffer returned by `EncodeEntry` is in no pool and referenced by no
  pooled object, and its bytes stay intact until the sink has seen them, whatever else happens in between;
* `hook_reads_own_entry`, `hooked_entry_not_pooled` — a CheckedEntry is in no pool while its hook runs, so the hook reads
  the entry of its own call whatever is logged meanwhile (`leak_early_put`: not so if `putCheckedEntry` comes first);
* `core_encoder_unchanged_by_write`, `same_core_first_or_later` (+`_console`, `_child`) — the encoder a core holds is never
  changed by logging through it (`leak_receiver_mutated`), `receiver_encoder_never_mutated` over the source;
* `put_is_last_use`, `field_covered`, `source_matches_model_get`, `put_resets_cover_inv`, `put_sites`, `free_sites` — decided over `Gen/Pools.lean`, regenerated from the
  source on every run: a new field, a dropped reset, a new put site or a moved `Free` breaks the build.

Trusted: `sync.Pool` hands out an object to one user at a time (the oracle never returns an object that is
currently held); Get/Put-delimited sections of different goroutines are interleaved at the granularity of the
operations above (an object is exclusively owned between its Get and its Put). -/
namespace ZapVerif.C08
open ZapVerif ZapVerif.Pools ZapVerif.Json ZapVerif.Enc ZapVerif.Entry ZapVerif.PoolFacts

/-! ## 1. the put-invariant is re-established by every put site -/

/-- every operation keeps: pooled jsonEncoders reference no buffer, pooled slice encoders are empty, pooled
    Stacks have room, pooled/in-flight/live buffers are pairwise distinct and allocated, no fault happened -/
theorem pool_inv_preserved (orc : Orc) (h : H) (op : Op) (hi : Inv h) : Inv (step Code.real orc h op) :=
  (step_ok orc h (psOf h) op hi (rel_self h)).1

/-- … hence it holds after every history, for every behaviour of sync.Pool -/
theorem pool_inv_reachable (orc : Orc) (ops : List Op) : Inv (run Code.real orc H.empty ops) :=
  (run_ok orc ops _ _ inv_empty rel_empty).1

/-- `putJSONEncoder` puts back exactly `&jsonEncoder{}` -/
theorem putJSONEncoder_resets (h : H) (o : JsonObj) : (putJson Code.real h o).jsonPool.head? = some JsonObj.fresh := by
  unfold putJson; cases o.reflectBuf <;> rfl

/-- `putSliceEncoder` puts back an empty encoder -/
theorem putSliceEncoder_resets (h : H) (a : SliceObj) : (slicePut Code.real h a).slicePool.head? = some SliceObj.fresh := rfl

/-- `Stack.Free` puts back an object that still has room for a program counter -/
theorem stackFree_keeps_room (g : StackObj) (avail : List Nat) (full : Bool) (hg : g.PutInv) :
    ({ (captureFrom g avail full).1 with frames := none, pcs := none } : StackObj).PutInv :=
  (captureFrom_spec g avail full hg).2.2

/-! ## 2. the object obtained from the pool does not matter -/

theorem encodeEntryFrom_pure (orc : Orc) (h : H) (g : JsonObj) (p : Parent) (j : Job)
    (hg : g.PutInv) (hh : Owns h []) (hf : h.fault = false) :
    (encodeEntryFrom Code.real orc h g p j).1 = pureJson p j := by
  obtain ⟨b, hs0, -⟩ := cloneFrom_facts orc h g p [] hh hg hf
  obtain ⟨e, mb⟩ := encodeBody_spec orc p j hs0
  unfold encodeEntryFrom
  simp only [putJson_mem, e.sep'.buf, Option.getD_some, mb]

/-- JSON `EncodeEntry`: whatever object `_jsonPool.Get()` returned — any values in `EncoderConfig`, `spaced`,
    `openNamespaces`, `reflectEnc`, as long as `buf` and `reflectBuf` are nil — and whatever the buffer pool holds,
    the bytes are those produced with a fresh `&jsonEncoder{}` on an empty heap: `Enc.encodeEntry` of C01/C02 -/
theorem encode_independent_of_garbage (orc orc' : Orc) (h : H) (g : JsonObj) (p : Parent) (j : Job)
    (hg : g.PutInv) (hh : Owns h []) (hf : h.fault = false) :
    (encodeEntryFrom Code.real orc h g p j).1 = (encodeEntryFrom Code.real orc' H.empty JsonObj.fresh p j).1 ∧
    (encodeEntryFrom Code.real orc h g p j).1 =
      encodeEntry p.spaced (eraseO j.metaCalls) ⟨p.ctx, p.openNs⟩ (eraseO j.fields) (eraseO j.stack) j.ending := by
  rw [encodeEntryFrom_pure orc h g p j hg hh hf,
    encodeEntryFrom_pure orc' H.empty JsonObj.fresh p j ⟨rfl, rfl⟩ (by simp [Owns, H.empty]) rfl]
  exact ⟨rfl, rfl⟩

/-- the same at heap level: on EVERY heap satisfying the invariant (any garbage in any pool), with EVERY oracle, a
    JSON Write delivers `pureJson` -/
theorem json_independent_of_heap (orc : Orc) (h : H) (hi : Inv h) (p : Parent) (j : Job) :
    (step Code.real orc (step Code.real orc h (.encJson p j)) (.deliver 0)).out = Out.line (pureJson p j) :: h.out := by
  obtain ⟨i1, r1⟩ := step_ok orc h (psOf h) (.encJson p j) hi (rel_self h)
  obtain ⟨_, r2⟩ := step_ok orc _ _ (.deliver 0) i1 r1
  rw [r2.2.2.1]; rfl

/-- console `EncodeEntry` + `writeContext` on every heap satisfying the invariant: the pooled slice encoder, the
    pooled jsonEncoder used for the context and the three buffers involved are unobservable -/
theorem console_independent_of_heap (orc : Orc) (h : H) (hi : Inv h) (p : Parent) (j : CJob) :
    (step Code.real orc (step Code.real orc h (.encConsole p j)) (.deliver 0)).out = Out.line (pureConsole p j) :: h.out := by
  obtain ⟨i1, r1⟩ := step_ok orc h (psOf h) (.encConsole p j) hi (rel_self h)
  obtain ⟨_, r2⟩ := step_ok orc _ _ (.deliver 0) i1 r1
  rw [r2.2.2.1]; rfl

/-- `pureConsole` is the console line of C16 (`Console.consoleLine`) on the same inputs -/
theorem pureConsole_is_consoleLine (c : Cfg) (sepRaw : Bytes) (e : Ent) (k : Console.Cols) (ctx : List (List Field))
    (fields : List Field) (rfields : List RO) (cfgId : Nat) (hf : eraseO rfields = addFields fields) :
    pureConsole ⟨cfgId, true, (ctxEnc true ctx).buf, (ctxEnc true ctx).openNs⟩
      ⟨Console.columns c e k, if sepRaw.isEmpty then [9] else sepRaw,
       if !c.messageKey.isEmpty then some e.message else none, rfields,
       if !e.stack.isEmpty && !c.stacktraceKey.isEmpty then some e.stack else none, c.ending⟩ =
    Console.consoleLine c sepRaw e k ctx fields := by
  unfold pureConsole Console.consoleLine Console.contextBytes
  dsimp only
  rw [hf]
  -- both sides are the same chain of conditionals once the two Boolean tests are decided
  cases c.messageKey.isEmpty <;> cases (!e.stack.isEmpty && !c.stacktraceKey.isEmpty) <;> rfl

/-- slice array encoder: the columns printed with any pooled (empty) encoder are those of a fresh one -/
theorem columns_independent_of_garbage (a : SliceObj) (cols : List Bytes) (ha : a.PutInv) :
    columnsFrom a cols = columnsFrom SliceObj.fresh cols := by
  unfold SliceObj.PutInv at ha; simp [columnsFrom, ha, SliceObj.fresh]

/-- CheckedEntry: `reset()` erases every field of whatever object the pool returned — cores, ErrorOutput, the
    after-hook and the dirty flag of an earlier entry included -/
theorem checkedEntry_independent_of_garbage (g : CEObj) :
    ceReset Code.real g = ceReset Code.real CEObj.fresh ∧ ceReset Code.real g = ⟨0, none, false, none, []⟩ := ⟨rfl, rfl⟩

/-- both errArrayElem pools: the only field is assigned before the element is used -/
theorem errElem_independent_of_garbage (g : ErrObj) (e : Nat) :
    ({ g with err := some e } : ErrObj) = { ErrObj.fresh with err := some e } := rfl

/-- Stack: with any pooled object (whatever `storage` holds, of whatever length ≥ 1) `Capture` yields the frames of
    the goroutine's stack — all of them (`Full`) or the first (`First`) — exactly as with a fresh object, and does
    not fail -/
theorem stack_independent_of_garbage (g : StackObj) (avail : List Nat) (full : Bool) (hg : g.PutInv) :
    (captureFrom g avail full).1.frames = (captureFrom StackObj.fresh avail full).1.frames ∧
    (captureFrom g avail full).1.frames = some (if full then avail else avail.take 1) ∧
    (captureFrom g avail full).2 = false := by
  have h1 := captureFrom_spec g avail full hg
  have h2 := captureFrom_spec StackObj.fresh avail full (by simp [StackObj.PutInv, StackObj.fresh])
  exact ⟨h1.2.1.trans h2.2.1.symm, h1.2.1, h1.1⟩

/-- buffer pool: `Pool.Get` hands out an empty buffer whatever the pooled one contained -/
theorem buffer_independent_of_garbage (orc : Orc) (h : H) (hp : PoolOK h) : (bufGet orc h).2.mem (bufGet orc h).1 = [] :=
  (bufGet_spec orc h hp).empty

/-! ## 3. histories -/

/-- **for every history of operations and every behaviour of sync.Pool** (which pooled object each Get returns,
    what each GC drops), every observable result — lines reaching sinks, With-clone contexts, what a CheckedEntry
    writes to, the error an array element encodes, the frames of a captured stack — equals the result of the
    pool-free run `prun`, where each is computed from its own operation alone -/
theorem history_independent (orc : Orc) (ops : List Op) :
    (run Code.real orc H.empty ops).out = (prun PS.empty ops).out :=
  (run_ok orc ops _ _ inv_empty rel_empty).2.2.2.1

/-- the statement of the property: the line of a JSON log call is the same first-in-process and after any history -/
theorem json_same_first_or_later (orc orc' : Orc) (hist : List Op) (p : Parent) (j : Job) :
    (run Code.real orc H.empty (hist ++ [.encJson p j, .deliver 0])).out.head? =
      (run Code.real orc' H.empty [.encJson p j, .deliver 0]).out.head? ∧
    (run Code.real orc H.empty (hist ++ [.encJson p j, .deliver 0])).out.head? = some (Out.line (pureJson p j)) := by
  rw [history_independent, history_independent, prun_append]
  exact ⟨rfl, rfl⟩

theorem console_same_first_or_later (orc orc' : Orc) (hist : List Op) (p : Parent) (j : CJob) :
    (run Code.real orc H.empty (hist ++ [.encConsole p j, .deliver 0])).out.head? =
      (run Code.real orc' H.empty [.encConsole p j, .deliver 0]).out.head? ∧
    (run Code.real orc H.empty (hist ++ [.encConsole p j, .deliver 0])).out.head? = some (Out.line (pureConsole p j)) := by
  rw [history_independent, history_independent, prun_append]
  exact ⟨rfl, rfl⟩

/-- the same for everything else that goes through a pool -/
theorem others_same_first_or_later (orc : Orc) (hist : List Op) :
    (∀ p fields, (run Code.real orc H.empty (hist ++ [.withClone p fields])).out.head? =
        some (Out.ctx (pureCtx p fields).buf (pureCtx p fields).openNs)) ∧
    (∀ ent cores after errOut, (run Code.real orc H.empty (hist ++ [.check ent cores after errOut true])).out.head? =
        some (Out.ce ent (cores.map some) after errOut false)) ∧
    (∀ z e, (run Code.real orc H.empty (hist ++ [.errElem z e])).out.head? = some (Out.err (some e))) ∧
    (∀ avail full, (run Code.real orc H.empty (hist ++ [.capture avail full])).out.head? =
        some (Out.stack (if full then avail else avail.take 1))) ∧
    (∀ s, (run Code.real orc H.empty (hist ++ [.scratch s])).out.head? = some (Out.line s)) := by
  refine ⟨?_, ?_, ?_, ?_, ?_⟩
  · intros; rw [history_independent, prun_append]; rfl
  · intro ent cores after errOut; rw [history_independent, prun_append]; cases after <;> rfl
  · intros; rw [history_independent, prun_append]; rfl
  · intros; rw [history_independent, prun_append]; rfl
  · intros; rw [history_independent, prun_append]; rfl

/-! ## 4. buffer ownership -/

/-- after `EncodeEntry` returned, the buffer handed to `ioCore.Write` is in no pool and no pooled object
    references it (`putJSONEncoder` cleared `buf` and `reflectBuf` before `Put`), and it holds the line -/
theorem buffer_owner (orc : Orc) (h : H) (hi : Inv h) (p : Parent) (j : Job) :
    ∃ b, (step Code.real orc h (.encJson p j)).inflight.head? = some b ∧
      b ∉ (step Code.real orc h (.encJson p j)).bufPool ∧
      (∀ o ∈ (step Code.real orc h (.encJson p j)).jsonPool, o.buf ≠ some b ∧ o.reflectBuf ≠ some b) ∧
      (step Code.real orc h (.encJson p j)).mem b = pureJson p j := by
  obtain ⟨i1, r1⟩ := step_ok orc h (psOf h) (.encJson p j) hi (rel_self h)
  have hl : List.map _ (step Code.real orc h (.encJson p j)).inflight = pureJson p j :: (psOf h).inflight := r1.1
  generalize step Code.real orc h (.encJson p j) = h' at *
  cases hb : h'.inflight with
  | nil => rw [hb] at hl; cases hl
  | cons b rest =>
    rw [hb] at hl
    obtain ⟨hx, hnp⟩ := (owns_iff.1 i1.owns).2.2 b (by rw [hb]; exact List.mem_append_left _ (List.mem_cons_self ..))
    refine ⟨b, rfl, hx, fun o ho => ?_, (List.cons_eq_cons.mp hl).1⟩
    obtain ⟨h1, h2⟩ := i1.json o ho
    rw [h1, h2]
    exact ⟨nofun, nofun⟩

/-- `ioCore.Write` frees the buffer only after the sink returned: the sink sees the bytes the buffer holds at
    that moment, and only then does the buffer enter the pool -/
theorem freed_after_sink (orc : Orc) (h : H) (b : Nat) (hb : h.inflight[0]? = some b) :
    (step Code.real orc h (.deliver 0)).out = Out.line (h.mem b) :: h.out ∧
    (step Code.real orc h (.deliver 0)).bufPool = b :: h.bufPool ∧
    (step Code.real orc h (.deliver 0)).inflight = h.inflight.eraseIdx 0 := by
  unfold step
  simp only [hb, real_free, if_true]
  exact ⟨rfl, rfl, rfl⟩

/-- between `EncodeEntry` and the return of the sink ANYTHING may happen — other loggers logging and being
    delivered (`nested`: they complete only their own Writes), a sink that logs re-entrantly, With-clones, checked
    entries, error arrays, stack captures, scratch buffers, panicking fields, GC cycles — after any history before
    it: the sink still receives exactly the line (`reentrant`/concurrent clause of the property) -/
theorem in_flight_undisturbed (orc : Orc) (hist mid : List Op) (p : Parent) (j : Job) (hm : nested 0 mid = true) :
    (run Code.real orc H.empty (hist ++ [.encJson p j] ++ mid ++ [.deliver 0])).out.head? =
      some (Out.line (pureJson p j)) := by
  rw [history_independent, prun_append, prun_append, prun_append]
  generalize prun PS.empty hist = s0
  have e := prun_nested mid 0 (prun s0 [.encJson p j]) [] (pureJson p j) s0.inflight rfl rfl hm
  generalize prun (prun s0 [.encJson p j]) mid = s1 at e
  show (pstep s1 (.deliver 0)).out.head? = _
  unfold pstep
  simp only [e]
  rfl

theorem in_flight_undisturbed_console (orc : Orc) (hist mid : List Op) (p : Parent) (j : CJob) (hm : nested 0 mid = true) :
    (run Code.real orc H.empty (hist ++ [.encConsole p j] ++ mid ++ [.deliver 0])).out.head? =
      some (Out.line (pureConsole p j)) := by
  rw [history_independent, prun_append, prun_append, prun_append]
  generalize prun PS.empty hist = s0
  have e := prun_nested mid 0 (prun s0 [.encConsole p j]) [] (pureConsole p j) s0.inflight rfl rfl hm
  generalize prun (prun s0 [.encConsole p j]) mid = s1 at e
  show (pstep s1 (.deliver 0)).out.head? = _
  unfold pstep
  simp only [e]
  rfl

/-! ## 4b. a CheckedEntry stays out of the pool until its hook has returned -/

/-- `CheckedEntry.Write` hands the entry to `hook.OnWrite(ce, fields)` and only afterwards to `putCheckedEntry`:
    whatever happens while the hook runs — the hook logging through other loggers (`hnested`: hooks entered in the
    meantime return in the meantime), other goroutines logging, checked entries written or dropped, GCs, for every
    behaviour of sync.Pool and after any history — the hook reads the entry of ITS log call -/
theorem hook_reads_own_entry (orc : Orc) (hist mid : List Op) (ent : Nat) (cores : List Nat) (a : Nat) (errOut : Option Nat)
    (hm : hnested 0 mid = true) :
    (run Code.real orc H.empty (hist ++ [.check ent cores (some a) errOut true] ++ mid ++ [.hookReturn 0])).out.head? =
      some (Out.hook ent (some a)) := by
  rw [history_independent, prun_append, prun_append, prun_append]
  generalize prun PS.empty hist = s0
  have e := prun_hnested mid 0 (prun s0 [.check ent cores (some a) errOut true]) [] (ent, some a) s0.inHook rfl rfl hm
  generalize prun (prun s0 [.check ent cores (some a) errOut true]) mid = s1 at e
  show (pstep s1 (.hookReturn 0)).out.head? = _
  unfold pstep
  simp only [e]
  rfl

/-- while a hook runs its entry is in no pool: `getCheckedEntry` can never hand it out -/
theorem hooked_entry_not_pooled (orc : Orc) (ops : List Op) :
    ∀ id ∈ (run Code.real orc H.empty ops).ceh.inHook, id ∉ (run Code.real orc H.empty ops).ceh.pool := by
  intro id hid hp
  have := (pool_inv_reachable orc ops).ce.1
  exact (List.nodup_append.mp this).2.2 id hp id hid rfl

/-- the call of `putCheckedEntry`, `putJSONEncoder` and `putSliceEncoder` is the last use of the object in its
    caller (regenerated from the source): no read of the argument follows on any path to the end of the function -/
theorem put_is_last_use :
    (Gen.Pools.putUses.map fun s => (s.fn, s.recv, s.deferred, s.usesAfter)) =
    [("zapcore.(consoleEncoder).EncodeEntry", "putSliceEncoder(arr)", false, 0),
     ("zapcore.(CheckedEntry).Write", "putCheckedEntry(ce)", false, 0),
     ("zapcore.(consoleEncoder).writeContext", "putJSONEncoder(context)", true, 0),
     ("zapcore.(jsonEncoder).EncodeEntry", "putJSONEncoder(final)", false, 0)] := rfl

/-! ## 4c. the encoder a core holds is never changed by logging through it -/

/-- **clone discipline.** The encoder held by a core (made by `With`, i.e. `Clone` + `addFields`) is long-lived state
    next to the pools.  No operation — a Write through that very core (JSON or console, with or without fields), a
    `With` deriving a child from it, writes through other cores, panicking fields, anything — changes what any
    existing core's encoder holds: its buffer bytes and its namespace counter read the same afterwards -/
theorem core_encoder_unchanged_by_write (orc : Orc) (h : H) (hi : Inv h) (op : Op) (k : Nat) (b : Bytes) (m : LiveMeta)
    (hb : liveAt (h.live.map h.mem) k = some b) (hm : liveAt h.liveMeta k = some m) :
    liveAt ((step Code.real orc h op).live.map (step Code.real orc h op).mem) k = some b ∧
    liveAt (step Code.real orc h op).liveMeta k = some m := by
  obtain ⟨_, r⟩ := step_ok orc h (psOf h) op hi (rel_self h)
  obtain ⟨a1, a2⟩ := prun_live_stable [op] (psOf h) k b m hb hm
  rw [r.2.1, r.2.2.2.2]
  exact ⟨a1, a2⟩

/-- the statement of the property for histories through the SAME core: a JSON Write through a core made by `With`
    produces the line determined by how the core was made (`pureCtx p fields`) and the entry alone — whatever was
    logged before the core was made (`pre`) and whatever was logged since (`mid`: through this core — field-less
    entries, entries with fields, panicking fields —, through its children and siblings, through anything else) -/
theorem same_core_first_or_later (orc : Orc) (pre mid : List Op) (p : Parent) (fields : List RO) (j : Job) :
    (run Code.real orc H.empty
        (pre ++ [.withClone p fields] ++ mid ++ [.encJsonAt (prun PS.empty pre).live.length j, .deliver 0])).out.head? =
      some (Out.line (pureJson ⟨p.cfg, p.spaced, (pureCtx p fields).buf, (pureCtx p fields).openNs⟩ j)) := by
  rw [history_independent, prun_append, prun_append, prun_append]
  have hl := prun_len pre PS.empty rfl
  generalize prun PS.empty pre = s0 at *
  have := pparent_after s0 hl p fields mid
  have e : prun s0 [.withClone p fields] = pstepWith s0 p fields := rfl
  rw [e]
  generalize prun (pstepWith s0 p fields) mid = s1 at *
  rw [← this]
  rfl

theorem same_core_first_or_later_console (orc : Orc) (pre mid : List Op) (p : Parent) (fields : List RO) (j : CJob) :
    (run Code.real orc H.empty
        (pre ++ [.withClone p fields] ++ mid ++ [.encConsoleAt (prun PS.empty pre).live.length j, .deliver 0])).out.head? =
      some (Out.line (pureConsole ⟨p.cfg, p.spaced, (pureCtx p fields).buf, (pureCtx p fields).openNs⟩ j)) := by
  rw [history_independent, prun_append, prun_append, prun_append]
  have hl := prun_len pre PS.empty rfl
  generalize prun PS.empty pre = s0 at *
  have := pparent_after s0 hl p fields mid
  have e : prun s0 [.withClone p fields] = pstepWith s0 p fields := rfl
  rw [e]
  generalize prun (pstepWith s0 p fields) mid = s1 at *
  rw [← this]
  rfl

/-- … and a child derived from that core at any later time starts from the same context -/
theorem same_core_child_first_or_later (orc : Orc) (pre mid : List Op) (p : Parent) (fields extra : List RO) :
    (run Code.real orc H.empty
        (pre ++ [.withClone p fields] ++ mid ++ [.withAt (prun PS.empty pre).live.length extra])).out.head? =
      some (Out.ctx (pureCtx ⟨p.cfg, p.spaced, (pureCtx p fields).buf, (pureCtx p fields).openNs⟩ extra).buf
                    (pureCtx ⟨p.cfg, p.spaced, (pureCtx p fields).buf, (pureCtx p fields).openNs⟩ extra).openNs) := by
  rw [history_independent, prun_append, prun_append, prun_append]
  have hl := prun_len pre PS.empty rfl
  generalize prun PS.empty pre = s0 at *
  have := pparent_after s0 hl p fields mid
  have e : prun s0 [.withClone p fields] = pstepWith s0 p fields := rfl
  rw [e]
  generalize prun (pstepWith s0 p fields) mid = s1 at *
  rw [← this]
  rfl

/-- the clone discipline in the source (regenerated): `jsonEncoder.EncodeEntry`/`Clone`/`clone`,
    `consoleEncoder.EncodeEntry`/`writeContext`/`Clone`/`addSeparatorIfNecessary` apply no mutating operation — field
    assignment, buffer write, mutating method, handing the receiver to other code — to their RECEIVER (they work on
    `final`, `context`, `clone`), and `ioCore.With`/`Check`/`Write`/`Sync`/`clone` call nothing but `EncodeEntry` and
    `Clone` on `c.enc` -/
theorem receiver_encoder_never_mutated :
    Gen.Pools.recvMutations =
    [("zapcore.jsonEncoder.EncodeEntry", ""), ("zapcore.jsonEncoder.Clone", ""), ("zapcore.jsonEncoder.clone", ""),
     ("zapcore.consoleEncoder.EncodeEntry", ""), ("zapcore.consoleEncoder.writeContext", ""),
     ("zapcore.consoleEncoder.Clone", ""), ("zapcore.consoleEncoder.addSeparatorIfNecessary", ""),
     ("zapcore.ioCore.With", ""), ("zapcore.ioCore.Check", ""), ("zapcore.ioCore.Write", ""), ("zapcore.ioCore.Sync", ""),
     ("zapcore.ioCore.clone", "")] := rfl

/-! ## 5. the source, as regenerated into `Gen/Pools.lean` -/

/-- every field of every pooled struct is assigned on every get path, or on every put path, or is one of the two
    fields proved unobservable: `Stack.storage`, scratch space that `runtime.Callers` overwrites before it is read and of
    which only the length matters (`stack_independent_of_garbage`, `StackObj.PutInv`), and `jsonEncoder.reflectEnc`,
    which `resetReflectBuf` assigns before every read whenever `reflectBuf` is nil — and `reflectBuf` is nil in every
    pooled encoder (`encode_independent_of_garbage` holds for every value of it).  Today only `storage` needs the
    exemption: `reflectEnc` is also reset on put. -/
theorem field_covered :
    ((Gen.Pools.table.flatMap fun p => p.uncovered.map fun f => (p.id, f)).all fun x =>
      [("internal/stacktrace._stackPool", "storage"), ("zapcore._jsonPool", "reflectEnc")].contains x) = true := by
  decide +kernel

/-- the pools of the tree are exactly the seven the model has, with these element types and fields -/
theorem pools_expected :
    (Gen.Pools.table.map fun p => (p.id, p.elem, p.fields, p.newSets)) =
    [("zap._errArrayElemPool", "errArrayElem", ["error"], []),
     ("buffer.Pool.p", "Buffer", ["bs", "pool"], ["bs"]),
     ("internal/stacktrace._stackPool", "Stack", ["pcs", "frames", "storage"], ["storage"]),
     ("zapcore._sliceEncoderPool", "sliceArrayEncoder", ["elems"], ["elems"]),
     ("zapcore._cePool", "CheckedEntry", ["Entry", "ErrorOutput", "dirty", "after", "cores"], ["cores"]),
     ("zapcore._errArrayElemPool", "errArrayElem", ["err"], []),
     ("zapcore._jsonPool", "jsonEncoder", ["EncoderConfig", "buf", "spaced", "openNamespaces", "reflectBuf", "reflectEnc"], [])] ∧
    Gen.Pools.bufferPoolOwners = ["internal/bufferpool: buffer.NewPool()"] := ⟨rfl, rfl⟩

/-- the get paths assign exactly what `cloneFrom`, `bufGet`, `ceReset`, `errElem`, `captureFrom`, `columnsFrom`
    assign (field, right-hand side, on every path?) -/
theorem source_matches_model_get :
    (Gen.Pools.table.map fun p => (p.id, p.getFns, p.getSets.map fun a => (a.field, a.rhs, a.always))) =
    [("zap._errArrayElemPool", ["zap.(errArray).MarshalLogArray"], [("error", "errs[i]", true)]),
     ("buffer.Pool.p", ["buffer.(Pool).Get"], [("bs", "b.bs[:0]", true), ("pool", "p", true)]),
     ("internal/stacktrace._stackPool", ["internal/stacktrace.Capture"],
      [("frames", "runtime.CallersFrames(stack.pcs)", true),
       ("pcs", "stack.storage[:1] | stack.storage | pcs[:numFrames] | stack.pcs[:numFrames]", true),
       ("storage", "pcs", false)]),
     ("zapcore._sliceEncoderPool", ["zapcore.(consoleEncoder).EncodeEntry via getSliceEncoder", "zapcore.getSliceEncoder"],
      [("elems", "append(s.elems, v)", false)]),
     ("zapcore._cePool", ["zapcore.getCheckedEntry"],
      [("Entry", "Entry{}", true), ("ErrorOutput", "nil", true), ("after", "nil", true), ("cores", "ce.cores[:0]", true),
       ("dirty", "false", true)]),
     ("zapcore._errArrayElemPool", ["zapcore.newErrArrayElem"], [("err", "err", true)]),
     ("zapcore._jsonPool", ["zapcore.(jsonEncoder).clone"],
      [("EncoderConfig", "enc.EncoderConfig", true), ("buf", "bufferpool.Get()", true),
       ("openNamespaces", "enc.openNamespaces", true), ("spaced", "enc.spaced", true)])] := rfl

/-- what the put-invariant (`JsonObj.PutInv`, `SliceObj.PutInv`) needs from the put paths and is not re-established
    by the get path: `putJSONEncoder` clears `buf` and `reflectBuf`, `putSliceEncoder` truncates `elems` — on every path.
    (The other resets of the source — `EncoderConfig`, `spaced`, `openNamespaces`, `reflectEnc`, `err`, `pcs`, `frames` —
    only drop references or repeat what the get path assigns; the theorems above hold without them, so removing one
    of those is not reported.) -/
theorem put_resets_cover_inv :
    ([("zapcore._jsonPool", "buf", "nil"), ("zapcore._jsonPool", "reflectBuf", "nil"),
      ("zapcore._sliceEncoderPool", "elems", "e.elems[:0]")].all fun r =>
        match find Gen.Pools.table r.1 with
        | some p => p.putSets.any fun a => a.field == r.2.1 && a.rhs == r.2.2 && a.always
        | none => false) = true := by
  decide +kernel

/-- a put path does nothing but reset: every assignment before `Put` stores a zero value (`nil`, `0`, `false`) or
    truncates a slice to length 0 -/
theorem put_paths_only_reset :
    (Gen.Pools.table.all fun p => p.putSets.all fun a => ["nil", "0", "false", "e.elems[:0]"].contains a.rhs) = true := by
  decide +kernel

/-- on the way to `Put` exactly one other call is made through the object (`enc.reflectBuf.Free()`), and the put
    functions are called from exactly the sites the model has an operation for -/
theorem put_sites :
    (Gen.Pools.table.map fun p => (p.id, p.putCalls, p.putSites)) =
    [("zap._errArrayElemPool", [], ["zap.(errArray).MarshalLogArray (inline)"]),
     ("buffer.Pool.p", [],
      ["internal/stacktrace.Take", "zap.(Logger).check", "zapcore.(EntryCaller).FullPath", "zapcore.(EntryCaller).TrimmedPath",
       "zapcore.(consoleEncoder).writeContext", "zapcore.(ioCore).Write", "zapcore.putJSONEncoder"]),
     ("internal/stacktrace._stackPool", [], ["internal/stacktrace.Take", "zap.(Logger).check"]),
     ("zapcore._sliceEncoderPool", [], ["zapcore.(consoleEncoder).EncodeEntry"]),
     ("zapcore._cePool", [], ["zapcore.(CheckedEntry).Write"]),
     ("zapcore._errArrayElemPool", [], ["zapcore.(errArray).MarshalLogArray"]),
     ("zapcore._jsonPool", ["reflectBuf.Free"], ["zapcore.(consoleEncoder).writeContext", "zapcore.(jsonEncoder).EncodeEntry"])] := rfl

/-- every `Free`/`put` of a pooled object in the tree: one per object and function (no double free), and no read of
    the object follows it (`usesAfter = 0`; `defer x.Free()` runs last by construction) — in particular
    `ioCore.Write` frees after `c.out.Write(buf.Bytes())` and the path helpers free after `buf.String()` copied -/
theorem free_sites :
    (Gen.Pools.freeSites.map fun s => (s.fn, s.recv, s.deferred, s.usesAfter)) =
    [("zap.(Logger).check", "stack.Free", true, 0),
     ("zap.(Logger).check", "buffer.Free", true, 0),
     ("buffer.(Buffer).Free", "b.pool.put", false, 0),
     ("internal/stacktrace.Take", "stack.Free", true, 0),
     ("internal/stacktrace.Take", "buffer.Free", true, 0),
     ("zapcore.(consoleEncoder).writeContext", "context.buf.Free", true, 0),
     ("zapcore.(ioCore).Write", "buf.Free", false, 0),
     ("zapcore.(EntryCaller).FullPath", "buf.Free", false, 0),
     ("zapcore.(EntryCaller).TrimmedPath", "buf.Free", false, 0),
     ("zapcore.(errArray).MarshalLogArray", "el.Free", false, 0),
     ("zapcore.putJSONEncoder", "enc.reflectBuf.Free", false, 0)] := rfl

/-! ## 6. sensitivity: switching one statement off lets an earlier operation change a later output -/

def P0 : Parent := ⟨1, false, [], 0⟩
def lifo : Orc := fun _ => some 0          -- sync.Pool on one pinned goroutine: the last object put
def jPlain : Job := ⟨[], [RO.prim [97] (J.atom [49])], [], [10]⟩
def jRefl : Job := ⟨[], [RO.refl [97] (J.atom [49])], [], [10]⟩
def cjPlain (col : UInt8) : CJob := ⟨[[col]], [9], some [109], [], none, [10]⟩
def cjOpenNs : CJob := ⟨[], [9], none, [RO.ns [110]], none, [10]⟩
def last (h : H) : Option Out := h.out.head?

/-- `openNamespaces` neither copied by `clone` nor reset by `putJSONEncoder`: a console entry whose field panicked
    after `OpenNamespace` leaves a counter of 1 behind; the next JSON entry closes a namespace it never opened -/
theorem leak_openNamespaces :
    last (run { putResetsOpenNs := false, cloneSetsOpenNs := false } lifo H.empty [.ctxPanic P0 cjOpenNs, .encJson P0 jPlain, .deliver 0]) ≠
    last (run { putResetsOpenNs := false, cloneSetsOpenNs := false } lifo H.empty [.encJson P0 jPlain, .deliver 0]) := by
  decide +kernel

/-- `reflectBuf`/`reflectEnc` not cleared by `putJSONEncoder`: the freed reflection buffer is still referenced by the
    pooled encoder; when the buffer pool hands the same buffer out as the next entry's `buf`, resetting the
    "reflection buffer" wipes the line -/
theorem leak_reflectBuf :
    last (run { putResetsReflectBuf := false, putResetsReflectEnc := false } (fun t => if t = 4 then some 1 else some 0) H.empty
            [.encJson P0 jRefl, .deliver 0, .encJson P0 jRefl, .deliver 0]) ≠
    last (run { putResetsReflectBuf := false, putResetsReflectEnc := false } (fun t => if t = 4 then some 1 else some 0) H.empty
            [.encJson P0 jRefl, .deliver 0]) := by
  decide +kernel

/-- `elems` not truncated by `putSliceEncoder`: the previous entry's columns are printed again -/
theorem leak_elems :
    last (run { putTruncatesElems := false } lifo H.empty [.encConsole P0 (cjPlain 65), .deliver 0, .encConsole P0 (cjPlain 66), .deliver 0]) ≠
    last (run { putTruncatesElems := false } lifo H.empty [.encConsole P0 (cjPlain 66), .deliver 0]) := by
  decide +kernel

/-- `cores` not truncated by `reset`: the next entry is also written to the previous entry's cores -/
theorem leak_cores :
    last (run { resetTruncatesCores := false } lifo H.empty [.check 1 [7] none none true, .check 2 [9] none none true]) ≠
    last (run { resetTruncatesCores := false } lifo H.empty [.check 2 [9] none none true]) := by
  decide +kernel

/-- `after` not cleared by `reset`: the previous entry's hook (a panic/fatal hook) fires for the next entry -/
theorem leak_after :
    last (run { resetClearsAfter := false } lifo H.empty [.check 1 [7] (some 3) none true, .hookReturn 0, .check 2 [9] none none true]) ≠
    last (run { resetClearsAfter := false } lifo H.empty [.check 2 [9] none none true]) := by
  decide +kernel

/-- `ErrorOutput` not cleared by `reset`: a core-level entry reports its write error to another logger's error output -/
theorem leak_errorOutput :
    last (run { resetClearsErrOut := false } lifo H.empty [.check 1 [7] none (some 5) true, .check 2 [9] none none true]) ≠
    last (run { resetClearsErrOut := false } lifo H.empty [.check 2 [9] none none true]) := by
  decide +kernel

/-- the buffer freed before the sink has consumed it: anything that takes a buffer in between overwrites the line -/
theorem leak_early_free :
    last (run { freeAfterSink := false } lifo H.empty [.encJson P0 jPlain, .scratch [120], .deliver 0]) ≠
    last (run { freeAfterSink := false } lifo H.empty [.encJson P0 jPlain, .deliver 0]) := by
  decide +kernel

/-- `putCheckedEntry(ce)` before `hook.OnWrite(ce, fields)`: a log call made while the hook runs (by the hook itself, or by
    another goroutine) is handed the same entry, and the hook reads THAT call's entry -/
theorem leak_early_put :
    last (run { putAfterHook := false } lifo H.empty [.check 1 [7] (some 3) none true, .check 2 [9] none none true, .hookReturn 0]) ≠
    last (run { putAfterHook := false } lifo H.empty [.check 1 [7] (some 3) none true, .hookReturn 0]) := by
  decide +kernel

def Pns : Parent := ⟨1, true, [], 0⟩
def cjNoFields : CJob := ⟨[], [9], some [109], [], none, [10]⟩
def cjFields : CJob := ⟨[], [9], some [109], [RO.prim [115] (J.atom [50])], none, [10]⟩

/-- `writeContext` closing the namespaces of the RECEIVER for field-less entries (a "fast path" without a clone): the
    first field-less entry through a core whose context left a namespace open changes that core's encoder for good; every
    later entry with fields has them outside the namespace -/
theorem leak_receiver_mutated :
    last (run { contextOnClone := false } lifo H.empty
      [.withClone Pns [RO.ns [114], RO.prim [105] (J.atom [49])], .encConsoleAt 0 cjNoFields, .deliver 0, .encConsoleAt 0 cjFields, .deliver 0]) ≠
    last (run { contextOnClone := false } lifo H.empty
      [.withClone Pns [RO.ns [114], RO.prim [105] (J.atom [49])], .encConsoleAt 0 cjFields, .deliver 0]) := by
  decide +kernel

/-! ## 7. non-vacuity -/

-- pooled garbage really is reused in these runs: after one JSON entry with a reflected field the pools hold the
-- encoder and both buffers; the second entry takes all of them back out (LIFO oracle)
example : (run Code.real lifo H.empty [.encJson P0 jRefl, .deliver 0]).jsonPool.length = 1 ∧
          (run Code.real lifo H.empty [.encJson P0 jRefl, .deliver 0]).bufPool = [0, 1] ∧
          (run Code.real lifo H.empty [.encJson P0 jRefl, .deliver 0, .encJson P0 jRefl]).bufPool = [1] ∧
          (run Code.real lifo H.empty [.encJson P0 jRefl, .deliver 0, .encJson P0 jRefl]).next = 2 := by decide +kernel

-- … and the output is the same line both times
example : last (run Code.real lifo H.empty [.encJson P0 jRefl, .deliver 0, .encJson P0 jRefl, .deliver 0]) =
          some (Out.line [123, 34, 97, 34, 58, 49, 125, 10]) := by decide +kernel

-- the hostile oracle of `leak_reflectBuf` is harmless for the real code
example : last (run Code.real (fun t => if t = 4 then some 1 else some 0) H.empty
            [.encJson P0 jRefl, .deliver 0, .encJson P0 jRefl, .deliver 0]) = some (Out.line [123, 34, 97, 34, 58, 49, 125, 10]) := by
  decide +kernel

-- the hypotheses of `encode_independent_of_garbage` are satisfiable with real garbage: a stale config pointer, a
-- non-zero namespace counter, a stale reflection encoder, a dirty non-empty buffer pool
example : (⟨some 9, none, true, 5, none, some 3⟩ : JsonObj).PutInv ∧
          Owns { H.empty with next := 4, bufPool := [2, 0], mem := fun _ => [1, 2, 3] } [] := by
  refine ⟨⟨rfl, rfl⟩, ?_, ?_⟩
  · decide
  · intro x hx; simp at hx; rcases hx with rfl | rfl <;> decide

-- `nested` admits a re-entrant sink and interleaved Writes of other loggers
example : nested 0 [.encJson P0 jPlain, .scratch [1], .encConsole P0 (cjPlain 65), .deliver 1, .gc (fun _ => false), .deliver 0] = true := by
  decide

-- a hook that logs through two other loggers, one of them with a hook of its own, is `hnested`; the real code hands it its entry
example : hnested 0 [.check 2 [9] none none true, .check 3 [8] (some 4) none true, .gc (fun _ => true), .hookReturn 0] = true := by decide
example : last (run Code.real lifo H.empty [.check 1 [7] (some 3) none true, .check 2 [9] none none true, .hookReturn 0]) =
          some (Out.hook 1 (some 3)) := by decide +kernel

-- the real code: the same two histories through one console core with an open namespace give the same line
example : last (run Code.real lifo H.empty
      [.withClone Pns [RO.ns [114], RO.prim [105] (J.atom [49])], .encConsoleAt 0 cjNoFields, .deliver 0, .encConsoleAt 0 cjFields, .deliver 0]) =
    last (run Code.real lifo H.empty
      [.withClone Pns [RO.ns [114], RO.prim [105] (J.atom [49])], .encConsoleAt 0 cjFields, .deliver 0]) := by decide +kernel

-- a real (pooled) Stack satisfies the invariant after a deep capture grew it
example : ((captureFrom StackObj.fresh (List.replicate 100 7) true).1.storage.length = 128) := by decide +kernel

end ZapVerif.C08

/-! ## the pool discipline of the JSON encoder IS the source (table `Gen/TransJsonEnc.lean`)

`free_sites` and `put_is_last_use` above rest on a syntactic table of call sites.  Here the bodies of `clone`, `Clone`,
`putJSONEncoder` and `EncodeEntry` of zapcore/json_encoder.go, translated mechanically, are interpreted with the pools
as recorded intrinsics, and the ORDER of the recorded calls is a theorem:

* `clone`: one `_jsonPool.Get`, configuration / `spaced` / `openNamespaces` copied from the receiver, then one fresh
  buffer from the buffer pool; nothing of the receiver changes;
* `Clone`: `clone`, then the receiver's bytes are COPIED into the fresh buffer (the receiver's buffer is only read);
* `putJSONEncoder`: `reflectBuf.Free()` (only when there is one) BEFORE every field is reset, `_jsonPool.Put` last;
* `EncodeEntry`: the buffer is read before `putJSONEncoder(final)`, which is the last recorded call. -/
namespace ZapVerif.C08
open ZapVerif ZapVerif.GoMini ZapVerif.TransJsonEnc ZapVerif.Gen.TransJsonEnc

theorem clone_exec_matches_source (P : Par) (cfg : List Val) (buf : Bytes) (sp : Bool) (ns : Int) (ocfg : List Val)
    (obuf : Bytes) (osp : Bool) (ons : Int) (oself : Val) (ev : List Val) (fuel : Nat) :
    (exec (X P) (fuel + 1) clone_body ⟨[], cloneFld cfg buf sp ns ocfg obuf osp ons oself ev⟩).fin =
      some ([oself], cloneFld cfg buf sp ns cfg [] sp ns oself
        (ev ++ [.list [TransJsonEnc.nm "jsonPool.Get"], .list [TransJsonEnc.nm "bufferpool.Get"]])) := by
  rw [exec_succ]
  simp [clone_body, nm_jget, nm_get]

theorem clone_matches_source (P : Par) (cfg : List Val) (buf : Bytes) (sp : Bool) (ns : Int) (ocfg : List Val)
    (obuf : Bytes) (osp : Bool) (ons : Int) (oself : Val) (ev : List Val) (fuel : Nat) :
    run (X P) (fuel + 1) "clone" [] (cloneFld cfg buf sp ns ocfg obuf osp ons oself ev) =
      .done [oself] (cloneFld cfg buf sp ns cfg [] sp ns oself
        (ev ++ [.list [TransJsonEnc.nm "jsonPool.Get"], .list [TransJsonEnc.nm "bufferpool.Get"]])) :=
  run_of_exec (X_funs P) funs_clone rfl (clone_exec_matches_source P cfg buf sp ns ocfg obuf osp ons oself ev fuel)

/-- `Clone`: the clone holds a COPY of the receiver's bytes in its own fresh buffer; the receiver is unchanged -/
theorem Clone_matches_source (P : Par) (cfg : List Val) (buf : Bytes) (sp : Bool) (ns : Int) (ocfg : List Val)
    (obuf : Bytes) (osp : Bool) (ons : Int) (oself : Val) (ev : List Val) (fuel : Nat) :
    run (X P) (fuel + 2) "Clone" [] (cloneFld cfg buf sp ns ocfg obuf osp ons oself ev) =
      .done [oself] (cloneFld cfg buf sp ns cfg buf sp ns oself
        (ev ++ [.list [TransJsonEnc.nm "jsonPool.Get"], .list [TransJsonEnc.nm "bufferpool.Get"]])) := by
  refine run_of_exec (X_funs P) funs_Clone rfl ?_
  have hcall : ∀ σ : State, retK σ [.blank] "clone"
      (exec (X P) (fuel + 1) clone_body ⟨[], cloneFld cfg buf sp ns ocfg obuf osp ons oself ev⟩) = _ :=
    fun σ => retK_of_fin1 σ _ _ _ _ _ (clone_exec_matches_source P cfg buf sp ns ocfg obuf osp ons oself ev fuel)
  simp [Clone_body, hcall, State.assign1]

/-- `putJSONEncoder`: the scratch buffer is freed first (iff there is one), every field is reset, `Put` is last -/
theorem putJSONEncoder_matches_source (P : Par) (cfg bufp : List Val) (sp : Bool) (ns : Int) (rbuf renc : List Val)
    (self : Val) (ev : List Val) (fuel : Nat) :
    run (X P) (fuel + 1) "putJSONEncoder" [] (putFld cfg bufp sp ns rbuf renc self ev) =
      .done [] (putFld [] [] false 0 [] [] self
        (ev ++ (if rbuf.isEmpty then [] else [.list [TransJsonEnc.nm "Buffer.Free", .list rbuf]]) ++
          [.list [TransJsonEnc.nm "jsonPool.Put", self]])) := by
  refine run_of_exec (X_funs P) funs_putJSONEncoder rfl ?_
  cases rbuf with
  | nil => simp [putJSONEncoder_body, nm_jput]
  | cons a r =>
    have hpos : ¬ ((r.length : Int) + 1 = 0) := by omega
    simp [putJSONEncoder_body, nm_jput, nm_free, hpos]

/-- `EncodeEntry` (from `C02.EncodeEntry_matches_source`): the returned buffer is the clone's buffer as it was when
    `ret := final.buf` ran; the only pool-relevant calls are the clone at the start and `putJSONEncoder(final)`, which is
    the LAST recorded call — no use of `final` follows it -/
theorem EncodeEntry_put_is_last_use (P : Par) (c : ECfg) (e : EEnt) (fields : Val) (b0 : Bytes) (sp0 : Bool) (ns0 : Int)
    (rb0 re0 : List Val) (obuf : Bytes) (osp : Bool) (ons : Int) (self : Val) (ev : List Val) (fuel : Nat) :
    ∃ (line : Bytes) (fl : Env) (rb : List Val),
      run (X P) (fuel + 1) "EncodeEntry" [e.val, fields] (eeFld c b0 sp0 ns0 rb0 re0 obuf osp ons self ev) =
        .done [.bytes line, .list []] fl ∧
      fl.get "buf" = some (.bytes line) ∧ fl.get "o.buf" = some (.bytes obuf) ∧
      fl.get "ev" = some (.list (ev ++ [.list [TransJsonEnc.nm "jsonEncoder.clone", .bool osp, .int ons],
                                        .list [TransJsonEnc.nm "putJSONEncoder", .list rb, self]])) :=
  ⟨_, _, (afterFields P c osp ons obuf e fields).rbuf,
    C02.EncodeEntry_matches_source P c e fields b0 sp0 ns0 rb0 re0 obuf osp ons self ev fuel, by simp, by simp, by simp⟩

end ZapVerif.C08
