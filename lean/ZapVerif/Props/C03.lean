import ZapVerif.Proofs.FieldSpec
/-! # C03 — Field constructors and zap.Any deliver exactly the value they were given

Every theorem is stated over the definitions regenerated from the source on each run:
`Gen.ctors` / `Gen.pack_*` (field.go, array.go, error.go, exp/zapfield), `Gen.addTo` (`Field.AddTo`), `Gen.anySwitch`
(`zap.Any`), `Gen.equalsArm` (`Field.Equals`).  The specification side (`Ctor.Ok`, `NumOk`, `BoxOk`, `SliceOk`, …) is in
`Proofs/FieldSpec.lean`; Go's conversions are wrap-around arithmetic on `Int`. -/
namespace ZapVerif.C03
open ZapVerif ZapVerif.Field

/-- **Every** function returning `Field` in field.go, array.go, error.go and zapfield meets the obligation of its
signature kind (`Ctor.Ok`): scalars of every width arrive through the method of their own type with the same value
(floats: same bits), strings/bools/opaque values unchanged, times with the same instant and location on both sides of
the ±int64-nanosecond split, `*T` as null or as the pointee, slices as one array of the elements in order.
One goal per row of the regenerated table; a mutated cast leaves its row unprovable. -/
theorem ctors_ok : ∀ c ∈ Gen.ctors, c.Ok := by
  unfold Gen.ctors
  per_row
  any_goals (rw [Ctor.ok_kp_iff]; constructor)
  any_goals simp only [Ctor.Ok, ValOk]
  -- `unfold K` selects the alternative for the kind `K` of the obligation
  all_goals first
  | (unfold NumOk; intro key v h
     refine numOk_row rfl ?_ ?_   -- `rfl`: method and value are read off
     · simp [GoT.accepts]
     · simp [float32bits, float64bits, float32frombits, float64frombits, wrapS_wrapS, wrapS_wrapU, wrapU_wrapS] <;>
         exact GoT.conv_of_inRange h)
  | (unfold BoolOk; intro key v; cases v <;> simp [delivered])
  | (unfold StrOk; intro key v; simp [delivered])
  | (unfold NilOk; intro key; simp [delivered])
  | (unfold BoxOk; simp only [boxSpec'_fields, boxSpec'_variadic, boxSpec'_bytes, boxSpec'_complex128, boxSpec'_complex64,
       boxSpec'_object, boxSpec'_array, boxSpec'_any, boxSpec'_stringer, boxSpec'_error]
     intro key p hp
     refine boxOk_row (by simp [delivered, assertT_of_hasType, hp, assertT_convNamed hp, tyLocation, tyTime, ifaceTypes,
       ne_nil_of_hasType hp, encodeStringer, encodeError]; rfl) rfl ?_ ?_
     · simp
     · simp [boxVal_pay, boxVal_text])
  | (unfold SliceOk; intro key xs
     -- the box `Array` gets is read off by unification
     refine ⟨_, delivered_array_box key (.head _), ?_⟩
     simp [ElemsOk, GoT.acceptsA])
  | (unfold TimeOk; intro key t
     refine delivered_ite (fun _ => ?_) (fun h => ?_)
     · simp [delivered, assertTime]
     · exact delivered_time_nano key t h)
  | (unfold V1Ok; simp only [boxSpec'_object, boxSpec'_error]
     refine ⟨fun p hp => ?_, fun p q hp hq => ?_⟩
     · refine boxOk_row (by simp [delivered, assertT_of_hasType, hp, ne_nil_of_hasType hp, encodeError]; rfl)
         (by simp [ne_nil_of_hasType hp]) ?_ ?_
       · simp
       · simp [boxVal_pay, boxVal_text]
     · simp [ne_nil_of_hasType hp, ne_nil_of_hasType hq])
  | (simp [NamespaceOk, NilOk, delivered]; done)

/-- witnesses (non-vacuity): the table is populated, and concrete boundary values are delivered -/
example : Gen.ctors.length ≥ 79 := by decide +kernel
example : ["Int32", "Uint64", "Float32", "Time", "Durationp", "Errors", "Str", "Strs", "Inline", "NamedError"].all
    (fun n => (Gen.ctors.map (·.name)).contains n) = true := by decide +kernel
example : (Gen.ctors.filter fun c => match c.fn with | .opaque => true | _ => false).map (·.name) = ["Stack", "StackSkip"] := by
  decide +kernel
example : GoT.inRange .int32 (-2147483648) ∧ GoT.inRange .uint64 18446744073709551615 := by
  simp [GoT.inRange]
example : delivered (Gen.pack_Uint64 [107] 18446744073709551615) = .ok [⟨.AddUint64, [107], .int 18446744073709551615⟩] := by
  simp [delivered, wrapS, wrapU]
example : delivered (Gen.pack_Time [116] ⟨9223372036854775808, 3⟩) = .ok [⟨.AddTime, [116], .time ⟨9223372036854775808, 3⟩⟩] := by
  simp [delivered, timeBefore, timeAfter, assertTime]
example : (Gen.pack_Time [116] ⟨9223372036854775807, 3⟩).ty = .time ∧ (Gen.pack_Time [116] ⟨9223372036854775808, 3⟩).ty = .timeFull := by
  simp [timeBefore, timeAfter]
/-- the hypothesis of the opaque-value obligations is satisfiable -/
example : Payload.hasType "zapcore.ObjectMarshaler" (.box { dyn := "main.T", impl := ["zapcore.ObjectMarshaler"] }) := by
  simp [Payload.hasType, Box.isA, ifaceTypes]

/-- every numeric constructor: for all values of the parameter type (widths 8/16/32/64, signed,
unsigned, uintptr, duration, float bit patterns) the encoder method of that type receives exactly `v` under `key` -/
theorem roundtrip_scalar (c : Ctor) (hc : c ∈ Gen.ctors) (t : GoT) (g : Bytes → Int → Fld) (h : c.fn = .kv (.num t) g) :
    ∀ key v, t.inRange v → ∃ m ∈ t.accepts, delivered (g key v) = .ok [⟨m, key, .int v⟩] :=
  ((ctors_ok c hc).kv h)

theorem roundtrip_bool (c : Ctor) (hc : c ∈ Gen.ctors) (g : Bytes → Bool → Fld) (h : c.fn = .kv .bool g) :
    ∀ key v, delivered (g key v) = .ok [⟨.AddBool, key, .bool v⟩] :=
  ((ctors_ok c hc).kv h)

theorem roundtrip_string (c : Ctor) (hc : c ∈ Gen.ctors) (g : Bytes → Bytes → Fld) (h : c.fn = .kv .str g) :
    ∀ key v, delivered (g key v) = .ok [⟨.AddString, key, .str v⟩] :=
  ((ctors_ok c hc).kv h)

/-- `Time`: for **every** instant (inside the int64-nanosecond range, at its two ends, and beyond) the encoder receives
a time with the same instant and the same location -/
theorem time_roundtrip (c : Ctor) (hc : c ∈ Gen.ctors) (g : Bytes → Time → Fld) (h : c.fn = .kv .time g) :
    ∀ key t, delivered (g key t) = .ok [⟨.AddTime, key, .time t⟩] :=
  ((ctors_ok c hc).kv h)

/-- opaque values (byte slices, complex numbers, marshalers, reflected values, `[]Field`) arrive as themselves; Stringers
and errors as their text -/
theorem roundtrip_opaque (c : Ctor) (hc : c ∈ Gen.ctors) (g : Bytes → Payload → Fld) (h : c.fn = .kv .box g) :
    BoxOk c.ptype g :=
  ((ctors_ok c hc).kv h)

/-- a nil pointer is rendered as an explicit null … -/
theorem ptr_nil_is_null (c : Ctor) (hc : c ∈ Gen.ctors) (k : VK) (g : Bytes → Option k.T → Fld) (h : c.fn = .kp k g) :
    ∀ key, delivered (g key none) = .ok [⟨.AddReflected, key, .pay .nil⟩] :=
  ((ctors_ok c hc).kp h).1

/-- … and a non-nil pointer exactly as its pointee would be by the value constructor's obligation -/
theorem ptr_nonnil_is_value (c : Ctor) (hc : c ∈ Gen.ctors) (k : VK) (g : Bytes → Option k.T → Fld) (h : c.fn = .kp k g) :
    ValOk c.etype k (fun key v => g key (some v)) :=
  ((ctors_ok c hc).kp h).2

/-- slice constructors: one `AddArray(key, m)`; `m.MarshalLogArray` emits exactly one call per element, in order, with the
element unchanged (so: same length, same order; nil and empty slices give no calls; nil errors are skipped) -/
theorem array_wrapper_elems (c : Ctor) (hc : c ∈ Gen.ctors) (k : VK) (g : Bytes → List k.T → Fld) (h : c.fn = .ks k g) :
    ∀ key xs, ∃ b, delivered (g key xs) = .ok [⟨.AddArray, key, .pay (.box b)⟩] ∧ ElemsOk c.etype k xs b.elems :=
  ((ctors_ok c hc).ks h)

/-- the marshaler of every slice wrapper type makes one call per element (no element dropped, duplicated or reordered),
except that `errArray` skips nil errors -/
theorem array_wrapper_length : ∀ w ∈ Gen.arrayWrappers, ∀ xs, (w.marshal xs).length ≤ xs.length ∧
    (w.name ≠ "zap.errArray" → (w.marshal xs).length = xs.length) := by
  unfold Gen.arrayWrappers
  per_row
  all_goals (intro xs; simp [List.length_filter_le])

/-- nil values of interface-typed parameters never make `AddTo` panic; a nil error adds nothing at all -/
theorem nil_interface_safe : ∀ c ∈ Gen.ctors, c.NilSafe := by
  unfold Gen.ctors
  per_row
  all_goals (simp [Ctor.NilSafe, ifaceTypes, delivered, encodeStringer, assertT])

/-- `NamedError(key, nil)` / `Error(nil)`: skipped -/
theorem nil_error_skipped (c : Ctor) (hc : c ∈ Gen.ctors) (hp : c.ptype = "error") (g : Bytes → Payload → Fld)
    (h : c.fn = .kv .box g) : ∀ key, delivered (g key .nil) = .ok [] := by
  have := nil_interface_safe c hc
  simp [Ctor.NilSafe, hp, h, ifaceTypes] at this
  exact this

/-- an error returned by the encoder never loses the calls already made and is reported as `<key>Error` -/
theorem error_tail_reported (f : Fld) (e : Bytes) (cs : List Call) (h : Gen.addTo f none = .ok cs) :
    Gen.addTo f (some e) = .ok cs ∨
    Gen.addTo f (some e) = .ok (cs ++ [⟨.AddString, f.key ++ [69, 114, 114, 111, 114], .str e⟩]) := by
  rw [addTo_def] at h ⊢
  rcases arm_err f.ty f.key f.integer f.str f.iface e with h1 | ⟨cs0, h0, h1⟩
  · rw [h1]; exact .inl h
  · rw [h0, bindE_ok] at h
    rw [h1, bindE_ok]
    right
    simpa using h

/-- every case of `Any` hands the value to a constructor whose parameter type is the case type, instantiated at that type;
where several constructors take that type, to the designated one -/
theorem any_agrees : ∀ e ∈ Gen.anySwitch,
    e.1 = e.2.1 ∧ ctorParam e.2.2 = some e.1 ∧ (candidates e.1 = [e.2.2] ∨ (e.1, e.2.2) ∈ anyTieBreak) := by
  decide +kernel

/-- everything else is reflected -/
theorem any_default_reflect : Gen.anyDefault = ("any", "Reflect") ∧ ctorParam "Reflect" = some "any" := by
  decide +kernel

/-- no case can shadow a later one that must win: the marshaler interfaces come before `error`, `error` before
`fmt.Stringer`, and every concrete type that implements `fmt.Stringer` before the `fmt.Stringer` case -/
theorem any_order_ok :
    caseBefore "zapcore.ObjectMarshaler" "error" = true ∧ caseBefore "zapcore.ArrayMarshaler" "error" = true ∧
    caseBefore "error" "fmt.Stringer" = true ∧ ∀ t ∈ stringerImpls, caseBefore t "fmt.Stringer" = true := by
  decide +kernel

/-- every exported value constructor of package zap has its parameter type among the cases of `Any` (so `Any` picks the
typed representation, not reflection), except the listed types that cannot or need not be dispatched on -/
theorem any_complete : ∀ c ∈ Gen.ctors, c.pkg = "zap" → c.exported = true →
    (match c.fn with | .kv .. | .kp .. | .ks .. => true | _ => false) = true →
    c.ptype ∈ Gen.anySwitch.map (·.1) ∨ c.ptype ∈ anyExempt := by
  decide +kernel

/-- no case type is listed twice -/
theorem any_cases_distinct : (Gen.anySwitch.map (·.1)).Nodup := by
  decide +kernel

/-- every field a constructor returns (for well-typed arguments) keeps the discipline under which `Equals` cannot panic:
types compared with `==` carry a comparable payload, types compared with `bytes.Equal` carry a `[]byte`.
With `StringerType` / `InlineMarshalerType` in the `==` arm this is unprovable for `Stringer` / `Inline` (finding F3). -/
theorem built_eqsafe : ∀ c ∈ Gen.ctors, c.EqSafe := by
  unfold Gen.ctors
  per_row
  -- conditions of `if`s stay folded: unfolded, `eqSafe_ite` no longer matches the `Decidable` instance
  all_goals
    simp +contextual [Ctor.EqSafe, Option.forall, eqSafe_mk, eqSafe_ite, Gen.equalsArm, argOK, ifaceTypes, location,
      comparable_of_wf (t := "complex128") (.inl rfl), comparable_of_wf (t := "complex64") (.inr rfl),
      -Gen.g_minTimeInt64, -Gen.g_maxTimeInt64, -Gen.wrap_zap_dictObject]

/-- `Equals` never panics on fields that keep that discipline — in particular on fields built by the constructors -/
theorem equals_total (f g : Fld) (hf : EqSafe f) (hg : EqSafe g) : equals f g ≠ .panic := by
  unfold equals equalsWith
  by_cases ht : f.ty = g.ty
  · by_cases hk : f.key = g.key
    · simp only [ht, hk, ne_eq, not_true_eq_false, if_false]
      rw [← ht]
      cases ha : Gen.equalsArm f.ty with
      | bytesEqual => exact bytesEq_ne_panic _ _ (hf.2 ha) (hg.2 (by rw [← ht]; exact ha))
      | deepEqual => exact ofBool_ne_panic _
      | structEq =>
        have h1 := ifaceEq_ne_panic f.iface g.iface (hf.1 ha)
        cases hr : ifaceEq f.iface g.iface with
        | panic => exact absurd hr h1
        | tt => simp only; split <;> simp
        | ff => simp only; split <;> simp
    · simp [ht, hk]
  · simp [ht]

/-- witnesses: an uncomparable Stringer payload (`net.IP`) keeps the discipline and equals itself (the F3 replay) -/
example : EqSafe (Gen.pack_Stringer [107] (.box { dyn := "net.IP", impl := ["fmt.Stringer"], cmp := false })) := by
  simp [EqSafe, Payload.comparable, Payload.hasType, Gen.equalsArm]
example : equals (Gen.pack_Stringer [107] (.box { dyn := "net.IP", impl := ["fmt.Stringer"], cmp := false }))
    (Gen.pack_Stringer [107] (.box { dyn := "net.IP", impl := ["fmt.Stringer"], cmp := false })) = .tt := by decide
example : Coherent (.box { dyn := "a", cmp := false }) (.box { dyn := "a", cmp := false }) := by simp [Coherent]

/-- `Equals` is symmetric (for payloads of one dynamic type, comparability is a property of the type) -/
theorem equals_symm (f g : Fld) (hc : Coherent f.iface g.iface) : equals f g = equals g f := by
  unfold equals equalsWith
  by_cases ht : f.ty = g.ty
  · by_cases hk : f.key = g.key
    · simp only [ht, hk, ne_eq, not_true_eq_false, if_false]
      rw [bytesEq_comm, deepEq_comm, ifaceEq_comm _ _ hc]
      cases Gen.equalsArm g.ty <;> simp only [eq_comm (a := f.integer), eq_comm (a := f.str)]
    · have hk' : ¬ g.key = f.key := fun h => hk h.symm
      simp [ht, hk, hk']
  · have ht' : ¬ g.ty = f.ty := fun h => ht h.symm
    simp [ht, ht']

/-- full-strength reflexivity: every constructor-built field equals itself -/
def EqualsReflexive : Prop := ∀ f, EqSafe f → equals f f = .tt

/-- what holds: a field whose payload equals itself (no NaN, no non-nil func inside) equals itself — hence two fields
built from equal inputs compare equal (`equals_of_equal_inputs`) -/
theorem equals_refl_partial (f : Fld) (hs : EqSafe f) (hr : f.iface.reflexive) : equals f f = .tt := by
  unfold equals equalsWith
  simp only [ne_eq, not_true_eq_false, if_false]
  cases ha : Gen.equalsArm f.ty with
  | bytesEqual => exact bytesEq_self (hs.2 ha)
  | deepEqual => simp only [deepEq_self hr]; rfl
  | structEq => simp [ifaceEq_self (hs.1 ha) hr]

theorem equals_of_equal_inputs (f g : Fld) (h : f = g) (hs : EqSafe f) (hr : f.iface.reflexive) : equals f g = .tt := by
  subst h; exact equals_refl_partial f hs hr

/-- what is missing (known finding F3b): a NaN inside a `Complex128`/`Reflect` payload makes the field unequal to itself,
because `==` / `reflect.DeepEqual` are irreflexive on NaN — witness `zap.Complex128("c", NaN)` -/
theorem equals_refl_fails : ¬ EqualsReflexive := by
  intro h
  have := h (Gen.pack_Complex128 [99] (.box { dyn := "complex128", refl := false }))
    (by simp [EqSafe, Payload.comparable, Payload.hasType, Box.isA, ifaceTypes, Gen.equalsArm])
  revert this
  decide

end ZapVerif.C03
