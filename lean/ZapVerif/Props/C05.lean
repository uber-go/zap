import ZapVerif.Model.Core
import ZapVerif.Proofs.Core
import ZapVerif.Gen.FrontEnds
import ZapVerif.Proofs.CoreSync
import ZapVerif.Proofs.TransCores
import ZapVerif.Model.TransCEAddX
import ZapVerif.Proofs.TransLogger
import ZapVerif.Proofs.TransCtor
import ZapVerif.Proofs.TransLevel
/-! # C05 — an entry is written exactly where its level is enabled; reported levels agree

All theorems are about the core algebra of `Model/Core.lean` (arbitrary trees, arbitrary — also non-monotone —
enablers, every integer level). The model is tied to /repo by the correspondence run (C05 ops) and, for the
front-end guards, by the regenerated table `Gen.frontEnds`. -/
namespace ZapVerif.C05
open ZapVerif ZapVerif.Cores

/-- framing: a `Check` only appends to the CheckedEntry, and what it appends does not depend on what earlier
    cores (e.g. earlier branches of a tee) put there -/
theorem check_frame (σ : Store) (sn : Snap) (l : Level) (c : Core) (pend : List FldP) (ce : List Item) :
    check σ sn l c pend ce = ce ++ check σ sn l c pend [] :=
  Cores.check_frame σ sn l c pend ce

/-- the delivered leaves are exactly the leaves all of whose path filters (own enabler, every increase-level
    enabler, every sampler decision) are open — in tree order, once per path -/
theorem delivered_eq_open_paths (σ : Store) (sn : Snap) (l : Level) (c : Core) (pend : List FldP) :
    leafIds (check σ sn l c pend []) = ((paths c).filter (open_ σ l)).map (·.1) :=
  leafIds_check σ sn l c pend

/-- an entry reaches leaf `i` iff some path to `i` has every level filter enabling the entry's level
    (samplers: and sampled) -/
theorem leaf_delivery_iff (σ : Store) (sn : Snap) (l : Level) (c : Core) (pend : List FldP) (i : Nat) :
    (∃ io ctx, Item.leaf i io ctx ∈ check σ sn l c pend []) ↔
      ∃ p ∈ paths c, p.1 = i ∧ ∀ f ∈ p.2, f.ok σ l = true := by
  rw [← mem_leafIds, delivered_eq_open_paths]
  simp only [List.mem_map, List.mem_filter, open_, List.all_eq_true]
  constructor
  · rintro ⟨p, ⟨hp, ho⟩, rfl⟩; exact ⟨p, hp, rfl, ho⟩
  · rintro ⟨p, hp, rfl, ho⟩; exact ⟨p, ⟨hp, ho⟩, rfl⟩

/-- a tee delivers to each branch independently of the others -/
theorem tee_independent (σ : Store) (sn : Snap) (l : Level) (c : Core) (cs : List Core) (pend : List FldP) :
    check σ sn l (.tee (c :: cs)) pend [] = check σ sn l c pend [] ++ check σ sn l (.tee cs) pend [] := by
  simp only [check]; exact checkAll_cons σ sn l c cs pend

/-- an increase-level wrapper only ever narrows -/
theorem incr_narrows (σ : Store) (sn : Snap) (l : Level) (c : Core) (en : Enab) (pend : List FldP) (x : Item) :
    x ∈ check σ sn l (.incr c en) pend [] → x ∈ check σ sn l c pend [] := by
  simp only [check]; split <;> simp

/-- a hook is added exactly once, directly after what its wrapped core added, iff that core added anything —
    whatever the CheckedEntry already held -/
theorem hook_fires_iff (σ : Store) (sn : Snap) (l : Level) (c : Core) (h : Nat) (pend : List FldP) (ce : List Item) :
    check σ sn l (.hooked c h) pend ce =
      ce ++ check σ sn l c pend [] ++ (if check σ sn l c pend [] = [] then [] else [.hook h]) := by
  simp only [check]
  rw [Cores.check_frame σ sn l c pend ce]
  cases hc : check σ sn l c pend [] with
  | nil => simp
  | cons a r => simp

/-- F4 witness: with the un-repaired `hooked.Check` rule (`hookedOld`: the hook is added whenever the entry that comes back
    is non-nil), `Tee(A, Hooks(B))` with A accepting and B declining fires B's hook -/
theorem hook_bug :
    let σ : Store := fun _ => 0
    let sn : Snap := fun _ => none
    let ce := check σ sn 0 (.leaf 1 (.fn fun _ => true) false []) [] []
    let d := check σ sn 0 (.leaf 2 (.fn fun _ => false) false []) [] ce
    check σ sn 0 (.leaf 2 (.fn fun _ => false) false []) [] [] = [] ∧ Item.hook 7 ∈ hookedOld d ce 7 := by
  decide

/-- anything delivered ⇒ `Enabled` said yes -/
theorem enabled_sound (σ : Store) (sn : Snap) (l : Level) (c : Core) (pend : List FldP) :
    check σ sn l c pend [] ≠ [] → enabled σ c l = true := by
  intro h
  cases he : enabled σ c l with
  | true => rfl
  | false => exact absurd (check_disabled σ sn l c pend [] he) h

/-- full-strength converse (does NOT hold, see `enabled_complete_fails`): on a tree whose IncreaseLevel wrappers
    passed construction-time validation and whose samplers do not drop, `Enabled(l)` implies a delivery -/
def EnabledComplete : Prop :=
  ∀ (σ : Store) (sn : Snap) (l : Level) (c : Core) (pend : List FldP),
    wellBuilt σ c = true → noDrop l c = true → enabled σ c l = true → check σ sn l c pend [] ≠ []

/-- … it holds for the valid levels (−1 … 5), while the store is the one the wrappers were validated under -/
theorem enabled_complete_partial (σ : Store) (sn : Snap) (l : Level) (hl : l ∈ validLevels) (c : Core) (pend : List FldP) :
    wellBuilt σ c = true → noDrop l c = true → enabled σ c l = true → check σ sn l c pend [] ≠ [] :=
  (enabled_delivers σ sn l hl).1 c pend

/-- F6 witness: IncreaseLevel over a range-limited enabler; level 7 is `Enabled` but reaches nothing -/
theorem enabled_complete_fails : ¬ EnabledComplete := by
  intro h
  have := h (fun _ => 0) (fun _ => none) 7
    (.incr (.leaf 1 (.fn fun l => decide (-1 ≤ l) && decide (l ≤ 5)) false []) (.fn fun l => decide (0 ≤ l))) []
    (by decide) (by decide) (by decide)
  exact this (by decide)

/-- F6b witness: the validation is done once; raising a shared AtomicLevel afterwards leaves a valid level
    `Enabled` on the wrapper with nothing delivered -/
theorem enabled_complete_stale_fails :
    ∃ (σ₀ σ₁ : Store) (c : Core), wellBuilt σ₀ c = true ∧ noDrop 1 c = true ∧ enabled σ₁ c 1 = true ∧
      check σ₁ (fun _ => none) 1 c [] [] = [] :=
  ⟨fun _ => 0, fun _ => 2, .incr (.leaf 1 (.atomic 0) false []) (.fn fun l => decide (1 ≤ l)),
    by decide, by decide, by decide, by decide⟩

/-- a disabled entry below DPanic: no CheckedEntry, no event (no marshaling, no sampler or entry hook, no sink
    operation), no lazy core initialised -/
theorem disabled_no_effects (σ : Store) (μ : Val) (lg : Logger) (l : Level) (fs : List Fld) (w : W)
    (hd : enabled σ lg.core l = false) (hl : l < dpanicL) :
    lg.check σ μ l w = (none, w) ∧ lg.log σ μ l fs w = w := by
  have hg : (decide (l < dpanicL) && !enabled σ lg.core l) = true := by simp [hd, hl]
  constructor
  · simp [Logger.check, hg]
  · rw [log_eq_checked]; simp [hg]

/-- a disabled entry from DPanic upwards: the world changes by the terminal action only -/
theorem disabled_terminal_only (σ : Store) (μ : Val) (lg : Logger) (l : Level) (fs : List Fld) (w : W)
    (hd : enabled σ lg.core l = false) (hl : dpanicL ≤ l) :
    lg.log σ μ l fs w = w.emit (termEvs (lg.terminal l)) := by
  have hg : (decide (l < dpanicL) && !enabled σ lg.core l) = false := by
    have : ¬ l < dpanicL := by unfold dpanicL at *; lomega
    simp [this]
  rw [log_eq_checked]
  simp only [hg, Bool.false_eq_true, if_false, Logger.checked]
  rw [checkEv_disabled σ μ l lg.core w hd, check_disabled σ w.snap l lg.core [] [] hd]
  simp [CE.write]

/-- the reported level denotes the least valid enabled level; `InvalidLevel` when no valid level is enabled -/
theorem levelOf_min (σ : Store) (c : Core) : clampValid (levelOf σ c) = leastValid (enabled σ c) :=
  (levelOf_clamp σ).1 c

/-- … which is the first hit of the scan −1, 0, …, 5: enabled there, nothing valid below it is -/
theorem levelOf_min_spec (σ : Store) (c : Core) :
    (clampValid (levelOf σ c) = invalidL ∧ ∀ x ∈ validLevels, enabled σ c x = false) ∨
    (clampValid (levelOf σ c) ∈ validLevels ∧ enabled σ c (clampValid (levelOf σ c)) = true ∧
      ∀ x ∈ validLevels, x < clampValid (levelOf σ c) → enabled σ c x = false) := by
  rw [levelOf_min]; exact leastValid_spec _

/-- nothing enabled at all ⇒ exactly `InvalidLevel` -/
theorem levelOf_invalid_of_none (σ : Store) (c : Core) (h : ∀ l, enabled σ c l = false) : levelOf σ c = invalidL :=
  (levelOf_none σ).1 c h

/-- F5 witness: the un-repaired `multiCore.Level` reports Fatal for a tee of cores that enable nothing -/
theorem tee_level_old_bug : levelOfAllOld (fun _ => 0) [.nop, .nop] = fatalL ∧ levelOfAll (fun _ => 0) [.nop, .nop] = invalidL := by
  decide

def applySets (σ : Store) : List (Nat × Level) → Store
  | [] => σ
  | (i, t) :: r => applySets (fun j => if j = i then t else σ j) r

/-- a change to a shared AtomicLevel is honoured on the next call by every logger derived (by any chain of With)
    from the core: after any sequence of SetLevel the delivery is the path product under the store as it is now -/
theorem atomic_level_next_call (σ : Store) (sets : List (Nat × Level)) (sn sn' : Snap) (c : Core)
    (fss : List (List FldP)) (l : Level) (pend : List FldP) :
    leafIds (check (applySets σ sets) sn' l (fss.foldl (pushF sn) c) pend []) =
      ((paths c).filter (open_ (applySets σ sets) l)).map (·.1) := by
  rw [delivered_eq_open_paths]
  congr 2
  induction fss generalizing c with
  | nil => rfl
  | cons fs r ih => simp only [List.foldl_cons]; rw [ih, (paths_pushF sn).1]

/-- deriving with `With` never changes what is enabled or reported -/
theorem with_preserves_enabled (σ : Store) (sn : Snap) (l : Level) (c : Core) (fs : List FldP) :
    enabled σ (pushF sn c fs) l = enabled σ c l :=
  enabled_pushF σ sn l c fs

/-- zapgrpc `V(v)` -/
def grpcV (σ : Store) (c : Core) (v : Int) : Bool :=
  enabled σ c ((Gen.grpcLevels.lookup v).getD 0)

/-- `V` agrees with delivery: true whenever an entry at the mapped level is delivered anywhere; and (valid level,
    validated wrappers, no sampler drop) false only if nothing is -/
theorem grpc_V_agrees (σ : Store) (sn : Snap) (c : Core) (v : Int) (pend : List FldP) :
    (check σ sn ((Gen.grpcLevels.lookup v).getD 0) c pend [] ≠ [] → grpcV σ c v = true) ∧
    (wellBuilt σ c = true → noDrop ((Gen.grpcLevels.lookup v).getD 0) c = true → grpcV σ c v = true →
      check σ sn ((Gen.grpcLevels.lookup v).getD 0) c pend [] ≠ []) := by
  have hv : (Gen.grpcLevels.lookup v).getD 0 ∈ validLevels := by
    have : ∀ x ∈ Gen.grpcLevels.map (·.2), x ∈ validLevels := by decide
    cases h : Gen.grpcLevels.lookup v with
    | none => decide
    | some y =>
      apply this
      simp only [Option.getD_some, List.mem_map]
      have := List.lookup_eq_some_iff.mp h   -- ∃ split of the table around the hit
      obtain ⟨l₁, l₂, heq, _⟩ := this
      exact ⟨(v, y), by rw [heq]; simp, rfl⟩
  exact ⟨enabled_sound σ sn _ c pend, (enabled_delivers σ sn _ hv).1 c pend⟩

/-- `Logger.Level()` / `SugaredLogger.Level()` are `LevelOf(core)`: same statement as `levelOf_min` -/
theorem logger_Level_agrees (σ : Store) (lg : Logger) : clampValid (levelOf σ lg.core) = leastValid (enabled σ lg.core) :=
  levelOf_min σ lg.core

/-- every front end of the current source (Logger, SugaredLogger, std-log bridge, gRPC adapter) filters like
    `Logger.check` wherever a delivery is at stake: none drops an enabled entry, none lets a disabled entry below
    DPanic through. (Decided on the regenerated table on every run; what happens to a *disabled* entry from DPanic
    upwards is C06's `guards_pass_at_terminal`.) -/
theorem frontends_sound : Gen.frontEnds.all FrontEnd.sound = true := by decide +kernel

/-- hence, for an enabled entry or one below DPanic, a call through any front end has exactly the effects of `Logger.log` -/
theorem frontend_eq_log (fe : FrontEnd) (hfe : fe ∈ Gen.frontEnds) (σ : Store) (μ : Val) (lg : Logger) (l : Level)
    (ha : fe.takes l = true) (h : l < dpanicL ∨ enabled σ lg.core l = true) (fs : List Fld) (w : W) :
    fe.run σ μ lg l fs w = lg.log σ μ l fs w := by
  have hx : fe.sound = true := List.all_eq_true.mp frontends_sound fe hfe
  rw [log_eq_checked]
  unfold FrontEnd.run FrontEnd.passes
  rw [guards_of_sound fe hx l ha _ h]
  cases decide (l < dpanicL) && !enabled σ lg.core l <;> simp

/-- … and a disabled entry from DPanic upwards reaches no core through any front end: whatever the guards say,
    the only possible event is the terminal action -/
theorem frontend_disabled_no_delivery (fe : FrontEnd) (σ : Store) (μ : Val) (lg : Logger) (l : Level)
    (fs : List Fld) (w : W) (hd : enabled σ lg.core l = false) :
    fe.run σ μ lg l fs w = w ∨
    fe.run σ μ lg l fs w = w.emit (termEvs (lg.terminal l)) := by
  unfold FrontEnd.run
  split
  · right
    simp only [Logger.checked]
    rw [checkEv_disabled σ μ l lg.core w hd, check_disabled σ w.snap l lg.core [] [] hd]
    simp [CE.write]
  · left; rfl

/-- non-vacuity: a three-level tree where the same leaf id is reached only through the open branch -/
example :
    leafIds (check (fun _ => 1) (fun _ => none) 1
      (.tee [.incr (.leaf 1 (.fn fun _ => true) true []) (.fn fun l => decide (2 ≤ l)),
             .hooked (.sampler (.leaf 2 (.atomic 0) false []) 0 true) 9]) [] []) = [2] := by decide

/-- `Logger.Sync` / `Core.Sync` reaches the sink of EVERY io leaf, exactly once each and in tree order, through every wrapper
    (tee to all branches, level filters, hooks, samplers, lazy cores — which it initialises first), whatever the levels,
    sampling decisions or the state of the lazy cells -/
theorem sync_reaches_every_io_leaf (μ : Val) (c : Core) (w : W) :
    syncIds (syncEv μ c w).evs = syncIds w.evs ++ ioLeaves c := (syncEv_syncIds μ).1 c w

example : syncIds (syncEv (fun _ => 0) (.tee [.lazy 0 (.leaf 1 (.atomic 0) true []) [], .nop, .hooked (.leaf 2 (.atomic 0) true []) 7]) {}).evs = [1, 2] := by
  decide

end ZapVerif.C05

/-! ## `Check` / `Enabled` of the cores ARE the source (tables `Gen/TransCores.lean`, `Gen/TransCEAdd.lean`)

The clauses of `Cores.check` and `Cores.enabled` (Model/Core.lean) are the translated Go functions.  A `*CheckedEntry`
is nil (`none`) or its list of cores; `P.en` is the receiver's level enabler, `P.cen c` / `P.chk c` are a sub-core's
`Enabled` / `Check`:
* `AddCore` appends to the cores (a nil entry becomes a fresh one) — the `ce ++ [item]` of every clause;
* `ioCore.Check`: `if en l then ce ++ [self] else ce` (clause `leaf`);
* `multiCore.Check`: the left fold of the sub-cores' `Check` (clause `tee` / `checkAll`); `multiCore.Enabled`: `any`;
* `hooked.Check`: `let d := check c ce; if d.length > ce.length then d ++ [self] else d` (clause `hooked`, the repaired
  rule), for sub-cores that only ever extend the entry;
* `levelFilterCore.Enabled` = the new enabler; `levelFilterCore.Check`: `if en l then check c ce else ce` (clause `incr`). -/
namespace ZapVerif.C05
open ZapVerif ZapVerif.GoMini ZapVerif.TransCores

/-- `(*CheckedEntry).AddCore(ent, core)`: a nil receiver is replaced by a fresh entry for `ent`; the core is appended -/
theorem AddCore_matches_source (isnil dirty : Bool) (eo after cores : List Val) (entry self ent core : Val) (fuel : Nat) :
    run TransCEAdd.X (fuel + 1) "AddCore" [ent, core] (TransCEAdd.ceFld isnil dirty eo after cores entry self) =
      .done [self] (if isnil then TransCEAdd.ceFld false false [] [] [core] ent self
                    else TransCEAdd.ceFld false dirty eo after (cores ++ [core]) entry self) := by
  refine run_of_exec (tbl := Gen.TransCEAdd.funs) rfl Gen.TransCEAdd.funs_AddCore rfl ?_
  cases isnil <;> simp [Gen.TransCEAdd.AddCore_body]

open ZapVerif.Gen.TransCores

theorem ioCore_Check_matches_source (P : Par) (l : Int) (ce : Option (List Val)) (enc out self : Val) (ev : List Val)
    (fuel : Nat) :
    run (X P) (fuel + 1) "ioCore_Check" [entV l, ceV ce] (ioFld enc out self ev) =
      .done [ceV (if P.en l then addCore ce self else ce)] (ioFld enc out self ev) := by
  refine run_of_exec (X_funs P) funs_ioCore_Check rfl ?_
  cases h : P.en l <;> simp [ioCore_Check_body, entV, indexVal, h]

theorem levelFilterCore_Enabled_exec (P : Par) (l : Int) (core level self : Val) (ev : List Val) (rec : Stmt → State → Out) :
    (execS (X P) rec levelFilterCore_Enabled_body ⟨[("p0", .int l)], lfFld core level self ev⟩).fin =
      some ([.bool (P.en l)], lfFld core level self ev) := by
  simp [levelFilterCore_Enabled_body]

/-- `(*levelFilterCore).Enabled(lvl)` is the new enabler alone -/
theorem levelFilterCore_Enabled_matches_source (P : Par) (l : Int) (core level self : Val) (ev : List Val) (fuel : Nat) :
    run (X P) (fuel + 1) "levelFilterCore_Enabled" [.int l] (lfFld core level self ev) =
      .done [.bool (P.en l)] (lfFld core level self ev) :=
  run_of_exec (X_funs P) funs_levelFilterCore_Enabled rfl (levelFilterCore_Enabled_exec P l core level self ev _)

/-- `(*levelFilterCore).Check(ent, ce)`: the wrapped core is consulted only when the new enabler enables the level -/
theorem levelFilterCore_Check_matches_source (P : Par) (l : Int) (ce : Option (List Val)) (core level self : Val)
    (ev : List Val) (fuel : Nat) :
    run (X P) (fuel + 2) "levelFilterCore_Check" [entV l, ceV ce] (lfFld core level self ev) =
      .done [ceV (if P.en l then P.chk core (entV l) ce else ce)] (lfFld core level self ev) := by
  refine run_of_exec (X_funs P) funs_levelFilterCore_Check rfl ?_
  have hen : ∀ σ : State, retK σ [.loc "l0"] "levelFilterCore_Enabled"
      (exec (X P) (fuel + 1) levelFilterCore_Enabled_body ⟨[("p0", .int l)], lfFld core level self ev⟩) = _ :=
    fun σ => retK_of_fin1 σ _ _ _ _ _ (levelFilterCore_Enabled_exec P l core level self ev _)
  cases h : P.en l <;> simp [levelFilterCore_Check_body, entV, indexVal, hen, h]

/-- number of cores of a (possibly nil) entry -/
def lenCE (ce : Option (List Val)) : Nat := (ce.getD []).length

/-- `(*hooked).Check(ent, ce)`: the wrapped core decides; the hooked core adds itself iff the core COUNT grew -/
theorem hooked_Check_matches_source (P : Par) (l : Int) (ce : Option (List Val)) (core : Val) (funcs : List Val)
    (self : Val) (ev : List Val) (fuel : Nat) :
    run (X P) (fuel + 1) "hooked_Check" [entV l, ceV ce] (hkFld core funcs self ev) =
      .done [ceV (match P.chk core (entV l) ce with
                  | none => ce
                  | some ds => if ds.length > lenCE ce then some (ds ++ [self]) else some ds)]
        (hkFld core funcs self ev) := by
  refine run_of_exec (X_funs P) funs_hooked_Check rfl ?_
  have hb : hooked_Check_body =
      .seq hooked_Check_body.hd (.seq hooked_Check_body.tl.hd hooked_Check_body.tl.tl) := rfl
  -- `before := len(ce.cores)`, 0 for a nil entry
  have h1 : execS (X P) (exec (X P) fuel) hooked_Check_body.hd ⟨[("p0", entV l), ("p1", ceV ce)], hkFld core funcs self ev⟩ =
      .normal ⟨[("p0", entV l), ("p1", ceV ce), ("l0", .int 0)], hkFld core funcs self ev⟩ := by
    simp [hooked_Check_body, Stmt.hd]
  have h2 : execS (X P) (exec (X P) fuel) hooked_Check_body.tl.hd
      ⟨[("p0", entV l), ("p1", ceV ce), ("l0", .int 0)], hkFld core funcs self ev⟩ =
      .normal ⟨[("p0", entV l), ("p1", ceV ce), ("l0", .int (lenCE ce))], hkFld core funcs self ev⟩ := by
    cases ce <;> simp [hooked_Check_body, Stmt.hd, Stmt.tl, lenCE]
  simp only [hooked_Check_body_eq, hooked_Check_params_eq, hooked_Check_named_eq, List.zip_cons_cons, List.zip_nil_left,
    List.append_nil]
  rw [hb, execS_seq, h1, Out.andThen_normal, execS_seq, h2, Out.andThen_normal]
  cases hd : P.chk core (entV l) ce with
  | none => simp [hooked_Check_body, Stmt.tl, hd]
  | some ds =>
    simp [hooked_Check_body, Stmt.tl, hd, addCore, Out.andThen_ite, Out.fin_ite]
    split <;> rfl

/-- … which is the `hooked` clause of `Cores.check` on the core lists (nil ≙ []), for a wrapped core that only
    ever extends the entry it is given (every clause of `Cores.check` does: `Cores.check_frame`) -/
theorem hooked_Check_is_model_clause (d ce : Option (List Val)) (self : Val)
    (hext : d = none → ce.getD [] = []) :
    ((match d with
      | none => ce
      | some ds => if ds.length > lenCE ce then some (ds ++ [self]) else some ds).getD []) =
      (if (d.getD []).length > (ce.getD []).length then d.getD [] ++ [self] else d.getD []) := by
  cases d with
  | none => simp [hext rfl]
  | some ds =>
    by_cases h : ds.length > lenCE ce
    · have h' : (ce.getD []).length < ds.length := h
      simp [h, h']
    · have h' : ¬ (ce.getD []).length < ds.length := h
      simp [h, h']

/-- `multiCore.Check(ent, ce)` ≡ the `tee` clause (`checkAll`): every sub-core is consulted, in order, each on the
    entry the previous ones returned -/
theorem multiCore_Check_matches_source (P : Par) (mc : List Val) (l : Int) (ce : Option (List Val)) (ev : List Val)
    (fuel : Nat) :
    run (X P) (fuel + 1) "multiCore_Check" [entV l, ceV ce] (mcFld mc ev) =
      .done [ceV (mc.foldl (fun acc c => P.chk c (entV l) acc) ce)] (mcFld mc ev) := by
  refine run_of_exec (X_funs P) funs_multiCore_Check rfl ?_
  -- the loop keeps the entry so far in `p1`; the index lives in `rest`
  have hstep : ∀ (acc : Option (List Val)) (rest : Env) (i : Nat) (y : Val), mc[i]? = some y →
      ∃ rest', execS (X P) (exec (X P) fuel) multiCore_Check_loop0.rbody
          (((⟨("p0", entV l) :: ("p1", ceV acc) :: rest, mcFld mc ev⟩ : State).assign1 (.loc "l0") (.int i)).assign1 .blank (id y)) =
        .normal ⟨("p0", entV l) :: ("p1", ceV (P.chk y (entV l) acc)) :: rest', mcFld mc ev⟩ := by
    intro acc rest i y hy
    have hidx := indexVal_list_map id mc i y hy
    simp only [List.map_id, id] at hidx
    exact ⟨Env.set "l0" (.int i) rest, by simp [multiCore_Check_loop0, Stmt.rbody, hidx]⟩
  obtain ⟨rest', h⟩ := rangeRun_foldIdx _ (.loc "l0") .blank id
    (fun (acc : Option (List Val)) rest => (⟨("p0", entV l) :: ("p1", ceV acc) :: rest, mcFld mc ev⟩ : State))
    (fun acc _ y => P.chk y (entV l) acc) mc hstep mc 0 ce [] (by simp)
  rw [List.map_id, zipIdx_foldl_fst (fun acc c => P.chk c (entV l) acc)] at h
  rw [multiCore_Check_body_eq, show multiCore_Check_body =
    .seq (.range (.loc "l0") .blank (.fld "mc") multiCore_Check_loop0.rbody) multiCore_Check_body.tl from rfl]
  simp [h, multiCore_Check_body, Stmt.tl]

/-- `multiCore.Enabled(lvl)` ≡ `enabledAny`: some sub-core enables the level -/
theorem multiCore_Enabled_matches_source (P : Par) (mc : List Val) (l : Int) (ev : List Val) (fuel : Nat) :
    run (X P) (fuel + 1) "multiCore_Enabled" [.int l] (mcFld mc ev) =
      .done [.bool (mc.any fun c => P.cen c l)] (mcFld mc ev) := by
  refine run_of_exec (X_funs P) funs_multiCore_Enabled rfl ?_
  have hstep : ∀ (rest : Env) (i : Nat) (y : Val), mc[i]? = some y →
      ∃ rest', execS (X P) (exec (X P) fuel) multiCore_Enabled_loop0.rbody
          (((⟨("p0", .int l) :: rest, mcFld mc ev⟩ : State).assign1 (.loc "l0") (.int i)).assign1 .blank (id y)) =
        if P.cen y l then .ret [.bool true] ⟨("p0", .int l) :: rest', mcFld mc ev⟩
        else .normal ⟨("p0", .int l) :: rest', mcFld mc ev⟩ := by
    intro rest i y hy
    have hidx := indexVal_list_map id mc i y hy
    simp only [List.map_id, id] at hidx
    exact ⟨Env.set "l0" (.int i) rest, by simp [multiCore_Enabled_loop0, Stmt.rbody, hidx]⟩
  obtain ⟨rest', h⟩ := rangeRun_any _ (.loc "l0") .blank id
    (fun rest => (⟨("p0", .int l) :: rest, mcFld mc ev⟩ : State)) (fun c => P.cen c l) [.bool true] mc hstep mc 0 []
    (by simp)
  rw [List.map_id] at h
  rw [multiCore_Enabled_body_eq, show multiCore_Enabled_body =
    .seq (.range (.loc "l0") .blank (.fld "mc") multiCore_Enabled_loop0.rbody) multiCore_Enabled_body.tl from rfl]
  cases ha : mc.any (fun c => P.cen c l) <;> simp [h, ha, multiCore_Enabled_body, Stmt.tl]

end ZapVerif.C05

/-! ## the level guards of `Logger.check` and `SugaredLogger.log/logln` ARE the source (table `Gen/TransLogger.lean`)

Below DPanic a level the core disables has no effect at all: `Logger.check` returns nil without consulting the clock or
the core's `Check` (the source-level content of `disabled_no_effects`); `SugaredLogger.log` / `logln` return before
formatting.  At DPanic and above the guard never fires (Panic/Fatal must terminate even when disabled). -/
namespace ZapVerif.C05
open ZapVerif ZapVerif.GoMini ZapVerif.TransLogger ZapVerif.Gen.TransLogger

theorem Logger_check_guard_matches_source (P : TransLogger.Par) (l : Int) (hl : l < 3) (hc : P.cen core l = false)
    (msg name : Bytes) (clock : Val) (dev : Bool) (onPanic onFatal : List Val) (ev : List Val) (fuel : Nat) :
    run (TransLogger.X P) (fuel + 2) "Logger_check" [.int l, .bytes msg] (logFld core name clock dev onPanic onFatal ev) =
      .done [.list []] (logFld core name clock dev onPanic onFatal ev) :=
  run_of_exec (X_funs P) funs_Logger_check rfl (Logger_check_guard_exec P l _ core name clock dev onPanic onFatal ev _ hl hc)

/-- what the guard of `SugaredLogger.log` / `logln` lets through: everything at DPanic and above, and below that the
    levels the base core enables; `Sugar.formatCheckWrite` stands for the rest of the function -/
def sugarSpec (P : TransLogger.Par) (l : Int) : List Val :=
  if l < 3 ∧ P.cen (.list []) l = false then [] else [Val.list [TransLogger.nm "Sugar.formatCheckWrite", .int l]]

/-- `log` and `logln` are the same translated term; of the parameters only the level is read -/
theorem Sugar_guard_exec (P : TransLogger.Par) (l : Int) (params : Env) (ev : List Val) (rec : Stmt → State → Out) :
    (execS (TransLogger.X P) rec Sugar_log_body ⟨("p0", .int l) :: params, [("ev", .list ev)]⟩).fin =
      some ([], [("ev", .list (ev ++ sugarSpec P l))]) := by
  by_cases hg : l < 3 ∧ P.cen (.list []) l = false
  · simp [Sugar_log_body, sugarSpec, hg]
  · have hg' : (decide (l < 3) && !P.cen (.list []) l) = false := by
      cases hc : P.cen (.list []) l <;> simp_all
    simp [-andK_bool, andK_ok_bool, Sugar_log_body, sugarSpec, hg, hg', nm_fcw]

theorem Sugar_log_guard_matches_source (P : TransLogger.Par) (l : Int) (tmpl args ctx : Val) (ev : List Val) (fuel : Nat) :
    run (TransLogger.X P) (fuel + 1) "Sugar_log" [.int l, tmpl, args, ctx] [("ev", .list ev)] =
      .done [] [("ev", .list (ev ++ sugarSpec P l))] :=
  run_of_exec (X_funs P) funs_Sugar_log rfl (Sugar_guard_exec P l _ ev _)

theorem Sugar_logln_guard_matches_source (P : TransLogger.Par) (l : Int) (args ctx : Val) (ev : List Val) (fuel : Nat) :
    run (TransLogger.X P) (fuel + 1) "Sugar_logln" [.int l, args, ctx] [("ev", .list ev)] =
      .done [] [("ev", .list (ev ++ sugarSpec P l))] :=
  run_of_exec (X_funs P) funs_Sugar_logln rfl (Sugar_guard_exec P l _ ev _)

end ZapVerif.C05

/-! # the constructors of the core tree and `LevelOf` ARE the source (tables `Gen.TransCtor`, `Gen.TransLevel`)

zapcore/increase_level.go `NewIncreaseLevelCore`, `levelFilterCore.Level`; zapcore/tee.go `NewTee`, `multiCore.Level`;
zapcore/level.go `LevelOf`, translated mechanically, are interpreted with `Enabled` of a core / an enabler, the
`leveledEnabler` assertion and `Level()` as parameters.  They are the model functions the C05 theorems are stated over:
`incrBad_is_incrValid` (`Cores.incrValid` / `mkIncr`), `NewTee_is_mkTee` (`Cores.mkTee`), `multiCore_Level_is_levelOfAll`
(`Cores.levelOfAll`, the repaired one that starts from `InvalidLevel`), `levelOfSpec_is_leastValid` (`Cores.leastValid`). -/
namespace ZapVerif.C05
open ZapVerif ZapVerif.GoMini ZapVerif.TransCtor ZapVerif.Gen.TransCtor

/-- the levels `NewIncreaseLevelCore` scans, in its order (Fatal first) -/
def scanLevels : List Int := [5, 4, 3, 2, 1, 0, -1]

/-- the first scanned level the new enabler allows but the core does not -/
def incrBad (P : Par) (core level : Val) : Option Int := scanLevels.find? fun l => !P.cen core l && P.en level l

def incrErr (l : Int) : Val :=
  errV "fmt.Errorf" [.bytes [105, 110, 118, 97, 108, 105, 100, 32, 105, 110, 99, 114, 101, 97, 115, 101, 32, 108, 101, 118, 101, 108, 44, 32, 97, 115, 32, 108, 101, 118, 101, 108, 32, 37, 113, 32, 105, 115, 32, 97, 108, 108, 111, 119, 101, 100, 32, 98, 121, 32, 105, 110, 99, 114, 101, 97, 115, 101, 100, 32, 108, 101, 118, 101, 108, 44, 32, 98, 117, 116, 32, 110, 111, 116, 32, 98, 121, 32, 101, 120, 105, 115, 116, 105, 110, 103, 32, 99, 111, 114, 101], .int l]

/-- the state of `NewIncreaseLevelCore` at the head of its scan, the counter at `l` -/
abbrev incrSt (core level : Val) (fl : Env) (l : Int) : State := ⟨[("p0", core), ("p1", level), ("l0", .int l)], fl⟩

/-- one round of the validation scan (`!Enabled && Enabled` evaluated as one boolean) -/
theorem NewIncreaseLevelCore_iter_matches_source (P : Par) (core level : Val) (l : Int) (h1 : -1 ≤ l) (h2 : l ≤ 5) (fl : Env) (fuel : Nat) :
    execS (X P) (exec (X P) (fuel + 1)) NewIncreaseLevelCore_loop0 (incrSt core level fl l) =
      if (!P.cen core l && P.en level l) then .ret [.list [], incrErr l] (incrSt core level fl l)
      else execS (X P) (exec (X P) fuel) NewIncreaseLevelCore_loop0 (incrSt core level fl (l - 1)) := by
  have hw : wrap .i8 (l - 1) = l - 1 := by simp only [wrap]; omega
  unfold NewIncreaseLevelCore_loop0
  rw [execS_loop]
  simp [-andK_bool, andK_ok_bool, Out.loopBody_ite, h1, hw, exec_succ, incrErr]

theorem NewIncreaseLevelCore_end_matches_source (P : Par) (core level : Val) (fl : Env) (fuel : Nat) :
    execS (X P) (exec (X P) fuel) NewIncreaseLevelCore_loop0 (incrSt core level fl (-2)) =
      .normal (incrSt core level fl (-2)) := by
  unfold NewIncreaseLevelCore_loop0
  rw [execS_loop]
  simp

theorem NewIncreaseLevelCore_loop_matches_source (P : Par) (core level : Val) (fl : Env) (fuel : Nat) :
    execS (X P) (exec (X P) (fuel + 7)) NewIncreaseLevelCore_loop0 (incrSt core level fl 5) =
      match incrBad P core level with
      | some l => .ret [.list [], incrErr l] (incrSt core level fl l)
      | none => .normal (incrSt core level fl (-2)) := by
  rw [Cores.scan_find (fun g l => execS (X P) (exec (X P) g) NewIncreaseLevelCore_loop0 (incrSt core level fl l)) 5 (-1)
    (fun l => !P.cen core l && P.en level l) (fun l => .ret [.list [], incrErr l] (incrSt core level fl l)) scanLevels 7
    (by decide) (fun g l hl => by
      have : -1 ≤ l ∧ l ≤ 5 := by simp only [scanLevels, List.mem_cons, List.not_mem_nil, or_false] at hl; omega
      exact NewIncreaseLevelCore_iter_matches_source P core level l this.1 this.2 fl g) fuel,
    show (5 : Int) + -1 * ((7 : Nat) : Int) = -2 from rfl, NewIncreaseLevelCore_end_matches_source, incrBad]
  cases scanLevels.find? _ <;> rfl

/-- `NewIncreaseLevelCore`: every level from Fatal down to Debug is asked of BOTH; the first one the new enabler allows
    and the core does not is refused with an error naming it and NO core; otherwise the filter over exactly
    (core, level) -/
theorem NewIncreaseLevelCore_matches_source (P : Par) (core level : Val) (fl : Env) (fuel : Nat) :
    run (X P) (fuel + 8) "NewIncreaseLevelCore" [core, level] fl =
      .done (match incrBad P core level with
        | some l => [.list [], incrErr l]
        | none => [.list [.list [core, level]], .list []]) fl := by
  refine run_of_exec (X_funs P) funs_NewIncreaseLevelCore rfl ?_
  simp [NewIncreaseLevelCore_body, NewIncreaseLevelCore_loop_matches_source]
  cases incrBad P core level <;> simp

/-- accepted exactly when every level the new enabler allows is allowed by the core — `Cores.incrValid`, the function of
    `mkIncr` the C05 theorems are stated over -/
theorem incrBad_is_incrValid (P : Par) (core level : Val) :
    (incrBad P core level).isNone = Cores.validLevels.all fun l => !(P.en level l) || P.cen core l := by
  -- `scanLevels` is `validLevels` backwards, and "no level is bad" does not depend on the order
  have hrev : scanLevels = Cores.validLevels.reverse := by decide
  rw [Bool.eq_iff_iff]
  simp only [Option.isNone_iff_eq_none, incrBad, List.find?_eq_none, List.all_eq_true, hrev, List.mem_reverse]
  refine forall_congr' fun l => forall_congr' fun _ => ?_
  cases P.cen core l <;> cases P.en level l <;> decide

/-- `NewTee`: no core — the no-op core; ONE core — that core itself, unchanged; otherwise the tee of exactly the
    given cores in order (`Cores.mkTee`) -/
theorem NewTee_matches_source (P : Par) (cores : List Val) (fl : Env) (fuel : Nat) :
    run (X P) (fuel + 1) "NewTee" [.list cores] fl =
      .done [match cores with | [] => P.nop | [c] => c | cs => .list [.list cs]] fl := by
  refine run_of_exec (X_funs P) funs_NewTee rfl ?_
  cases cores with
  | nil => simp [NewTee_body]
  | cons c r =>
    cases r with
    | nil => simp [NewTee_body]
    | cons d r' =>
      have h0 : ¬ ((r'.length : Int) + 1 + 1 = 0) := by omega
      have h1 : ¬ ((r'.length : Int) + 1 + 1 = 1) := by omega
      simp [NewTee_body, h0, h1]

/-- the translated `NewTee` on encoded cores is `Cores.mkTee` -/
theorem NewTee_is_mkTee (P : Par) (enc : Cores.Core → GoMini.Val) (hnop : enc .nop = P.nop)
    (htee : ∀ cs, enc (.tee cs) = .list [.list (cs.map enc)]) (cs : List Cores.Core) :
    (match cs.map enc with | [] => P.nop | [c] => c | vs => GoMini.Val.list [.list vs]) = enc (Cores.mkTee cs) := by
  cases cs with
  | nil => simp [Cores.mkTee, hnop]
  | cons c r =>
    cases r with
    | nil => simp [Cores.mkTee]
    | cons d r' => simp [Cores.mkTee, htee]

/-- `levelFilterCore.Level`: `LevelOf` of the FILTER's enabler (not of the wrapped core) -/
theorem levelFilterCore_Level_matches_source (P : Par) (core level : Val) (fl0 : Env) (fuel : Nat) :
    run (X P) (fuel + 1) "levelFilterCore_Level" [] (("core", core) :: ("level", level) :: fl0) =
      .done [.int (P.levelOf level)] (("core", core) :: ("level", level) :: fl0) := by
  refine run_of_exec (X_funs P) funs_levelFilterCore_Level rfl ?_
  simp [levelFilterCore_Level_body]

/-- `multiCore.Level`: the least `LevelOf` over the branches, starting from `InvalidLevel` (= 6): a tee that enables
    nothing reports `InvalidLevel` (`Cores.levelOfAll`, the repaired one) -/
theorem multiCore_Level_matches_source (P : Par) (mc : List Val) (fl0 : Env) (fuel : Nat) :
    run (X P) (fuel + 1) "multiCore_Level" [] (("mc", .list mc) :: fl0) =
      .done [.int (mc.foldl (fun m c => min m (P.levelOf c)) 6)] (("mc", .list mc) :: fl0) := by
  refine run_of_exec (X_funs P) funs_multiCore_Level rfl ?_
  -- the loop keeps the minimum so far in `l0`; `i` and `lvl` live in `rest`
  have hstep : ∀ (m : Int) (rest : Env) (i : Nat) (y : Val), mc[i]? = some y →
      ∃ rest', execS (X P) (exec (X P) fuel) multiCore_Level_loop0.rbody
          (((⟨("l0", .int m) :: rest, ("mc", .list mc) :: fl0⟩ : State).assign1 (.loc "l1") (.int i)).assign1 .blank (id y)) =
        .normal ⟨("l0", .int (min m (P.levelOf y))) :: rest', ("mc", .list mc) :: fl0⟩ := by
    intro m rest i y hy
    have hidx := indexVal_list_map id mc i y hy
    simp only [List.map_id, id] at hidx
    refine ⟨Env.set "l2" (.int (P.levelOf y)) (Env.set "l1" (.int i) rest), ?_⟩
    by_cases hlt : P.levelOf y < m
    · simp [multiCore_Level_loop0, Stmt.rbody, hidx, hlt, show min m (P.levelOf y) = P.levelOf y by omega]
    · simp [multiCore_Level_loop0, Stmt.rbody, hidx, hlt, show min m (P.levelOf y) = m by omega]
  obtain ⟨rest', h⟩ := rangeRun_foldIdx _ (.loc "l1") .blank id
    (fun (m : Int) rest => (⟨("l0", .int m) :: rest, ("mc", .list mc) :: fl0⟩ : State))
    (fun m _ y => min m (P.levelOf y)) mc hstep mc 0 6 [] (by simp)
  rw [List.map_id, zipIdx_foldl_fst (fun m c => min m (P.levelOf c))] at h
  rw [multiCore_Level_body_eq, show multiCore_Level_body = .seq multiCore_Level_body.hd
    (.seq (.range (.loc "l1") .blank (.fld "mc") multiCore_Level_loop0.rbody) multiCore_Level_body.tl.tl) from rfl]
  simp [h, multiCore_Level_body, Stmt.hd, Stmt.tl]

/-- … which is `Cores.levelOfAll` (min over the branches, `InvalidLevel` for none) when `LevelOf` of an encoded branch is
    the model's `levelOf` -/
theorem multiCore_Level_is_levelOfAll (σ : Cores.Store) (cs : List Cores.Core) :
    cs.foldl (fun m c => min m (Cores.levelOf σ c)) 6 = Cores.levelOfAll σ cs :=
  (Cores.foldl_min_levelOfAll σ cs 6 (Int.le_refl _)).trans (Int.min_eq_right (Cores.levelOfAll_le σ cs))

end ZapVerif.C05

namespace ZapVerif.C05
open ZapVerif ZapVerif.GoMini ZapVerif.TransLevel ZapVerif.Gen.TransLevel

/-- `LevelOf`: an enabler that knows its level is asked; otherwise the first of Debug … Fatal it enables, else
    `InvalidLevel` (= 6) -/
def levelOfSpec (P : Par) (e : Val) : Int :=
  match P.asLeveled e with
  | some lv => P.leveledLevel lv
  | none =>
    if P.enabled e (-1) then -1 else if P.enabled e 0 then 0 else if P.enabled e 1 then 1 else if P.enabled e 2 then 2
    else if P.enabled e 3 then 3 else if P.enabled e 4 then 4 else if P.enabled e 5 then 5 else 6

/-- the state of `LevelOf` at the head of its scan (the assertion failed: `ok = false`), the counter at `l` -/
abbrev lvlSt (e v0 : Val) (fl : Env) (l : Int) : State :=
  ⟨[("p0", e), ("l0", v0), ("l1", .bool false), ("l2", .int l)], fl⟩

theorem LevelOf_iter_matches_source (P : Par) (e v0 : Val) (l : Int) (h1 : -1 ≤ l) (h2 : l ≤ 5) (fl : Env) (fuel : Nat) :
    execS (X P) (exec (X P) (fuel + 1)) LevelOf_loop0 (lvlSt e v0 fl l) =
      if P.enabled e l then .ret [.int l] (lvlSt e v0 fl l)
      else execS (X P) (exec (X P) fuel) LevelOf_loop0 (lvlSt e v0 fl (l + 1)) := by
  have hw : wrap .i8 (l + 1) = l + 1 := by simp only [wrap]; omega
  unfold LevelOf_loop0
  rw [execS_loop]
  cases he : P.enabled e l
  · simp [h2, he, hw, exec_succ]
  · simp [h2, he]

theorem LevelOf_end_matches_source (P : Par) (e v0 : Val) (fl : Env) (fuel : Nat) :
    execS (X P) (exec (X P) fuel) LevelOf_loop0 (lvlSt e v0 fl 6) =
      .normal (lvlSt e v0 fl 6) := by
  unfold LevelOf_loop0
  rw [execS_loop]
  simp

theorem LevelOf_loop_matches_source (P : Par) (e v0 : Val) (fl : Env) (fuel : Nat) :
    execS (X P) (exec (X P) (fuel + 7)) LevelOf_loop0 (lvlSt e v0 fl (-1)) =
      match Cores.validLevels.find? (P.enabled e) with
      | some l => .ret [.int l] (lvlSt e v0 fl l)
      | none => .normal (lvlSt e v0 fl 6) := by
  rw [Cores.scan_find (fun g l => execS (X P) (exec (X P) g) LevelOf_loop0 (lvlSt e v0 fl l)) (-1) 1 (P.enabled e)
    (fun l => .ret [.int l] (lvlSt e v0 fl l)) Cores.validLevels 7 (by decide) (fun g l hl => by
      have := (Cores.mem_validLevels l).1 hl
      exact LevelOf_iter_matches_source P e v0 l this.1 this.2 fl g) fuel,
    show (-1 : Int) + 1 * ((7 : Nat) : Int) = 6 from rfl, LevelOf_end_matches_source]
  cases Cores.validLevels.find? _ <;> rfl

/-- the scan of the translated `LevelOf` (no `Level()` method) is `Cores.leastValid`: the first of Debug … Fatal that is
    enabled, else `InvalidLevel` -/
theorem levelOfSpec_is_leastValid (P : Par) (e : Val) (h : P.asLeveled e = none) :
    levelOfSpec P e = Cores.leastValid (P.enabled e) := by
  simp only [levelOfSpec, h]
  -- the `if`-chain of `levelOfSpec` is the `foldr` along `validLevels`
  refine (Cores.foldr_ite_find (P.enabled e) id 6 Cores.validLevels).trans ?_
  unfold Cores.leastValid
  cases Cores.validLevels.find? _ <;> rfl

theorem LevelOf_matches_source (P : Par) (e : Val) (fl : Env) (fuel : Nat) :
    run (X P) (fuel + 8) "LevelOf" [e] fl = .done [.int (levelOfSpec P e)] fl := by
  refine run_of_exec (X_funs P) funs_LevelOf rfl ?_
  cases ha : P.asLeveled e with
  | some lv => simp [LevelOf_body, levelOfSpec, ha]
  | none =>
    rw [levelOfSpec_is_leastValid P e ha, Cores.leastValid]
    simp [LevelOf_body, ha, LevelOf_loop_matches_source]
    cases Cores.validLevels.find? (P.enabled e) <;> simp [Cores.invalidL]

end ZapVerif.C05
