import ZapVerif.Model.Core
import ZapVerif.Proofs.Core
import ZapVerif.Proofs.CoreTrace
import ZapVerif.Gen.FrontEnds
import ZapVerif.Model.Deliver
import ZapVerif.Props.C10
import ZapVerif.Model.TransCEAddX
import ZapVerif.Proofs.TransLogger
import ZapVerif.Proofs.TransGrpc
/-! # C06 — Panic and Fatal always terminate, after the entry is written and flushed

The front ends, their levels and every guard between an exported method and `Logger.check` are the regenerated
table `Gen.frontEnds`; the terminal switch of `Logger.check`, `terminalHookOverride` and the sync threshold of
`ioCore.Write` are regenerated too. The theorems quantify over every logger configuration of the model: any core
tree, any enablers/thresholds, development on/off, any `onPanic`/`onFatal` setting. Process exit itself is not
proved (it is observed from outside by the thorough tier). -/
namespace ZapVerif.C06
open ZapVerif ZapVerif.Cores

/-- the guards on every front end's chain say exactly "skip iff below DPanic and disabled" (decided on the
    regenerated table: a new or changed guard anywhere on a chain breaks this proof) -/
theorem frontends_exact : Gen.frontEnds.all FrontEnd.exact = true := by decide +kernel

/-- from DPanic upwards every guard on the chain is true, whatever the core enables -/
theorem guards_pass_at_terminal (fe : FrontEnd) (hfe : fe ∈ Gen.frontEnds) (l : Level) (ha : fe.takes l = true)
    (hl : dpanicL ≤ l) (σ : Store) (c : Core) : fe.passes σ c l = true := by
  have hx : fe.exact = true := List.all_eq_true.mp frontends_exact fe hfe
  unfold FrontEnd.passes
  rw [guards_of_exact fe hx l ha]
  have : decide (l < dpanicL) = false := by
    have : ¬ l < dpanicL := by unfold dpanicL at *; lomega
    simp [this]
  simp [this]

theorem run_eq_checked (fe : FrontEnd) (hfe : fe ∈ Gen.frontEnds) (l : Level) (ha : fe.takes l = true)
    (hl : dpanicL ≤ l) (σ : Store) (μ : Val) (lg : Logger) (fs : List Fld) (w : W) :
    fe.run σ μ lg l fs w = lg.checked σ μ l fs w := by
  unfold FrontEnd.run
  rw [guards_pass_at_terminal fe hfe l ha hl σ lg.core]; simp

/-- every accepting core's write (for io cores: write, then sync) precedes the terminal action: the trace of a call
    at a terminal level is — what was there, check-time events (sampler decisions, lazy initialisation), one block per
    entry of the CheckedEntry in order, and the terminal action last -/
theorem write_before_terminal (fe : FrontEnd) (hfe : fe ∈ Gen.frontEnds) (l : Level) (ha : fe.takes l = true)
    (hl : dpanicL ≤ l) (σ : Store) (μ : Val) (lg : Logger) (fs : List Fld) (w : W) (a : Action)
    (ht : lg.terminal l = some a) :
    (fe.run σ μ lg l fs w).evs =
      (checkEv σ μ l lg.core w).evs ++
      (check σ (checkEv σ μ l lg.core w).snap l lg.core [] []).flatMap (writeItem μ l fs) ++ [.term a] := by
  rw [run_eq_checked fe hfe l ha hl, checked_trace, ht]; rfl

/-- Panic: through every front end, for every configuration (any core incl. nop / dropping sampler / tee, any
    threshold, dev on or off, any hook setting) the trace ends in the panic action; nil and no-op hooks are
    replaced by the default -/
theorem panic_always (fe : FrontEnd) (hfe : fe ∈ Gen.frontEnds) (ha : fe.takes panicL = true)
    (σ : Store) (μ : Val) (lg : Logger) (fs : List Fld) (w : W) :
    ∃ pre, (fe.run σ μ lg panicL fs w).evs = pre ++ [.term (override .panic lg.onPanic)] :=
  ⟨_, write_before_terminal fe hfe panicL ha (by decide) σ μ lg fs w _ (by simp [Logger.terminal, panicL])⟩

/-- Fatal: likewise, with the fatal action -/
theorem fatal_always (fe : FrontEnd) (hfe : fe ∈ Gen.frontEnds) (ha : fe.takes fatalL = true)
    (σ : Store) (μ : Val) (lg : Logger) (fs : List Fld) (w : W) :
    ∃ pre, (fe.run σ μ lg fatalL fs w).evs = pre ++ [.term (override .fatal lg.onFatal)] :=
  ⟨_, write_before_terminal fe hfe fatalL ha (by decide) σ μ lg fs w _ (by simp [Logger.terminal, panicL, fatalL])⟩

/-- the default actions are what a nil or no-op hook gets -/
theorem default_substituted :
    override .panic .unset = .panic ∧ override .panic .noop = .panic ∧
    override .fatal .unset = .fatal ∧ override .fatal .noop = .fatal ∧
    (∀ d a, override d (.act a) = a) ∧ (∀ d k, override d (.custom k) = .custom k) := by
  simp [override]

theorem new_events_noterm (σ : Store) (μ : Val) (lg : Logger) (l : Level) (fs : List Fld) (w : W)
    (ht : lg.terminal l = none) :
    ∃ new, (lg.checked σ μ l fs w).evs = w.evs ++ new ∧ ∀ e ∈ new, e.isTerm = false := by
  obtain ⟨n1, h1, p1⟩ := (checkEv_ext σ μ l).1 lg.core w
  refine ⟨n1 ++ (check σ (checkEv σ μ l lg.core w).snap l lg.core [] []).flatMap (writeItem μ l fs), ?_, ?_⟩
  · rw [checked_trace, ht, h1]; simp [termEvs]
  · intro e he
    rcases List.mem_append.mp he with h | h
    · exact checkTime_noterm e (p1 e h)
    · obtain ⟨it, _, hit⟩ := List.mem_flatMap.mp h
      exact writeItem_noterm μ l fs it e hit

/-- DPanic runs the panic action exactly in development mode -/
theorem dpanic_iff_dev (fe : FrontEnd) (hfe : fe ∈ Gen.frontEnds) (ha : fe.takes dpanicL = true)
    (σ : Store) (μ : Val) (lg : Logger) (fs : List Fld) (w : W) :
    (lg.dev = true → ∃ pre, (fe.run σ μ lg dpanicL fs w).evs = pre ++ [.term (override .panic lg.onPanic)]) ∧
    (lg.dev = false → ∃ new, (fe.run σ μ lg dpanicL fs w).evs = w.evs ++ new ∧ ∀ e ∈ new, e.isTerm = false) := by
  constructor
  · intro hd
    exact ⟨_, write_before_terminal fe hfe dpanicL ha (by decide) σ μ lg fs w _
      (by simp [Logger.terminal, dpanicL, panicL, fatalL, hd])⟩
  · intro hd
    rw [run_eq_checked fe hfe dpanicL ha (by decide)]
    exact new_events_noterm σ μ lg dpanicL fs w (by simp [Logger.terminal, dpanicL, panicL, fatalL, hd])

/-- no level other than DPanic (dev), Panic, Fatal ever runs a terminal action, through any front end -/
theorem no_terminal_below (fe : FrontEnd) (σ : Store) (μ : Val) (lg : Logger) (l : Level) (fs : List Fld) (w : W)
    (hl : l ≠ dpanicL ∧ l ≠ panicL ∧ l ≠ fatalL) :
    ∃ new, (fe.run σ μ lg l fs w).evs = w.evs ++ new ∧ ∀ e ∈ new, e.isTerm = false := by
  unfold FrontEnd.run
  split
  · exact new_events_noterm σ μ lg l fs w (by simp [Logger.terminal, hl.1, hl.2.1, hl.2.2])
  · exact ⟨[], by simp, by simp⟩

/-- a built-in io core writes and then syncs its sink before control is lost, for every entry above Error -/
theorem io_sync_before_terminal (fe : FrontEnd) (hfe : fe ∈ Gen.frontEnds) (l : Level) (ha : fe.takes l = true)
    (hl : dpanicL ≤ l) (σ : Store) (μ : Val) (lg : Logger) (fs : List Fld) (w : W) (a : Action)
    (ht : lg.terminal l = some a) (id : Nat) (ctx : List Fld)
    (hmem : Item.leaf id true ctx ∈ check σ (checkEv σ μ l lg.core w).snap l lg.core [] []) :
    ∃ pre post, (fe.run σ μ lg l fs w).evs =
      pre ++ [.write id true (ctx ++ fs.map (Fld.resolve μ)), .sync id] ++ post ++ [.term a] := by
  rw [write_before_terminal fe hfe l ha hl σ μ lg fs w a ht]
  obtain ⟨i1, i2, hsplit⟩ := List.append_of_mem hmem
  rw [hsplit]
  have hgt : l > errorL := by unfold dpanicL errorL at *; lomega
  refine ⟨(checkEv σ μ l lg.core w).evs ++ i1.flatMap (writeItem μ l fs) ++
      (fs.map fun f => Ev.marshal id (f.resolve μ)), i2.flatMap (writeItem μ l fs), ?_⟩
  simp [List.flatMap_append, writeItem, hgt, List.append_assoc]

/-- ioCore.Write's sync threshold in the source is the one the model uses -/
theorem io_sync_matches_source : Gen.ioSyncAbove = errorL := by decide

/-- interpretation of the regenerated `switch ent.Level` rows of Logger.check -/
def rowsTerminal (rows : List (Int × String × Bool × String)) (lg : Logger) (l : Level) : Option Action :=
  match rows.find? (fun r => r.1 == l) with
  | none => none
  | some (_, dflt, devOnly, field) =>
    if devOnly && !lg.dev then none
    else
      let d : Action := if dflt == "WriteThenFatal" then .fatal else if dflt == "WriteThenGoexit" then .goexit else .panic
      let h : HookCfg := if field == "onFatal" then lg.onFatal else lg.onPanic
      some (override d h)

/-- the model's terminal switch is the one in the source (and it names only the three known defaults) -/
theorem terminal_matches_source (lg : Logger) (l : Level) :
    lg.terminal l = rowsTerminal Gen.terminalRows lg l ∧
    Gen.terminalRows.all (fun r => r.2.1 == "WriteThenPanic" || r.2.1 == "WriteThenFatal") = true ∧
    Gen.terminalRows.all (fun r => r.2.2.2 == "onPanic" || r.2.2.2 == "onFatal") = true := by
  refine ⟨?_, by simp [Gen.terminalRows], by simp [Gen.terminalRows]⟩
  unfold Logger.terminal rowsTerminal Gen.terminalRows panicL fatalL dpanicL
  by_cases h4 : l = 4
  · subst h4; simp
  · by_cases h5 : l = 5
    · subst h5; simp
    · by_cases h3 : l = 3
      · subst h3; cases lg.dev <;> simp
      · have e4 : ((4 : Int) == l) = false := beq_false_of_ne (fun h => h4 h.symm)
        have e5 : ((5 : Int) == l) = false := beq_false_of_ne (fun h => h5 h.symm)
        have e3 : ((3 : Int) == l) = false := beq_false_of_ne (fun h => h3 h.symm)
        simp [h4, h5, h3, List.find?, e4, e5, e3]

/-- terminalHookOverride replaces exactly nil and WriteThenNoop -/
theorem override_matches_source : Gen.overrideDefaults = ["nil", "WriteThenNoop"] := by decide +kernel

/-- non-vacuity: Fatal through the gRPC adapter's Fatalln on a logger whose only core is a no-op and whose fatal
    hook is the no-op action -/
example :
    (Gen.frontEnds.filter (fun fe => fe.recv == "zapgrpc.Logger" && fe.name == "Fatalln" && fe.takes fatalL)).map
      (fun fe => (fe.run (fun _ => 0) (fun _ => 0) { core := .nop, onFatal := .noop } fatalL [] {}).evs) =
      [[.term .fatal]] := by decide +kernel

/-! ### failing sinks (Model/Deliver.ceWrite, tied by the `failterm` ops: every failing subset of ≤ 3 sinks × level × front end) -/

/-- the terminal action is taken whatever any sink returned: with a terminal hook set, `CheckedEntry.Write` does exactly
    what it does without one — every accepted sink written, the failure line — and THEN gives up control -/
theorem terminal_despite_sink_failures (c : Deliver.Core) :
    Deliver.ceWrite c true = Deliver.ceWrite c false ++ [Deliver.DEv.term] := by
  simp [Deliver.ceWrite]

/-- … and it is the last thing that happens, exactly once -/
theorem terminal_last_once (c : Deliver.Core) :
    (Deliver.ceWrite c true).getLast? = some Deliver.DEv.term ∧ (Deliver.ceWrite c true).count Deliver.DEv.term = 1 := by
  constructor
  · simp [Deliver.ceWrite]
  · simp only [Deliver.ceWrite]
    rw [List.count_append, List.count_append]
    have h1 : ∀ l : List Deliver.Sink, (l.map fun s => Deliver.DEv.wrote s.id).count Deliver.DEv.term = 0 := by
      intro l; induction l with
      | nil => rfl
      | cons a t ih => simp [ih]
    rw [h1]
    split <;> simp

/-- before control is lost every sink under every accepting core has been handed the entry, failing or not -/
theorem failing_sinks_written_before_terminal (c : Deliver.Core) (s : Deliver.Sink)
    (h : s ∈ (Deliver.accepted c).flatMap Deliver.sinksOf) : Deliver.DEv.wrote s.id ∈ Deliver.ceWrite c false := by
  simp only [Deliver.ceWrite, List.mem_append, List.mem_map]
  exact Or.inl (Or.inl ⟨s, h, rfl⟩)

/-- the terminal decision does not read any sink outcome: flipping every write/sync error flag of an ioCore changes
    neither whether nor when the terminal action is taken relative to the writes -/
theorem terminal_ignores_outcomes (en : Bool) (sinks : List Deliver.Sink) :
    (Deliver.ceWrite (.io en sinks) true).filter (· ≠ Deliver.DEv.errLine) =
      (Deliver.ceWrite (.io en (sinks.map fun s => { s with writeErr := false, syncErr := false })) true).filter (· ≠ Deliver.DEv.errLine) := by
  cases en <;> simp [Deliver.ceWrite, Deliver.accepted, Deliver.sinksOf, List.filter_append, List.map_map, Function.comp_def,
    List.filter_map]
  all_goals (split <;> simp)

mutual
theorem syncedOf_clean (c : Deliver.Core) (h : ∀ s ∈ Deliver.sinksOf c, s.writeErr = false) :
    Deliver.syncedOf c = (Deliver.sinksOf c).map (·.id) := by
  cases c with
  | io en sinks =>
    have : sinks.all (fun s => !s.writeErr) = true := by
      simp only [List.all_eq_true, Bool.not_eq_true']
      exact fun s hs => h s (by simpa [Deliver.sinksOf] using hs)
    simp [Deliver.syncedOf, Deliver.sinksOf, this]
  | tee cs => simpa [Deliver.syncedOf, Deliver.sinksOf] using syncedOfL_clean cs (by simpa [Deliver.sinksOf] using h)
  | wrap c => simpa [Deliver.syncedOf, Deliver.sinksOf] using syncedOf_clean c (by simpa [Deliver.sinksOf] using h)
theorem syncedOfL_clean (cs : List Deliver.Core) (h : ∀ s ∈ Deliver.sinksOfL cs, s.writeErr = false) :
    Deliver.syncedOfL cs = (Deliver.sinksOfL cs).map (·.id) := by
  cases cs with
  | nil => simp [Deliver.syncedOfL, Deliver.sinksOfL]
  | cons c r =>
    simp only [Deliver.sinksOfL, List.mem_append] at h
    simp [Deliver.syncedOfL, Deliver.sinksOfL, syncedOf_clean c (fun s hs => h s (Or.inl hs)),
      syncedOfL_clean r (fun s hs => h s (Or.inr hs))]
end

/-- C06 "the built-in IO cores have synced their sinks before control is lost": when no write fails, every sink the
    entry was handed to has been synced when the terminal hook runs — whatever the composition -/
theorem clean_sinks_synced_before_terminal (c : Deliver.Core)
    (h : ∀ s ∈ (Deliver.accepted c).flatMap Deliver.sinksOf, s.writeErr = false) :
    Deliver.syncedAtTerminal c = ((Deliver.accepted c).flatMap Deliver.sinksOf).map (·.id) := by
  unfold Deliver.syncedAtTerminal
  generalize Deliver.accepted c = acs at h
  induction acs with
  | nil => simp
  | cons a r ih =>
    simp only [List.flatMap_cons, List.mem_append] at h
    simp [List.flatMap_cons, syncedOf_clean a (fun s hs => h s (Or.inl hs)), ih (fun s hs => h s (Or.inr hs))]

/-- and a failing sink only withholds the sync of ITS OWN io core: the sinks of every other accepting core are synced -/
theorem sync_withheld_only_by_own_core (en : Bool) (sinks : List Deliver.Sink) (r : List Deliver.Core)
    (h : ∀ s ∈ Deliver.sinksOfL r, s.writeErr = false) :
    ∀ s ∈ Deliver.sinksOfL r, s.id ∈ Deliver.syncedOfL (.io en sinks :: r) := by
  intro s hs
  simp only [Deliver.syncedOfL, List.mem_append]
  right; rw [syncedOfL_clean r h]; exact List.mem_map.mpr ⟨s, hs, rfl⟩

example : Deliver.syncedAtTerminal (.tee [.io true [⟨0, true, false⟩, ⟨1, false, false⟩], .io true [⟨2, false, true⟩]]) = [2] := by decide

example : Deliver.ceWrite (.tee [.io true [⟨0, true, false⟩], .io true [⟨1, false, false⟩]]) true =
    [.wrote 0, .wrote 1, .errLine, .term] := by decide

end ZapVerif.C06

/-! ## the terminal hook in `CheckedEntry.Write` IS the source (Go→GoMini translation, docs/TRANSLATOR.md)

From `Gen/TransCE.lean` (the body of `(*CheckedEntry).Write` read from zapcore/entry.go on this run; main theorem
`C10.CheckedEntry_Write_matches_source`): with a terminal hook set, `Write` makes exactly the calls it makes without
one — every core written, the failure report — and then calls `hook.OnWrite` exactly once, immediately before the
pool put, WHATEVER the cores returned.  This is the source-level content of `terminal_despite_sink_failures`
(`C10.CheckedEntry_Write_is_ceWrite` reads the trace as `Deliver.ceWrite`). -/
namespace ZapVerif.C06
open ZapVerif.GoMini ZapVerif.TransCE

theorem CheckedEntry_Write_hook_matches_source (cs : List (Nat × List Val)) (eo : List Val) (hook : Val)
    (time entry self fs : Val) (ev : List Val) (fuel : Nat) :
    ∃ pre : List Val,
      run X (fuel + 1) "Write" [fs] (ceFld false false eo [hook] (cs.map coreOf) time entry self ev) =
        .done [] (ceFld false true eo [hook] (cs.map coreOf) time entry self
          (ev ++ pre ++ [evHook [hook] self fs, evPut self])) ∧
      run X (fuel + 1) "Write" [fs] (ceFld false false eo [] (cs.map coreOf) time entry self ev) =
        .done [] (ceFld false true eo [] (cs.map coreOf) time entry self (ev ++ pre ++ [evPut self])) ∧
      (∀ e ∈ pre, e ≠ evHook [hook] self fs ∧ e ≠ evPut self) := by
  refine ⟨cs.map (fun c => evCore (coreOf c) entry fs) ++
    (if cs.flatMap (·.2) ≠ [] ∧ eo ≠ [] then [evErrLine eo time (cs.flatMap (·.2)), evErrSync eo] else []), ?_, ?_, ?_⟩
  · rw [C10.CheckedEntry_Write_matches_source, expected, if_pos (List.cons_ne_nil _ _)]
    simp only [List.append_assoc, List.cons_append, List.nil_append]
  · rw [C10.CheckedEntry_Write_matches_source, expected, if_neg (show ¬ ([] : List Val) ≠ [] from fun h => h rfl)]
    simp only [List.append_assoc, List.append_nil]
  · intro e he
    simp only [List.mem_append, List.mem_map] at he
    rcases he with ⟨c, _, rfl⟩ | he
    · simp [evCore, evHook, evPut, nm_coreWrite, nm_hook, nm_put]
    · split at he
      · simp only [List.mem_cons, List.not_mem_nil, or_false] at he
        rcases he with rfl | rfl <;> simp [evErrLine, evErrSync, evHook, evPut, nm_fprintf, nm_sync, nm_hook, nm_put]
      · cases he

end ZapVerif.C06

/-! ## `CheckedEntry.After` / `Should` ARE the source (table `Gen/TransCEAdd.lean`)

`Logger.check` installs the terminal behaviour with `ce = ce.After(ent, hook)`: on a nil entry (no core accepted the
level) a fresh entry is created — which is why Panic/Fatal terminate even when nothing is written — and in every case
the hook is stored in `after`, the field `CheckedEntry.Write` reads (`CheckedEntry_Write_hook_matches_source`). -/
namespace ZapVerif.C06
open ZapVerif.GoMini

/-- `After` as a callee: a nil receiver becomes a fresh entry for `ent`; the hook is stored in `after` -/
theorem After_exec (isnil dirty : Bool) (eo after cores : List Val) (entry self ent : Val) (hook : List Val)
    (rec : Stmt → State → Out) :
    (execS TransCEAdd.X rec Gen.TransCEAdd.After_body
      ⟨[("p0", ent), ("p1", .list hook)], TransCEAdd.ceFld isnil dirty eo after cores entry self⟩).fin =
      some ([self], if isnil then TransCEAdd.ceFld false false [] hook [] ent self
                    else TransCEAdd.ceFld false dirty eo hook cores entry self) := by
  cases isnil <;> simp [Gen.TransCEAdd.After_body]

theorem After_matches_source (isnil dirty : Bool) (eo after cores : List Val) (entry self ent : Val) (hook : List Val)
    (fuel : Nat) :
    run TransCEAdd.X (fuel + 1) "After" [ent, .list hook] (TransCEAdd.ceFld isnil dirty eo after cores entry self) =
      .done [self] (if isnil then TransCEAdd.ceFld false false [] hook [] ent self
                    else TransCEAdd.ceFld false dirty eo hook cores entry self) :=
  run_of_exec (tbl := Gen.TransCEAdd.funs) rfl Gen.TransCEAdd.funs_After rfl (After_exec isnil dirty eo after cores entry self ent hook _)

/-- `Should` (the deprecated spelling) is `After` -/
theorem Should_matches_source (isnil dirty : Bool) (eo after cores : List Val) (entry self ent : Val) (hook : List Val)
    (fuel : Nat) :
    run TransCEAdd.X (fuel + 2) "Should" [ent, .list hook] (TransCEAdd.ceFld isnil dirty eo after cores entry self) =
      .done [self] (if isnil then TransCEAdd.ceFld false false [] hook [] ent self
                    else TransCEAdd.ceFld false dirty eo hook cores entry self) := by
  refine run_of_exec (tbl := Gen.TransCEAdd.funs) rfl Gen.TransCEAdd.funs_Should rfl ?_
  have h : ∀ σ : State, retK σ [.loc "l0"] "After"
      (exec TransCEAdd.X (fuel + 1) Gen.TransCEAdd.After_body
        ⟨[("p0", ent), ("p1", .list hook)], TransCEAdd.ceFld isnil dirty eo after cores entry self⟩) = _ :=
    fun σ => retK_of_fin1 σ _ _ _ _ _ (After_exec isnil dirty eo after cores entry self ent hook _)
  have hf : TransCEAdd.X.funs = Gen.TransCEAdd.funs := rfl
  simp [Gen.TransCEAdd.Should_body, hf, h]

end ZapVerif.C06

/-! ## `terminalHookOverride` and `Logger.check` ARE the source (table `Gen/TransLogger.lean`)

`Logger.check` is translated up to (and including) its early return for entries that no core writes; everything after
`ce.ErrorOutput = log.errorOutput` (error output, caller and stack annotation) is the recorded intrinsic
`Logger.annotate` (covered by C15).  For every level, core, development flag and `onPanic`/`onFatal` setting the
interpreted function returns: nil when the level is below DPanic and the core disables it (the core is not even
consulted); otherwise the core's `Check` result with the terminal hook of `TransLogger.terminal` installed by `After` —
which by `terminal_is_model` is `Cores.Logger.terminal`: Panic ⇒ panic (or the override), Fatal ⇒ exit (or the
override), DPanic ⇒ panic iff development, and a nil / no-op override never disarms it — even when no core accepted
the entry (the result is then a CheckedEntry without cores that exists only to run the hook). -/
namespace ZapVerif.C06
open ZapVerif.GoMini ZapVerif.TransLogger ZapVerif.Gen.TransLogger

/-- `terminalHookOverride(default, override)`: a nil or `WriteThenNoop` override yields the default -/
theorem terminalHookOverride_matches_source (P : Par) (d o : List Val) (fld : Env) (fuel : Nat) :
    run (X P) (fuel + 1) "terminalHookOverride" [.list d, .list o] fld = .done [.list (ovr d o)] fld :=
  run_of_exec (X_funs P) funs_terminalHookOverride rfl (terminalHookOverride_exec P d o fld _)

/-- what `Logger.check` returns and records -/
def checkSpec (P : Par) (l : Int) (msg name : Bytes) (core clock : Val) (dev : Bool) (onPanic onFatal : List Val) :
    Val × List Val :=
  if l < 3 ∧ P.cen core l = false then (.list [], [])
  else
    let ent : Val := .list [.bytes name, P.now clock, .int l, .bytes msg]
    let ce0 := (P.chk core ent).map fun cs => (cs, ([] : List Val))
    let ce1 := match terminal l dev onPanic onFatal with
      | none => ce0
      | some h => after ce0 h
    let evs := [Val.list [nm "Clock.Now", clock], Val.list [nm "Core.Check", core, ent, .list []]]
    if ce0.isNone then (ceV ce1, evs)
    else (P.ann (ceV ce1) ent, evs ++ [Val.list [nm "Logger.annotate", ceV ce1, ent]])

theorem Logger_check_matches_source (P : Par) (l : Int) (msg name : Bytes) (core clock : Val) (dev : Bool)
    (onPanic onFatal : List Val) (ev : List Val) (fuel : Nat) :
    run (X P) (fuel + 2) "Logger_check" [.int l, .bytes msg] (logFld core name clock dev onPanic onFatal ev) =
      .done [(checkSpec P l msg name core clock dev onPanic onFatal).1]
        (logFld core name clock dev onPanic onFatal (ev ++ (checkSpec P l msg name core clock dev onPanic onFatal).2)) := by
  refine run_of_exec (X_funs P) funs_Logger_check rfl ?_
  rw [Logger_check_body_eq]
  by_cases hg : l < 3 ∧ P.cen core l = false
  · exact (Logger_check_guard_exec P l _ core name clock dev onPanic onFatal ev _ hg.1 hg.2).trans (by simp [checkSpec, hg])
  · have hg' : (decide (l < 3) && !P.cen core l) = false := by
      cases hc : P.cen core l <;> simp_all
    -- the prefix (clock, entry, the core's `Check`) runs once, with the core's answer a variable
    obtain ⟨more, hsw⟩ := Logger_check_switch_exec P l (.bytes msg) (P.now clock) (.bytes name) (P.now clock) (.bytes msg)
      ((P.chk core (.list [.bytes name, P.now clock, .int l, .bytes msg])).map fun cs => (cs, []))
      (!decide (P.chk core (.list [.bytes name, P.now clock, .int l, .bytes msg]) = none)) core name clock dev onPanic onFatal
      (ev ++ [.list [nm "Clock.Now", clock],
        .list [nm "Core.Check", core, .list [.bytes name, P.now clock, .int l, .bytes msg], .list []]]) fuel
    simp only [swSt, nm_now, nm_chk, List.append_nil] at hsw
    rw [Logger_check_body_split]
    simp [-andK_bool, andK_ok_bool, Logger_check_body, Stmt.hd, Stmt.tl, hg', lenVal_ceV]
    rw [Logger_check_rest_split, execS_seq, hsw]
    -- only the rest depends on whether any core accepted; the two `match`es on `terminal` differ in name only
    cases hchk : P.chk core (.list [.bytes name, P.now clock, .int l, .bytes msg])
    · simp [Logger_check_rest, Logger_check_body, Stmt.tl, checkSpec, hg, hchk, nm_now, nm_chk]
      rfl
    · simp [Logger_check_rest, Logger_check_body, Stmt.tl, checkSpec, hg, hchk, nm_now, nm_chk, nm_ann]
      exact ⟨rfl, rfl⟩

/-- the hook `Logger.check` installs is the model's `Logger.terminal` (hook values read as `HookCfg` / `Action`):
    `panic_always`, `fatal_always`, `dpanic_iff_dev` and the override theorems are about this function -/
theorem Logger_check_terminal_is_model (lg : Cores.Logger) (l : Int) :
    terminal l lg.dev (hookV lg.onPanic) (hookV lg.onFatal) = (lg.terminal l).map actV :=
  terminal_is_model lg l

/-- in particular: at Panic and Fatal level the result of `Logger.check` is never nil and always carries a hook,
    whatever the core answers and whatever `onPanic` / `onFatal` are set to -/
theorem Logger_check_panic_fatal_armed (P : Par) (l : Int) (hl : l = 4 ∨ l = 5) (msg name : Bytes) (core clock : Val)
    (dev : Bool) (onPanic onFatal : List Val) :
    ∃ h, terminal l dev onPanic onFatal = some h ∧ h ≠ [] ∧ ¬ (Val.beqs h [.int 0] = true) ∧
      ((P.chk core (.list [.bytes name, P.now clock, .int l, .bytes msg])).isNone →
        (checkSpec P l msg name core clock dev onPanic onFatal).1 = ceV (some ([], h))) := by
  have hov : ∀ (d : Int) (o : List Val), d = 2 ∨ d = 3 → ovr [.int d] o ≠ [] ∧ ¬ (Val.beqs (ovr [.int d] o) [.int 0] = true) := by
    intro d o hd
    unfold ovr
    split
    · rcases hd with rfl | rfl <;> simp
    · rename_i hne
      constructor
      · intro h; apply hne; left; simp [h]
      · intro h; apply hne; right; exact h
  rcases hl with rfl | rfl
  · refine ⟨ovr [.int 2] onPanic, by simp [terminal], (hov 2 _ (Or.inl rfl)).1, (hov 2 _ (Or.inl rfl)).2, ?_⟩
    intro hn
    cases hc : P.chk core (.list [.bytes name, P.now clock, .int 4, .bytes msg]) with
    | none => simp [checkSpec, terminal, hc, after]
    | some cs => rw [hc] at hn; cases hn
  · refine ⟨ovr [.int 3] onFatal, by simp [terminal], (hov 3 _ (Or.inr rfl)).1, (hov 3 _ (Or.inr rfl)).2, ?_⟩
    intro hn
    cases hc : P.chk core (.list [.bytes name, P.now clock, .int 5, .bytes msg]) with
    | none => simp [checkSpec, terminal, hc, after]
    | some cs => rw [hc] at hn; cases hn

end ZapVerif.C06

/-! ## the gRPC adapter's printers ARE the source (table `Gen/TransGrpc.lean`)

zapgrpc `sprintln`, `printer.Print` / `Printf` / `Println` and `Logger.Infoln` / `Warningln` / `Errorln`, translated
mechanically; the delegate's methods are recorded calls, `Enabled` and `fmt.Sprintln` parameters.  `Println` is skipped
only below DPanic on a disabled level: the `fatal` printer (`Fatalln`) always reaches the delegate's `Fatal`
(`printer_Println_fatal_never_skipped`) — the front-end side of "a fatal entry is never skipped". -/
namespace ZapVerif.C06
open ZapVerif ZapVerif.GoMini ZapVerif.TransGrpc ZapVerif.Gen.TransGrpc

/-- `printer.Print` / `Printf`: the delegate's function is called with exactly the arguments, whatever the level -/
theorem printer_Print_matches_source (P : Par) (args ev : List Val) (enab pr prf : Val) (l : Int) (fuel : Nat) :
    run (X P) (fuel + 1) "printer_Print" [.list args] (pEnv ev enab l pr prf) =
      .done [] (pEnv (ev ++ [.list [TransGrpc.nm "PrintFn.call", pr, .list args]]) enab l pr prf) := by
  refine run_of_exec (X_funs P) funs_printer_Print rfl ?_
  simp [printer_Print_body, pEnv, nm_print]

theorem printer_Printf_matches_source (P : Par) (fmt : Bytes) (args ev : List Val) (enab pr prf : Val) (l : Int) (fuel : Nat) :
    run (X P) (fuel + 1) "printer_Printf" [.bytes fmt, .list args] (pEnv ev enab l pr prf) =
      .done [] (pEnv (ev ++ [.list [TransGrpc.nm "PrintfFn.call", prf, .bytes fmt, .list args]]) enab l pr prf) := by
  refine run_of_exec (X_funs P) funs_printer_Printf rfl ?_
  simp [printer_Printf_body, pEnv, nm_printf]

/-- `printer.Println`: skipped ONLY for a level below DPanic that is not enabled — a printer at DPanic, Panic or Fatal
    (the `fatal` printer of the adapter) always reaches the delegate, with the `Sprintln` text minus its newline -/
theorem printer_Println_matches_source (P : Par) (args ev : List Val) (enab pr prf : Val) (l : Int) (fuel : Nat)
    (hne : P.sprintln args ≠ []) (hlen : ((P.sprintln args).length : Int) < 9223372036854775808) :
    run (X P) (fuel + 2) "printer_Println" [.list args] (pEnv ev enab l pr prf) =
      .done [] (pEnv (if l < 3 ∧ P.en enab l = false then ev
        else ev ++ [.list [TransGrpc.nm "PrintFn.call", pr, .bytes (P.sprintln args).dropLast]]) enab l pr prf) := by
  have hcall : ∀ (σ : State) (fl : Env), retK σ [.loc "l0"] "sprintln"
      (exec (X P) (fuel + 1) sprintln_body ⟨[("p0", .list args)], fl⟩) = _ :=
    fun σ fl => retK_of_fin1 σ _ _ _ _ _ (sprintln_exec P args fl _ hne hlen)
  refine run_of_exec (X_funs P) funs_printer_Println rfl ?_
  -- the guard `level < DPanic && !Enabled(level)` as one boolean
  by_cases hg : l < 3 ∧ P.en enab l = false
  · simp [printer_Println_body, pEnv, hg]
  · have hg' : (decide (l < 3) && !P.en enab l) = false := by
      cases hc : P.en enab l <;> simp_all
    simp [-andK_bool, andK_ok_bool, printer_Println_body, pEnv, hg, hg', hcall, nm_print]

/-- a printer at Fatal level is never skipped by `Println` (the gRPC `Fatalln`) -/
theorem printer_Println_fatal_never_skipped (P : Par) (args ev : List Val) (enab pr prf : Val) (l : Int) (fuel : Nat) (hl : 3 ≤ l)
    (hne : P.sprintln args ≠ []) (hlen : ((P.sprintln args).length : Int) < 9223372036854775808) :
    run (X P) (fuel + 2) "printer_Println" [.list args] (pEnv ev enab l pr prf) =
      .done [] (pEnv (ev ++ [.list [TransGrpc.nm "PrintFn.call", pr, .bytes (P.sprintln args).dropLast]]) enab l pr prf) := by
  rw [printer_Println_matches_source P args ev enab pr prf l fuel hne hlen, if_neg (fun h => absurd h.1 (by omega))]

/-- `Infoln` / `Warningln` / `Errorln`: the delegate's method of THAT level, iff that level is enabled -/
theorem Logger_ln_matches_source (P : Par) (args ev : List Val) (delegate en : Val) (fuel : Nat)
    (hne : P.sprintln args ≠ []) (hlen : ((P.sprintln args).length : Int) < 9223372036854775808) :
    run (X P) (fuel + 2) "Logger_Infoln" [.list args] (lEnv ev delegate en) =
      .done [] (lEnv (if P.en en 0 then ev ++ [.list [TransGrpc.nm "Sugar.Info", delegate, .bytes (P.sprintln args).dropLast]] else ev) delegate en) ∧
    run (X P) (fuel + 2) "Logger_Warningln" [.list args] (lEnv ev delegate en) =
      .done [] (lEnv (if P.en en 1 then ev ++ [.list [TransGrpc.nm "Sugar.Warn", delegate, .bytes (P.sprintln args).dropLast]] else ev) delegate en) ∧
    run (X P) (fuel + 2) "Logger_Errorln" [.list args] (lEnv ev delegate en) =
      .done [] (lEnv (if P.en en 2 then ev ++ [.list [TransGrpc.nm "Sugar.Error", delegate, .bytes (P.sprintln args).dropLast]] else ev) delegate en) := by
  -- each body is `lnBody` at its level, method and recorded name
  rw [nm_info, nm_warn, nm_error]
  exact ⟨run_of_exec (X_funs P) funs_Logger_Infoln rfl (lnBody_exec P 0 _ "Sugar.Info" (ext_eq P).2.2.2.2.1 args ev delegate en fuel hne hlen),
    run_of_exec (X_funs P) funs_Logger_Warningln rfl (lnBody_exec P 1 _ "Sugar.Warn" (ext_eq P).2.2.2.2.2.1 args ev delegate en fuel hne hlen),
    run_of_exec (X_funs P) funs_Logger_Errorln rfl (lnBody_exec P 2 _ "Sugar.Error" (ext_eq P).2.2.2.2.2.2 args ev delegate en fuel hne hlen)⟩

end ZapVerif.C06
