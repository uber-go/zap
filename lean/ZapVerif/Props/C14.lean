import ZapVerif.Model.Sugar
import ZapVerif.Proofs.Sugar
import ZapVerif.Gen.Callers
import ZapVerif.Proofs.TransSweeten
import ZapVerif.Proofs.TransMessage
/-! # C14 — SugaredLogger never drops or misattributes loosely-typed arguments

Objects: `sweep`/`sweeten` mirror `sweetenFields`; `loopGo` is the same loop with Go's index expressions checked;
`trace` lists, in argument order, the event (output field or diagnostic) that consumed each argument;
`logMsg`/`withArgs` are the bodies of `log`/`logln`/`With`/`WithLazy`; `getMessage*` take `fmt` as a parameter.
The routing of every exported method's parameters into `s.log`/`s.logln` is read from sugar.go (Gen.Callers). -/
namespace ZapVerif.C14
open ZapVerif ZapVerif.Sugar

/-- the index loop of sugar.go terminates within `len(args)` iterations, never indexes out of range (no `panic`
    outcome) and returns the three lists of `sweeten` -/
theorem sweeten_total (args : List Arg) : loopGo args args.length 0 false {} = .ok (sweeten args) := by
  rw [loopGo_eq args args.length 0 false {} (by omega)]
  simp [sweeten, Res.append]

/-- the result lists are the projections of the event trace: nothing is reordered or invented -/
theorem sweeten_is_trace (args : List Arg) : sweeten args = split (trace 0 false args) :=
  sweep_eq_split 0 false args

/-- concatenating, in order, the arguments named by each event (output field, multiple-error
    diagnostic, dangling-key diagnostic, invalid-pair element) gives back exactly the argument list — every position
    is consumed by exactly one event, and that event carries the very arguments found there -/
theorem accounting (args : List Arg) : (trace 0 false args).flatMap Ev.args = args :=
  trace_args 0 false args

/-- an `invalid` element records the position of its key: `args[p] = k`, `args[p+1] = v` -/
theorem invalid_position (args : List Arg) (pre post : List Ev) (p : Nat) (k v : Arg)
    (h : trace 0 false args = pre ++ Ev.invalid p k v :: post) :
    p = (pre.flatMap Ev.args).length ∧ args[p]? = some k ∧ args[p+1]? = some v := by
  have hp := trace_invalid_pos 0 false args pre p k v post h
  have ha := accounting args
  rw [h] at ha
  simp only [List.flatMap_append, List.flatMap_cons, Ev.args] at ha
  have hp' : p = (pre.flatMap Ev.args).length := by omega
  refine ⟨hp', ?_, ?_⟩ <;> rw [← ha, hp'] <;> simp

def covered (r : Res) : Nat :=
  (r.fields.map fun | .any .. => 2 | _ => 1).sum + r.diags.length + 2 * r.invalid.length

theorem covered_split (t : List Ev) : covered (split t) = (t.flatMap Ev.args).length := by
  induction t with
  | nil => rfl
  | cons e r ih =>
    rw [List.flatMap_cons, List.length_append, ← ih]
    cases e <;> simp only [covered, split, List.filterMap_cons, Ev.out?, Ev.ldiag?, Ev.inv?, Ev.args, List.map_cons,
      List.sum_cons, List.length_cons, List.length_nil] <;> omega

/-- counting form of `accounting` over the three lists `sweetenFields` really builds -/
theorem accounting_count (args : List Arg) : covered (sweeten args) = args.length := by
  rw [sweeten_is_trace, covered_split, accounting]

/-- the arguments an output field stands for -/
def Out.args : Out → List Arg
  | .passed ty k t => [.field ty k t]
  | .any k v => [.str k, v]
  | .error e => [.err e]

theorem out_args_sublist (t : List Ev) : ((t.filterMap Ev.out?).flatMap Out.args).Sublist (t.flatMap Ev.args) := by
  induction t with
  | nil => exact .slnil
  | cons e r ih =>
    cases e
    case passed | any | error => exact ih.append_left _
    case multiple | dangling | invalid => exact ih.trans (List.sublist_append_right _ _)

/-- typed fields pass through unchanged, string-keyed pairs become `Any key value`, in argument order: the
    arguments the output fields stand for form a subsequence of the argument list -/
theorem fields_in_order (args : List Arg) :
    (sweeten args).fields = (trace 0 false args).filterMap Ev.out? ∧
    ((sweeten args).fields.flatMap Out.args).Sublist args := by
  have h := out_args_sublist (trace 0 false args)
  rw [accounting] at h
  exact ⟨congrArg Res.fields (sweeten_is_trace args), sweeten_is_trace args ▸ h⟩

/-- a string-keyed pair is rendered with the type tag `zap.Any` chooses for the value, under its key; a typed field
    is rendered as it came -/
example (k : Tok) (v : Arg) : (Out.any k v).render = .f v.anyType.name k v.tok := rfl
example (ty : String) (k t : Tok) : (Out.passed ty k t).render = .f ty k t := rfl

/-- among the bare errors (error values in key position) the first becomes the field keyed `error`; every later one is
    a multiple-error diagnostic -/
theorem first_error_key (args : List Arg) :
    (trace 0 false args).filter Ev.isErrEv = [] ∨
    ∃ e rest, (trace 0 false args).filter Ev.isErrEv = Ev.error e :: rest ∧
      (∀ x ∈ rest, x.isMultiple = true) ∧ (Out.error e).key = keyError ∧
      (Out.error e).render = .f FT.error.name keyError e :=
  match trace_first_error 0 args with
  | .inl h => .inl h
  | .inr ⟨e, rest, h1, h2⟩ => .inr ⟨e, rest, h1, h2, rfl, rfl⟩

/-- the well-formed arguments are logged exactly as if the ill-formed ones had not been passed: removing every
    argument named by a diagnostic leaves a subsequence that produces the same fields and no diagnostic -/
theorem wellformed_still_logged (args : List Arg) :
    (clean args).Sublist args ∧
    (sweeten (clean args)).fields = (sweeten args).fields ∧
    (sweeten (clean args)).diags = [] ∧ (sweeten (clean args)).invalid = [] := by
  have hs : sweeten (clean args) = ⟨(sweeten args).fields, [], []⟩ := by
    rw [sweeten_is_trace, sweeten_is_trace, ← split_filter_isOut]
    exact congrArg split (trace_clean 0 false args 0)
  have hsub := sublist_flatMap Ev.args (List.filter_sublist (p := Ev.isOut) (l := trace 0 false args))
  rw [accounting] at hsub
  rw [hs]
  exact ⟨hsub, rfl, rfl, rfl⟩

/-- every diagnostic entry is an error-level entry, separate from the entry that carries the fields -/
theorem diagnostics_error_level (ctx : List FieldD) (r : Res) : ∀ e ∈ r.diagEntries ctx, e.lvl = errorLevel := by
  intro e he
  simp only [Res.diagEntries, List.mem_append, List.mem_map] at he
  rcases he with ⟨d, _, rfl⟩ | he
  · cases d <;> rfl
  · split at he <;> simp_all

/-- one diagnostic entry per multiple-error / dangling key, one more carrying all invalid pairs (when any) -/
theorem diagnostics_count (ctx : List FieldD) (r : Res) :
    (r.diagEntries ctx).length = r.diags.length + (if r.invalid = [] then 0 else 1) := by
  simp only [Res.diagEntries, List.length_append, List.length_map]
  split <;> simp

/-- with the method's level and Error enabled, a `*w` call records the diagnostics and then one entry at the requested
    level with the given message and, after the logger's context, exactly the fields of `sweeten` -/
theorem logw_entries (c : Cfg) (ctx : List FieldD) (l : Int) (msg : Bytes) (args : List Arg)
    (hl : c.enabled l = true) (he : c.enabled errorLevel = true) :
    (logMsg c ctx l msg args).entries =
      (sweeten args).diagEntries ctx ++ [⟨l, msg, ctx ++ (sweeten args).fields.map Out.render⟩] := by
  simp [logMsg, Cfg.check, Cfg.diagOut, hl, he]

/-- `With`/`WithLazy`: the child's context is the parent's followed by the fields of `sweeten`; diagnostics are recorded
    by the parent when Error is enabled -/
theorem with_entries (c : Cfg) (ctx : List FieldD) (args : List Arg) (he : c.enabled errorLevel = true) :
    withArgs c ctx args = ((sweeten args).diagEntries ctx, ctx ++ (sweeten args).fields.map Out.render) := by
  simp [withArgs, Cfg.diagOut, he]

/-- the three facts about `fmt` that the message theorems use -/
structure FmtFacts (F : Fmt) : Prop where
  sprint_nil : F.sprint [] = []
  sprint_str : ∀ s, F.sprint [.str s] = s
  sprintln_nl : ∀ a, ∃ m, F.sprintln a = m ++ [10]

/-- print-style = Sprint; no arguments = the template verbatim; template and arguments = Sprintf;
    println-style = Sprintln without its trailing newline -/
theorem message_forms (F : Fmt) (h : FmtFacts F) :
    (∀ args, getMessage F [] args = F.sprint args) ∧
    (∀ t, getMessage F t [] = t) ∧
    (∀ t args, t ≠ [] → args ≠ [] → getMessage F t args = F.sprintf t args) ∧
    (∀ args, getMessageln F args ++ [10] = F.sprintln args) := by
  refine ⟨?_, ?_, ?_, ?_⟩
  · intro args
    match args with
    | [] => simp [getMessage, h.sprint_nil]
    | [.str s] => simp [getMessage, h.sprint_str]
    | [.field ..] | [.err _] | [.int _] | [.nil] | [.val ..] => simp [getMessage]
    | _ :: _ :: _ => simp [getMessage]
  · intro t; simp [getMessage]
  · intro t args ht ha; simp [getMessage, ht, ha]
  · intro args
    obtain ⟨m, hm⟩ := h.sprintln_nl args
    simp [getMessageln, hm]

/-! ## tie to sugar.go: how each exported method routes its parameters (regenerated table) -/

open ZapVerif.Gen.Callers in
def expectedMethods : List SugarMethod :=
  [("Debug", some (-1)), ("Info", some 0), ("Warn", some 1), ("Error", some 2), ("DPanic", some 3), ("Panic", some 4),
   ("Fatal", some 5), ("Log", none)].flatMap fun ((base, lvl) : String × Option Int) =>
    let o := if lvl.isNone then 1 else 0
    [ ⟨base, false, lvl, .empty, .param o, .none⟩,                      -- print style: ("", args, nil)
      ⟨base ++ "f", false, lvl, .param o, .param (o+1), .none⟩,         -- printf style: (template, args, nil)
      ⟨base ++ "ln", true, lvl, .none, .param o, .none⟩,                -- println style: logln(args, nil)
      ⟨base ++ "w", false, lvl, .param o, .none, .param (o+1)⟩ ]        -- structured: (msg, nil, keysAndValues)

/-- every level has its four methods, each logs at the level of its name and hands its parameters to
    `log`/`logln` in the role of its family; there is no other logging method -/
theorem every_method_routes :
    (∀ m ∈ expectedMethods, m ∈ Gen.Callers.sugarMethods) ∧
    Gen.Callers.sugarMethods.length = expectedMethods.length := by decide +kernel

/-! ## non-vacuity -/

/-- the hypotheses of `message_forms` are satisfiable -/
example : FmtFacts ⟨fun a => match a with | [.str s] => s | [] => [] | _ => [63],
                    fun t _ => t, fun _ => [10]⟩ :=
  ⟨rfl, fun _ => rfl, fun _ => ⟨[], rfl⟩⟩

/-- a list with every kind of ill-formed argument: pair, invalid pair, first and second bare error, dangling key -/
example : sweeten [.str [107], .int [49], .int [50], .nil, .err [101], .err [102], .field "Int64" [102] [55], .str [100]] =
    { fields := [.any [107] (.int [49]), .error [101], .passed "Int64" [102] [55]],
      diags := [.multiple [102], .dangling (.str [100])],
      invalid := [⟨2, .int [50], .nil⟩] } := rfl

example : clean [.str [107], .int [49], .int [50], .nil, .err [101], .err [102], .field "Int64" [102] [55], .str [100]] =
    [.str [107], .int [49], .err [101], .field "Int64" [102] [55]] := rfl

end ZapVerif.C14

/-! ## `sweetenFields` IS the source (table `Gen/TransSweeten.lean`)

The loop of sugar.go `(*SugaredLogger).sweetenFields`, translated mechanically, is interpreted on EVERY argument list:
the arguments are opaque values, and what the three comma-ok type assertions (`.(Field)`, `.(error)`, `.(string)`) answer
about each is a parameter.  The result is the positional sweep `TransSweeten.sweepV` — the same recursion as
`Sugar.sweep` (`sweepV_is_sweep`) — and the diagnostics reach the base logger in the model's order.  `cap` is any
function with `cap s = 0 → s = []`. -/
namespace ZapVerif.C14
open ZapVerif ZapVerif.GoMini ZapVerif.TransSweeten ZapVerif.Gen.TransSweeten

/-- for every argument list, every answer of the three type assertions and every
    `cap`, the interpreted function returns the fields of the positional sweep and sends exactly its diagnostics — the
    in-loop ones in order, then the invalid pairs as one array — to the base logger. -/
theorem sweetenFields_matches_source (P : Par) (hcap : ∀ l : List Val, P.cap (.list l) = 0 → l = []) (args : List Val)
    (skip : Int) (ev : List Val) (hlen : (args.length : Int) + 2 < 9223372036854775808) (fuel : Nat) :
    run (X P) (fuel + args.length + 1) "sweetenFields" [.list args, .int skip] [("ev", .list ev)] =
      .done [.list (sweepV P 0 false args).fields] [("ev", .list (ev ++ diagsOf (sweepV P 0 false args)))] := by
  refine run_of_exec (X_funs P) funs_sweetenFields rfl ?_
  cases args with
  | nil => simp [sweetenFields_body, sweepV, diagsOf]
  | cons a r =>
    obtain ⟨i', seen', junk', hrun⟩ := sweetenFields_loop_matches_source P hcap (a :: r) (.int skip) ev hlen
      (a :: r).length 0 false {} [] fuel (Nat.sub_le _ _)
    rw [List.drop_zero, nil_append] at hrun
    generalize sweepV P 0 false (a :: r) = R at *
    have hne : ¬ ((r.length : Int) + 1 = 0) := by omega
    simp [sAbs] at hrun
    -- the body up to the loop, the loop (`hrun`), then the invalid pairs: one diagnostic iff there are any
    simp [sweetenFields_body, hrun, diagsOf, hne, Out.andThen_ite, Out.fin_ite]
    cases R.invalid <;> simp [diagV, nm_diag, msgNonString_eq, keyInvalid_eq]

/-! ### `sweepV` is `Sugar.sweep`

For ANY encoding of the model's arguments as values on which the three type assertions answer what the constructor of
the argument says, the sweep over values is the encoding of `Sugar.sweep` — the function `accounting`,
`fields_in_order`, `first_error_key` … are about.  `encArg` / `encPar` is one such encoding (so the hypotheses are
satisfiable), and the three diagnostic messages read from sugar.go are the model's. -/
section link
open ZapVerif.Sugar

variable (enc : Arg → Val) (fV : String → Tok → Tok → Val) (eV : Tok → Val)

def outV : Sugar.Out → Val
  | .passed ty k t => fV ty k t
  | .any k v => anyF k (enc v)
  | .error e => errF (eV e)

def ldiagV : LDiag → Val
  | .multiple e => diagV TransSweeten.msgMultiple (errF (eV e))
  | .dangling a => diagV TransSweeten.msgOdd (anyF TransSweeten.keyIgnored (enc a))

def invV (p : Inv) : Val := .list [.int p.pos, enc p.key, enc p.val]

def resV (r : Res) : ResV := ⟨r.fields.map (outV enc fV eV), r.diags.map (ldiagV enc eV), r.invalid.map (invV enc)⟩

theorem sweepV_is_sweep (P : Par)
    (hF : ∀ a, P.asField (enc a) = match a with | .field ty k t => some (fV ty k t) | _ => none)
    (hE : ∀ a, P.asErr (enc a) = match a with | .err e => some (eV e) | _ => none)
    (hS : ∀ a, P.asStr (enc a) = match a with | .str s => some s | _ => none) :
    ∀ (n : Nat) (args : List Arg), args.length ≤ n → ∀ (i : Nat) (seen : Bool),
      sweepV P i seen (args.map enc) = resV enc fV eV (sweep i seen args) := by
  intro n
  induction n with
  | zero =>
    intro args h i seen
    have : args = [] := List.eq_nil_of_length_eq_zero (by omega)
    subst this; simp [sweepV, sweep, resV]
  | succ m ih =>
    intro args h i seen
    cases args with
    | nil => simp [sweepV, sweep, resV]
    | cons a r =>
      have hr : r.length ≤ m := by simp at h; omega
      have key : ∀ (hf : P.asField (enc a) = none) (he : P.asErr (enc a) = none)
          (hsw : ∀ v r', sweep i seen (a :: v :: r') =
            match a with
            | .str s => (sweep (i+2) seen r').cons1 (.any s v)
            | _ => (sweep (i+2) seen r').cons3 ⟨i, a, v⟩)
          (hsw1 : sweep i seen [a] = { diags := [.dangling a] }),
          sweepV P i seen ((a :: r).map enc) = resV enc fV eV (sweep i seen (a :: r)) := by
        intro hf he hsw hsw1
        cases r with
        | nil => simp [sweepV_dangling P i seen (enc a) hf he, hsw1, resV, ldiagV]
        | cons v r' =>
          have hr' : r'.length ≤ m := by simp at hr; omega
          rw [List.map_cons, List.map_cons, sweepV_pair P i seen (enc a) (enc v) _ hf he, hsw, ih r' hr', hS a]
          cases a <;> simp [resV, Res.cons1, Res.cons3, ResV.cons1, ResV.cons3, outV, invV]
      cases a with
      | field ty k t =>
        rw [List.map_cons, sweepV_field P i seen _ (fV ty k t) _ (by rw [hF]), ih r hr]
        simp [sweep, resV, Res.cons1, ResV.cons1, outV]
      | err e =>
        rw [List.map_cons, sweepV_err P i seen _ (eV e) _ (by rw [hF]) (by rw [hE]), ih r hr]
        cases seen <;> simp [sweep, resV, Res.cons1, Res.cons2, ResV.cons1, ResV.cons2, outV, ldiagV]
      | str s => exact key (by rw [hF]) (by rw [hE]) (fun _ _ => by simp [sweep]) (by simp [sweep])
      | int t => exact key (by rw [hF]) (by rw [hE]) (fun _ _ => by simp [sweep]) (by simp [sweep])
      | nil => exact key (by rw [hF]) (by rw [hE]) (fun _ _ => by simp [sweep]) (by simp [sweep])
      | val vk t => exact key (by rw [hF]) (by rw [hE]) (fun _ _ => by simp [sweep]) (by simp [sweep])

end link

/-- the three diagnostic messages and the two keys, READ from sugar.go by the translator, are the model's -/
theorem sweeten_messages_are_model :
    TransSweeten.msgMultiple = Sugar.msgMultiple ∧ TransSweeten.msgOdd = Sugar.msgOdd ∧
    TransSweeten.msgNonString = Sugar.msgNonString ∧ TransSweeten.keyIgnored = Sugar.keyIgnored := by
  decide +kernel

/-- one concrete encoding: a tag, then the payload -/
def encArg : Sugar.Arg → Val
  | .field ty k t => .list [.int 0, .bytes ty.toUTF8.toList, .bytes k, .bytes t]
  | .err t => .list [.int 1, .bytes t]
  | .str s => .list [.int 2, .bytes s]
  | .int t => .list [.int 3, .bytes t]
  | .nil => .list [.int 4]
  | .val vk t => .list [.int 5, .bytes (toString (repr vk)).toUTF8.toList, .bytes t]

def encPar (cap : Val → Int) : Par :=
  { asField := fun v => match v with | .list (.int 0 :: _) => some v | _ => none,
    asErr := fun v => match v with | .list [.int 1, t] => some t | _ => none,
    asStr := fun v => match v with | .list [.int 2, .bytes s] => some s | _ => none,
    cap := cap }

/-- the hypotheses of `sweepV_is_sweep` hold for `encArg` / `encPar` -/
theorem encPar_answers (cap : Val → Int) :
    (∀ a, (encPar cap).asField (encArg a) = match a with | .field ty k t => some (encArg (.field ty k t)) | _ => none) ∧
    (∀ a, (encPar cap).asErr (encArg a) = match a with | .err e => some (.bytes e) | _ => none) ∧
    (∀ a, (encPar cap).asStr (encArg a) = match a with | .str s => some s | _ => none) := by
  refine ⟨?_, ?_, ?_⟩ <;> intro a <;> cases a <;> rfl

end ZapVerif.C14

/-! ## `getMessage`, `getMessageln`, `log`, `logln` ARE the source (table `Gen/TransMessage.lean`)

sugar.go `getMessage`, `getMessageln` and the WHOLE of `(*SugaredLogger).log` / `logln` (the table TransLogger translates
only their guards), translated mechanically, are interpreted with `fmt.Sprint` / `Sprintf` / `Sprintln`, the `.(string)`
assertion, the core's `Enabled`, the base logger's `Check` and the sweetening of the context (TransSweeten) as parameters;
`Check`, `sweetenFields` and `ce.Write` are recorded.  `msgSpec_is_getMessage` says the message functions are
`Sugar.getMessage` / `getMessageln`, the functions of `message_forms`. -/
namespace ZapVerif.C14
open ZapVerif ZapVerif.GoMini ZapVerif.TransMessage ZapVerif.Gen.TransMessage

/-- `getMessage`: no arguments — the template verbatim; a template — `Sprintf`; ONE argument that is a string — that
    string; anything else — `Sprint` -/
theorem getMessage_exec_matches_source (P : Par) (t : Bytes) (args : List Val) (fl : Env) (fuel : Nat) :
    (exec (X P) (fuel + 1) getMessage_body ⟨[("p0", .bytes t), ("p1", .list args)], fl⟩).fin =
      some ([.bytes (msgSpec P t args)], fl) := by
  rw [exec_succ]
  unfold msgSpec
  cases args with
  | nil => simp [getMessage_body]
  | cons a r =>
    have hp : ¬ ((r.length : Int) + 1 = 0) := by omega
    -- one run: the template, the number of arguments and the `.(string)` assertion branch where the program does
    simp [getMessage_body, hp, Out.andThen_ite, Out.fin_ite]
    split
    · cases r with
      | nil => cases hs : P.asStr a <;> simp [hs]
      | cons b r' =>
        have hp2 : ¬ ((r'.length : Int) + 1 + 1 = 1) := by omega
        simp [hp2]
    · rfl

theorem getMessage_matches_source (P : Par) (t : Bytes) (args : List Val) (fl : Env) (fuel : Nat) :
    run (X P) (fuel + 1) "getMessage" [.bytes t, .list args] fl = .done [.bytes (msgSpec P t args)] fl :=
  run_of_exec (X_funs P) funs_getMessage rfl (getMessage_exec_matches_source P t args fl fuel)

/-- `getMessageln`: `Sprintln` without its last byte; `msg[:len(msg)-1]` cannot panic because `Sprintln` ends in a
    newline (the hypothesis: its result is not empty) -/
theorem getMessageln_exec_matches_source (P : Par) (args : List Val) (fl : Env) (fuel : Nat)
    (hne : P.sprintln args ≠ []) (hlen : ((P.sprintln args).length : Int) < 9223372036854775808) :
    (exec (X P) (fuel + 1) getMessageln_body ⟨[("p0", .list args)], fl⟩).fin = some ([.bytes (msglnSpec P args)], fl) := by
  rw [exec_succ]
  have hpos : 0 < (P.sprintln args).length := List.length_pos_iff.mpr hne
  have hw : wrap .int (((P.sprintln args).length : Int) - 1) = ((P.sprintln args).length : Int) - 1 := by
    rw [wrap_int_id] <;> omega
  have hc : (0 : Int) ≤ ((P.sprintln args).length : Int) - 1 ∧ ((P.sprintln args).length : Int) - 1 ≤ (P.sprintln args).length := by omega
  have ht : (((P.sprintln args).length : Int) - 1).toNat = (P.sprintln args).length - 1 := by omega
  have h1 : (1 : Int) ≤ ((P.sprintln args).length : Int) := by omega
  simp [getMessageln_body, hw, hc, ht, h1, msglnSpec, List.dropLast_eq_take]

theorem getMessageln_matches_source (P : Par) (args : List Val) (fl : Env) (fuel : Nat)
    (hne : P.sprintln args ≠ []) (hlen : ((P.sprintln args).length : Int) < 9223372036854775808) :
    run (X P) (fuel + 1) "getMessageln" [.list args] fl = .done [.bytes (msglnSpec P args)] fl :=
  run_of_exec (X_funs P) funs_getMessageln rfl (getMessageln_exec_matches_source P args fl fuel hne hlen)

/-- what `log` / `logln` record after the guard, for the message `m`: the base logger's `Check(lvl, m)`; if it answers
    an entry, the sweetening of the CONTEXT (with skip 1) and then `Write` of exactly those fields on that entry -/
def logTrace (P : Par) (base : Val) (l : Int) (m : Bytes) (context : List Val) : List Val :=
  .list [TransMessage.nm "Logger.Check", base, .int l, .bytes m] ::
    (if (P.check base l m).isEmpty then []
     else [.list [TransMessage.nm "Sugar.sweetenFields", .list context, .int 1],
           .list [TransMessage.nm "CE.Write", .list (P.check base l m), .list (P.sweeten context)]])

/-- `(*SugaredLogger).log`, the whole function: a level below DPanic the core does not enable does NOTHING (nothing is
    formatted, nobody is asked); otherwise the message is `getMessage(template, fmtArgs)` and `logTrace` happens -/
theorem Sugar_log_matches_source (P : Par) (base : Val) (l : Int) (t : Bytes) (args context ev : List Val) (fuel : Nat) :
    run (X P) (fuel + 2) "Sugar_log" [.int l, .bytes t, .list args, .list context] [("ev", .list ev), ("base", base)] =
      .done [] [("ev", .list (if l < 3 ∧ P.cen l = false then ev else ev ++ logTrace P base l (msgSpec P t args) context)), ("base", base)] := by
  have hcall : ∀ σ : State, retK σ [.loc "l0"] "getMessage"
      (exec (X P) (fuel + 1) getMessage_body ⟨[("p0", .bytes t), ("p1", .list args)], [("ev", .list ev), ("base", base)]⟩) = _ :=
    fun σ => retK_of_fin1 σ _ _ _ _ _ (getMessage_exec_matches_source P t args _ fuel)
  refine run_of_exec (X_funs P) funs_Sugar_log rfl ?_
  by_cases hg : l < 3 ∧ P.cen l = false
  · simp [Sugar_log_body, hg]
  · have hb : (decide (l < 3) && !P.cen l) = false := by simpa using hg
    rw [if_neg hg]
    -- past the guard (`andK_ok_bool` keeps it one boolean): one run, branching on `Check`'s answer where `log` does
    simp [-andK_bool, Sugar_log_body, hcall, andK_ok_bool, hb, Out.fin_ite, logTrace, nm_check, nm_sweeten, nm_ceWrite]
    cases P.check base l (msgSpec P t args) <;> simp

theorem Sugar_logln_matches_source (P : Par) (base : Val) (l : Int) (args context ev : List Val) (fuel : Nat)
    (hne : P.sprintln args ≠ []) (hlen : ((P.sprintln args).length : Int) < 9223372036854775808) :
    run (X P) (fuel + 2) "Sugar_logln" [.int l, .list args, .list context] [("ev", .list ev), ("base", base)] =
      .done [] [("ev", .list (if l < 3 ∧ P.cen l = false then ev else ev ++ logTrace P base l (msglnSpec P args) context)), ("base", base)] := by
  have hcall : ∀ σ : State, retK σ [.loc "l0"] "getMessageln"
      (exec (X P) (fuel + 1) getMessageln_body ⟨[("p0", .list args)], [("ev", .list ev), ("base", base)]⟩) = _ :=
    fun σ => retK_of_fin1 σ _ _ _ _ _ (getMessageln_exec_matches_source P args _ fuel hne hlen)
  refine run_of_exec (X_funs P) funs_Sugar_logln rfl ?_
  by_cases hg : l < 3 ∧ P.cen l = false
  · simp [Sugar_logln_body, hg]
  · have hb : (decide (l < 3) && !P.cen l) = false := by simpa using hg
    rw [if_neg hg]
    simp [-andK_bool, Sugar_logln_body, hcall, andK_ok_bool, hb, Out.fin_ite, logTrace, nm_check, nm_sweeten, nm_ceWrite]
    cases P.check base l (msglnSpec P args) <;> simp

/-- the translated `getMessage` / `getMessageln` ARE `Sugar.getMessage` / `getMessageln` (the functions of
    `message_forms`), for the `fmt` the parameters induce on any encoding of the arguments on which the `.(string)`
    assertion answers the constructor -/
theorem msgSpec_is_getMessage (P : Par) (enc : Sugar.Arg → Val)
    (hs : ∀ a, P.asStr (enc a) = match a with | .str s => some s | _ => none) (t : Bytes) (args : List Sugar.Arg) :
    msgSpec P t (args.map enc) =
      Sugar.getMessage ⟨fun as => P.sprint (as.map enc), fun t as => P.sprintf t (as.map enc), fun as => P.sprintln (as.map enc)⟩ t args ∧
    msglnSpec P (args.map enc) =
      Sugar.getMessageln ⟨fun as => P.sprint (as.map enc), fun t as => P.sprintf t (as.map enc), fun as => P.sprintln (as.map enc)⟩ args := by
  refine ⟨?_, rfl⟩
  unfold msgSpec Sugar.getMessage
  cases args with
  | nil => simp
  | cons a r =>
    cases t with
    | cons c cs => simp
    | nil =>
      cases r with
      | nil => cases a <;> simp [hs]
      | cons b r' => simp

end ZapVerif.C14
