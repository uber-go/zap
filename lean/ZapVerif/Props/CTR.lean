import ZapVerif.Proofs.GoMiniFuel
import ZapVerif.Gen.TransProbe
/-! # CTR — self-test of the Go→GoMini translator (not a zap property)

The differential test (`bin/check CTR`) runs every translated function compiled by Go and interpreted by GoMini on
the same inputs.  The theorems here are sanity facts about the interpreter on generated probe terms, proved by
evaluation: they pin the semantics decisions of docs/TRANSLATOR.md to concrete instances. -/
namespace ZapVerif.CTR
open ZapVerif ZapVerif.GoMini ZapVerif.Gen.TransProbe

def X : Ctx := { ext := fun _ _ => none, funs := funs }

/-- uint32 arithmetic wraps: 4294967295 + 7 = 6, 7 − 4294967295 = 8, … -/
theorem probe_u32_wraps :
    run X 1 "probeU32" [.int 7, .int 4294967295] [] =
      .done [.int 6, .int 8, .int 4294967289, .int 4294967288, .int 7, .int 4294967295, .int 2147483648, .int 0] [] := by
  rfl

/-- signed division truncates toward zero and `MinInt64 / -1` wraps -/
theorem probe_div_truncates :
    run X 1 "probeDiv" [.int (-7), .int 2] [] = .done [.int (-3), .int (-1)] [] ∧
    run X 1 "probeDiv" [.int (-9223372036854775808), .int (-1)] [] = .done [.int (-9223372036854775808), .int 0] [] ∧
    run X 1 "probeDiv" [.int 1, .int 0] [] = .panic .divide := by
  refine ⟨?_, ?_, ?_⟩ <;> rfl

/-- slicing and indexing panic exactly outside `0 ≤ lo ≤ hi ≤ len` / `0 ≤ i < len` -/
theorem probe_bounds :
    run X 1 "probeSlice" [.bytes [1, 2, 3], .int 1, .int 3] [] = .done [.bytes [2, 3]] [] ∧
    run X 1 "probeSlice" [.bytes [1, 2, 3], .int 2, .int 1] [] = .panic .slice ∧
    run X 1 "probeSlice" [.bytes [1, 2, 3], .int 0, .int 4] [] = .panic .slice ∧
    run X 1 "probeIndex" [.bytes [1, 2, 3], .int 3] [] = .panic .index ∧
    run X 1 "probeIndex" [.bytes [1, 2, 3], .int (-1)] [] = .panic .index := by
  refine ⟨?_, ?_, ?_, ?_, ?_⟩ <;> rfl

/-- fuel monotonicity of the interpreter, for every program and state: an execution that does not run out of fuel
    is unchanged by more fuel — `Out.oof` is the only fuel-dependent outcome, so "`fuel + k` units suffice" in the
    `…_matches_source` theorems means "every amount from `k` on gives this same result" -/
theorem fuel_monotone (X : Ctx) (fuel extra : Nat) (s : Stmt) (σ : State) (h : exec X fuel s σ ≠ .oof) :
    exec X (fuel + extra) s σ = exec X fuel s σ := exec_mono X fuel extra s σ h

/-- the intrinsics of `probeDefer` and `probeNilable` -/
def X2 : Ctx :=
  { ext := fun f a => match f, a with
      | "probe.note", [.int x] => some [.int (x + 1)]
      | "probe.done", [] => some []
      | _, _ => none,
    funs := funs }

/-- `defer r.done()` runs after the results have been evaluated — `note(3)`, `note(5)`, then `done` — on both return paths;
    recorded calls in argument position keep their source order -/
theorem probe_defer_runs_last :
    run X2 2 "probeDefer" [.int 3, .int 5] [("n", .int 0), ("ev", .list [])] =
      .done [.int 6] [("n", .int 1), ("ev", .list [
        .list [.bytes [112, 114, 111, 98, 101, 46, 110, 111, 116, 101], .int 3],
        .list [.bytes [112, 114, 111, 98, 101, 46, 110, 111, 116, 101], .int 5],
        .list [.bytes [112, 114, 111, 98, 101, 46, 100, 111, 110, 101]]])] ∧
    run X2 2 "probeDefer" [.int (-4), .int 5] [("n", .int 0), ("ev", .list [])] =
      .done [.int (-3)] [("n", .int 1), ("ev", .list [
        .list [.bytes [112, 114, 111, 98, 101, 46, 110, 111, 116, 101], .int (-4)],
        .list [.bytes [112, 114, 111, 98, 101, 46, 100, 111, 110, 101]]])] := by
  refine ⟨?_, ?_⟩ <;> rfl

/-- nil-able values: `nil` is the empty list, interface equality is value equality -/
theorem probe_nilable :
    run X2 2 "probeNilable" []
        [("n", .int 0), ("link", .list [.int 1]), ("other", .list [.int 1]), ("sub", .list []), ("ev", .list [])] =
      .done [.bool false, .bool true, .bool false, .int 0]
        [("n", .int 0), ("link", .list [.int 1]), ("other", .list [.int 1]), ("sub", .list []), ("ev", .list [])] ∧
    run X2 2 "probeNilable" []
        [("n", .int 0), ("link", .list []), ("other", .list [.int 2]), ("sub", .list [.int 7, .bytes [1]]), ("ev", .list [])] =
      .done [.bool false, .bool true, .bool true, .int 7]
        [("n", .int 0), ("link", .list []), ("other", .list [.int 2]), ("sub", .list [.int 7, .bytes [1]]), ("ev", .list [])] := by
  refine ⟨?_, ?_⟩ <;> rfl

end ZapVerif.CTR
