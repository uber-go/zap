import ZapVerif.Model.Console
import ZapVerif.Proofs.EntryWF
import ZapVerif.Proofs.Spaced
import ZapVerif.Gen.EntryMeta
import ZapVerif.Proofs.SubEnc
import ZapVerif.Proofs.TransConsoleLink
/-! # C16 — console encoder lines have the documented shape with a valid JSON context -/
namespace ZapVerif.C16
open ZapVerif ZapVerif.Esc ZapVerif.Json ZapVerif.Enc ZapVerif.Entry ZapVerif.Console

/-- the documented shape: present columns in the fixed order time, level, name, caller, function, joined by the
    separator; then (separator if anything precedes) the message iff its key is set; then (separator if anything
    precedes) the context object iff it is non-empty; then a newline and the stack iff key ∧ stack ≠ ""; then the
    line ending.  All 2^7 presence patterns are instances. -/
theorem console_shape (c : Cfg) (sepRaw : Bytes) (e : Ent) (k : Cols) (ctx : List (List Field)) (fields : List Field) :
    ∃ sepc cols msgPart ctxPart stackPart,
      consoleLine c sepRaw e k ctx fields = joinSep sepc cols ++ msgPart ++ ctxPart ++ stackPart ++ c.ending ∧
      sepc = (if sepRaw.isEmpty then [9] else sepRaw) ∧
      cols = columns c e k ∧
      msgPart = (if !c.messageKey.isEmpty then (if (joinSep sepc cols).isEmpty then [] else sepc) ++ e.message else []) ∧
      ctxPart = (if (contextBytes ctx fields).isEmpty then []
                 else (if (joinSep sepc cols ++ msgPart).isEmpty then [] else sepc) ++ 123 :: (contextBytes ctx fields ++ [125])) ∧
      stackPart = (if !e.stack.isEmpty && !c.stacktraceKey.isEmpty then 10 :: e.stack else []) := by
  refine ⟨_, _, _, _, _, ?_, rfl, rfl, rfl, rfl, rfl⟩
  -- every stage of `consoleLine` appends to the line so far, under a guard: pull the line out of each guard
  simp only [consoleLine, TransConsole.sepIf_append, TransConsole.ite_append_left, TransConsole.ite_append_right]

/-- the columns are a sub-list of [time, level, name, caller, function] in that order, each present exactly when
    its key is set, the entry carries a value for it, and its encoder appended something -/
theorem columns_order (c : Cfg) (e : Ent) (k : Cols) :
    columns c e k =
      (if !c.timeKey.isEmpty && e.time.isSome then optL k.time else []) ++
      (if !c.levelKey.isEmpty then optL k.level else []) ++
      (if !e.name.isEmpty && !c.nameKey.isEmpty then optL k.name else []) ++
      (if e.callerDefined then
         (if !c.callerKey.isEmpty then optL k.caller else []) ++ (if !c.functionKey.isEmpty then [e.function] else [])
       else []) := rfl

/-- the context is produced by the SAME machine as the JSON encoder (spaced mode) from the SAME calls — context
    fields then call-site fields — and equals their compositional spaced output plus the closing braces owed -/
theorem ctx_is_json_ctx (ctx : List (List Field)) (fields : List Field)
    (hc : ∀ fs ∈ ctx, ∀ f ∈ fs, FieldOK f) (hf : ∀ f ∈ fields, FieldOK f) :
    contextBytes ctx fields =
      (outO true true (ctx.flatMap addFields ++ addFields fields)).1 ++
        List.replicate (outO true true (ctx.flatMap addFields ++ addFields fields)).2 125 := by
  unfold contextBytes ctxEnc ctxOf
  simp only []
  rw [← runO_append]
  rw [runO_eq true _ [] 0 true (Or.inl ⟨rfl, rfl⟩) (WFo_append _ _ (ctx_good ctx hc).1 (addFields_good fields hf).1)]
  simp

/-- spaced and compact output leave the same namespaces open: they differ only in the blanks after `,` and `:` -/
theorem spaced_same_nesting : ∀ (calls : List OC) (f : Bool), (outO true f calls).2 = (outO false f calls).2
  | [], _ => by simp [outO]
  | OC.prim _ _ :: r, f => by simp only [outO]; exact spaced_same_nesting r false
  | OC.ns _ :: r, f => by simp only [outO]; rw [spaced_same_nesting r true]
  | OC.obj _ _ :: r, f => by simp only [outO]; exact spaced_same_nesting r false
  | OC.arr _ _ :: r, f => by simp only [outO]; exact spaced_same_nesting r false

/-- the compact rendering of those same calls is the object the JSON encoder emits for the fields (C02) -/
theorem ctx_compact_is_tree (ctx : List (List Field)) (fields : List Field) :
    (outO false true (ctx.flatMap addFields ++ addFields fields)).1 ++
      List.replicate (outO false true (ctx.flatMap addFields ++ addFields fields)).2 125 =
    memOut true (denO (ctx.flatMap addFields ++ addFields fields)) := outO_den _ true

/-- the context object is valid JSON and holds exactly the fields the JSON encoder emits: reading
    `{` context `}` back (one optional blank after `,` and `:`) yields the tree `denO` of the same calls — the
    tree C02 proves the JSON encoder's line decodes to for its fields part — in order, at the same nesting -/
theorem ctx_valid (ctx : List (List Field)) (fields : List Field)
    (hc : ∀ fs ∈ ctx, ∀ f ∈ fs, FieldOK f) (hf : ∀ f ∈ fields, FieldOK f) :
    parseV (sizeT (T.obj (denTO (ctx.flatMap addFields ++ addFields fields))))
        (123 :: (contextBytes ctx fields ++ [125])) =
      some (J.obj (denO (ctx.flatMap addFields ++ addFields fields)), []) := by
  rw [ctx_is_json_ctx ctx fields hc hf]
  exact spaced_object_parses _ (WFo_append _ _ (ctx_good ctx hc).1 (addFields_good fields hf).1)

/-- the guard structure of `consoleEncoder.EncodeEntry` / `writeContext` that `columns` and `consoleLine` mirror
    (re-read from zapcore/console_encoder.go on every run) -/
def expectedConsoleEntryGuards : List String := [
  "0:c.TimeKey != \"\" && c.EncodeTime != nil && !ent.Time.IsZero()",
  "0:c.LevelKey != \"\" && c.EncodeLevel != nil",
  "0:ent.LoggerName != \"\" && c.NameKey != \"\"",
  "1:nameEncoder == nil",
  "0:ent.Caller.Defined",
  "1:c.CallerKey != \"\" && c.EncodeCaller != nil",
  "1:c.FunctionKey != \"\"",
  "0:range arr.elems",
  "1:i > 0",
  "0:c.MessageKey != \"\"",
  "0:ent.Stack != \"\" && c.StacktraceKey != \"\""
]

theorem console_guards_as_modelled :
    Gen.consoleEntryGuards = expectedConsoleEntryGuards ∧ Gen.consoleContextGuards = ["0:context.buf.Len() == 0"] :=
  ⟨rfl, rfl⟩

/-- non-vacuity: a line with two columns, a message and one field -/
example :
    consoleLine ⟨[109], [108], [], [], [], [], [], [], false⟩ [] ⟨0, .noop, none, [], .noop, false, .noop, [], [], [104, 105], []⟩
      ⟨none, some [73, 78, 70, 79], none, none⟩ [] [.prim [107] (.scalar (.int 1))] =
    [73, 78, 70, 79, 9, 104, 105, 9, 123, 34, 107, 34, 58, 32, 49, 125, 10] := by decide +kernel

/-! ## built-in sub-encoders (model `Model/SubEnc.lean`, lemmas `Proofs/SubEnc.lean`)

The column texts of the built-in exact encoders are computed by the model: `SubEnc.colOf` of the computed result,
`fmt.Fprint` of the one string / int64 the function appended. -/
section SubEncoders
open ZapVerif.SubEnc

/-- the columns of an entry under built-in exact encoders -/
def builtinCols (lk : LvlEnc) (ck : CallerEnc) (level : Int) (timeC : Option Bytes) (name : Bytes)
    (defined : Bool) (file : Bytes) (line : Int) : Cols :=
  ⟨timeC, colOf (lvlRes (some lk) .noop level) none, colOf (nameRes true .noop name) none,
   colOf (callerRes (some ck) .noop defined file line) none⟩

/-- console columns under the built-in encoders: the level column is exactly the level encoder's text (table text, or
    the table text inside the colour escape), the name column the logger name, the caller column `file:line` with the
    documented trimming; each present under the documented condition, in the documented order -/
theorem console_builtin_columns (c : Cfg) (lk : LvlEnc) (ck : CallerEnc) (level : Int) (time : Option TimeV)
    (timeC : Option Bytes) (name : Bytes) (file : Bytes) (line : Int) (function message stack : Bytes) :
    columns c (builtinEnt lk ck level time name true file line function message stack)
        (builtinCols lk ck level timeC name true file line) =
      (if !c.timeKey.isEmpty && time.isSome then optL timeC else []) ++
      (if !c.levelKey.isEmpty then [levelText lk level] else []) ++
      (if !name.isEmpty && !c.nameKey.isEmpty then [name] else []) ++
      ((if !c.callerKey.isEmpty then [callerText ck true file line] else []) ++
       (if !c.functionKey.isEmpty then [function] else [])) := by
  simp [columns, builtinEnt, builtinCols, colOf, colText, lvlRes, nameRes, nameFull, callerRes, optL]

/-- `EpochNanosTimeEncoder` column: the decimal of UnixNano -/
theorem console_nanos_column (o : SubRes) (n : Int) : colOf (timeRes true o n) none = some (fmtInt n) := rfl

/-- the level column determines the level (all 256 values, every level encoder) -/
theorem console_level_column_injective (k : LvlEnc) :
    ∀ a ∈ allLevels, ∀ b ∈ allLevels, colOf (lvlRes (some k) .noop a) none = colOf (lvlRes (some k) .noop b) none → a = b := by
  intro a ha b hb h
  simp only [colOf, lvlRes, colText, Option.orElse, Option.some.injEq] at h
  exact levelText_inj k a ha b hb h

/-- non-vacuity: coloured capital level, short caller -/
example :
    consoleLine ⟨[109], [108], [], [], [99], [], [], [], false⟩ []
      (builtinEnt .capitalColor .short 1 none [] true [97, 47, 98, 47, 99] 7 [] [104, 105] [])
      (builtinCols .capitalColor .short 1 none [] true [97, 47, 98, 47, 99] 7) [] [] =
    [27, 91, 51, 51, 109, 87, 65, 82, 78, 27, 91, 48, 109, 9, 98, 47, 99, 58, 55, 9, 104, 105, 10] := by decide +kernel

end SubEncoders

end ZapVerif.C16

/-! ## the console encoder IS the source (table `Gen/TransConsole.lean`)

`addSeparatorIfNecessary`, `writeContext` and `EncodeEntry` of zapcore/console_encoder.go, translated mechanically, are
interpreted for EVERY configuration, entry, accumulated context and every behaviour of the sub-encoders and of
`addFields` (parameters):

* `addSeparatorIfNecessary` is `Console.sepIf`: the separator iff the line is non-empty — whatever the line ends with;
* `writeContext` clones the logger's JSON encoder (the accumulated context is COPIED, the logger's encoder is only
  read), adds the call-site fields, closes the namespaces, and writes `{…}` after a separator exactly when the text is
  non-empty; the scratch buffer is freed and the clone put back AFTER the text was copied, on both paths;
* `EncodeEntry` prints the columns the sub-encoders appended — time, level, name, caller (only with a key AND an
  encoder), function (with a key, whatever the caller encoder is) — joined by the separator, then message, context,
  stack, line ending: `TransConsole.consoleBytes`, which is `Console.consoleLine` (`consoleBytes_is_consoleLine`). -/
namespace ZapVerif.C16
open ZapVerif ZapVerif.GoMini ZapVerif.TransConsole ZapVerif.Gen.TransConsole
open ZapVerif.TransJsonEnc (St closeNs ECfg EEnt)

theorem addSeparatorIfNecessary_exec_matches_source (P : Par) (sepc line : Bytes) (fl : Env)
    (hfl : Env.get "consoleSep" fl = some (.bytes sepc)) (fuel : Nat) :
    (exec (X P) (fuel + 1) addSeparatorIfNecessary_body ⟨[("p0", .bytes line)], fl⟩).fin =
      some ([.bytes (sepIf sepc line)], fl) := by
  rw [exec_succ]
  cases line with
  | nil => simp [addSeparatorIfNecessary_body, sepIf]
  | cons x xs =>
    have hpos : (0 : Int) < (xs.length : Int) + 1 := by omega
    have hne : ¬ ((xs.length : Int) + 1 = 0) := by omega
    simp [addSeparatorIfNecessary_body, sepIf, hpos, hfl]

theorem addSeparatorIfNecessary_call (P : Par) (sepc line : Bytes) (fuel : Nat) (σ : State) (x : String) (fl : Env)
    (hfl : Env.get "consoleSep" fl = some (.bytes sepc)) :
    retK σ [.loc x] "addSeparatorIfNecessary"
        (exec (X P) (fuel + 1) addSeparatorIfNecessary_body ⟨[("p0", .bytes line)], fl⟩) =
      .normal (({ σ with fld := fl } : State).assign1 (.loc x) (.bytes (sepIf sepc line))) :=
  retK_of_fin1 σ _ _ _ _ _ (addSeparatorIfNecessary_exec_matches_source P sepc line fl hfl fuel)

/-- `addSeparatorIfNecessary(line)`: the separator iff the line is not empty -/
theorem addSeparatorIfNecessary_matches_source (P : Par) (c : ECfg) (sepc line : Bytes) (b : Bytes) (sp : Bool) (ns : Int)
    (rb re : List Val) (obuf : Bytes) (osp : Bool) (ons : Int) (self : Val) (ev : List Val) (fuel : Nat) :
    run (X P) (fuel + 1) "addSeparatorIfNecessary" [.bytes line] (conFld c sepc b sp ns rb re obuf osp ons self ev) =
      .done [.bytes (sepIf sepc line)] (conFld c sepc b sp ns rb re obuf osp ons self ev) :=
  run_of_exec (X_funs P) funs_addSeparatorIfNecessary rfl (addSeparatorIfNecessary_exec_matches_source P sepc line _ (by simp) fuel)

/-- the recorded calls of `writeContext`: the clone first; `context.buf.Free()` and `putJSONEncoder(context)` last -/
def writeContextEv (P : Par) (obuf : Bytes) (osp : Bool) (ons : Int) (extra self : Val) : List Val :=
  [.list [TransConsole.nm "jsonEncoder.Clone", .bytes obuf, .bool osp, .int ons],
   .list [TransConsole.nm "Buffer.Free", .bytes (ctxBytes P obuf osp ons extra)],
   .list [TransConsole.nm "putJSONEncoder", .list (ctxSt P obuf osp ons extra).rbuf, self]]

theorem writeContext_exec_matches_source (P : Par) (c : ECfg) (sepc line : Bytes) (extra : Val) (b : Bytes) (sp : Bool)
    (ns : Int) (rb re : List Val) (obuf : Bytes) (osp : Bool) (ons : Int) (self : Val) (ev : List Val) (fuel : Nat) :
    (exec (X P) (fuel + 2) writeContext_body
        ⟨[("p0", .bytes line), ("p1", extra)], conFld c sepc b sp ns rb re obuf osp ons self ev⟩).fin =
      some ([.bytes (writeContextSpec P sepc obuf osp ons extra line)],
        conFld c sepc (ctxBytes P obuf osp ons extra) osp 0 (ctxSt P obuf osp ons extra).rbuf (ctxSt P obuf osp ons extra).renc
          obuf osp ons self (ev ++ writeContextEv P obuf osp ons extra self)) := by
  rw [exec_succ]
  -- one pass over the body with the test `len(context.buf) == 0` left open: both paths share everything before it
  simp [writeContext_body, addSeparatorIfNecessary_call, Env.get, State.assign1, Out.andThen_ite, Out.fin_ite]
  by_cases he : ctxBytes P obuf osp ons extra = [] <;>
    simp [writeContextSpec, writeContextEv, nm_Clone, nm_free, nm_put, he] <;> simp_all [ctxBytes, ctxSt]

/-- `writeContext(line, extra)`: the line afterwards is `writeContextSpec`; the clone is made first, its buffer freed
    and the encoder put back last — on the early return too -/
theorem writeContext_matches_source (P : Par) (c : ECfg) (sepc line : Bytes) (extra : Val) (b : Bytes) (sp : Bool)
    (ns : Int) (rb re : List Val) (obuf : Bytes) (osp : Bool) (ons : Int) (self : Val) (ev : List Val) (fuel : Nat) :
    run (X P) (fuel + 2) "writeContext" [.bytes line, extra] (conFld c sepc b sp ns rb re obuf osp ons self ev) =
      .done [.bytes (writeContextSpec P sepc obuf osp ons extra line)]
        (conFld c sepc (ctxBytes P obuf osp ons extra) osp 0 (ctxSt P obuf osp ons extra).rbuf (ctxSt P obuf osp ons extra).renc
          obuf osp ons self (ev ++ writeContextEv P obuf osp ons extra self)) :=
  run_of_exec (X_funs P) funs_writeContext rfl
    (writeContext_exec_matches_source P c sepc line extra b sp ns rb re obuf osp ons self ev fuel)

/-! ### `EncodeEntry`, statement by statement -/

/-- the k-th top-level statement of the body -/
def ceStmt : Nat → Stmt → Stmt
  | 0, s => s.hd
  | k + 1, s => ceStmt k s.tl

section blocks
variable (P : Par) (c : ECfg) (sepc : Bytes) (e : EEnt) (fields : Val) (b : Bytes) (sp : Bool) (ns : Int) (rb re : List Val)
  (obuf : Bytes) (osp : Bool) (ons : Int) (self : Val) (ev : List Val) (rec : Stmt → State → GoMini.Out)

theorem CE_get :
    execS (X P) rec (ceStmt 0 EncodeEntry_body)
        ⟨[("p0", e.val), ("p1", fields)], conFld c sepc b sp ns rb re obuf osp ons self ev⟩ =
      .normal ⟨[("p0", e.val), ("p1", fields), ("l0", .bytes [])], conFld c sepc b sp ns rb re obuf osp ons self
        (ev ++ [.list [TransConsole.nm "bufferpool.Get"]])⟩ := by
  dsimp only [ceStmt, Stmt.hd, Stmt.tl, EncodeEntry_body]
  simp [nm_get]

theorem CE_getSlice :
    execS (X P) rec (ceStmt 1 EncodeEntry_body)
        ⟨[("p0", e.val), ("p1", fields), ("l0", .bytes [])], conFld c sepc b sp ns rb re obuf osp ons self ev⟩ =
      .normal ⟨cLoc e fields [] [] [], conFld c sepc b sp ns rb re obuf osp ons self
        (ev ++ [.list [TransConsole.nm "getSliceEncoder"]])⟩ := by
  dsimp only [ceStmt, Stmt.hd, Stmt.tl, EncodeEntry_body]
  simp [cLoc, nm_getSlice]

theorem CE_time (line : Bytes) (es : List Val) (rest : Env) :
    execS (X P) rec (ceStmt 2 EncodeEntry_body) ⟨cLoc e fields line es rest, conFld c sepc b sp ns rb re obuf osp ons self ev⟩ =
      .normal ⟨cLoc e fields line (timeCol P c e es) rest, conFld c sepc b sp ns rb re obuf osp ons self ev⟩ := by
  dsimp only [ceStmt, Stmt.hd, Stmt.tl, EncodeEntry_body]
  cases hk : c.timeKey.isEmpty
  · cases hf : c.encTime.isEmpty
    · cases hz : P.timeIsZero e.time <;> simp [cLoc, timeCol, hk, hf, hz]
    · simp [cLoc, timeCol, hk, hf]
  · simp [cLoc, timeCol, hk]

theorem CE_level (line : Bytes) (es : List Val) (rest : Env) :
    execS (X P) rec (ceStmt 3 EncodeEntry_body) ⟨cLoc e fields line es rest, conFld c sepc b sp ns rb re obuf osp ons self ev⟩ =
      .normal ⟨cLoc e fields line (levelCol P c e es) rest, conFld c sepc b sp ns rb re obuf osp ons self ev⟩ := by
  dsimp only [ceStmt, Stmt.hd, Stmt.tl, EncodeEntry_body]
  cases hk : c.levelKey.isEmpty
  · cases hf : c.encLevel.isEmpty <;> simp [cLoc, levelCol, hk, hf]
  · simp [cLoc, levelCol, hk]

/-- `nameEncoder` (l2) stays behind in the locals -/
theorem CE_name (line : Bytes) (es : List Val) (rest : Env) :
    execS (X P) rec (ceStmt 4 EncodeEntry_body) ⟨cLoc e fields line es rest, conFld c sepc b sp ns rb re obuf osp ons self ev⟩ =
      .normal ⟨cLoc e fields line (nameCol P c e es)
          (if e.name.isEmpty || c.nameKey.isEmpty then rest else Env.set "l2" (.list (TransJsonEnc.nameFn c)) rest),
        conFld c sepc b sp ns rb re obuf osp ons self ev⟩ := by
  dsimp only [ceStmt, Stmt.hd, Stmt.tl, EncodeEntry_body]
  cases hn : e.name.isEmpty
  · cases hk : c.nameKey.isEmpty
    · cases hf : c.encName.isEmpty <;> simp [cLoc, nameCol, TransJsonEnc.nameFn, hn, hk, hf]
    · simp [cLoc, nameCol, hn, hk]
  · simp [cLoc, nameCol, hn]

/-- caller: only with a key AND an encoder; function: with a key, whatever the caller encoder is -/
theorem CE_caller (line : Bytes) (es : List Val) (rest : Env) :
    execS (X P) rec (ceStmt 5 EncodeEntry_body) ⟨cLoc e fields line es rest, conFld c sepc b sp ns rb re obuf osp ons self ev⟩ =
      .normal ⟨cLoc e fields line (callerCol P c e es) rest, conFld c sepc b sp ns rb re obuf osp ons self ev⟩ := by
  dsimp only [ceStmt, Stmt.hd, Stmt.tl, EncodeEntry_body]
  -- two independent guards under one: run the statement once with all three left open, then compare the case tables
  simp [cLoc, callerCol, Out.andThen_ite, Res.out_ite]
  cases e.callerDefined <;> cases c.callerKey <;> cases c.encCaller <;> cases c.functionKey <;> simp

theorem CE_print (line : Bytes) (es : List Val) (rest : Env) :
    ∃ rest', execS (X P) rec (ceStmt 6 EncodeEntry_body) ⟨cLoc e fields line es rest, conFld c sepc b sp ns rb re obuf osp ons self ev⟩ =
      .normal ⟨cLoc e fields (joinCols P sepc line es.zipIdx) es rest', conFld c sepc b sp ns rb re obuf osp ons self ev⟩ := by
  have hstep : ∀ (l : Bytes) (rest : Env) (i : Nat) (y : Val), es[i]? = some y →
      ∃ rest', execS (X P) rec EncodeEntry_loop0.rbody
        (((⟨cLoc e fields l es rest, conFld c sepc b sp ns rb re obuf osp ons self ev⟩ : State).assign1 (.loc "l3") (.int i)).assign1
          .blank ((fun v : Val => v) y)) =
      .normal ⟨cLoc e fields ((if i > 0 then l ++ sepc else l) ++ P.text y) es rest',
        conFld c sepc b sp ns rb re obuf osp ons self ev⟩ := by
    intro l rest i y hy
    refine ⟨Env.set "l3" (.int i) rest, ?_⟩
    have hidx := indexVal_list_get es i y hy
    by_cases hi : i = 0
    · subst hi
      have hidx : indexVal (.list es) (.int 0) = .ok y := by simpa using hidx
      simp [EncodeEntry_loop0, Stmt.rbody, cLoc, State.assign1, Env.set, hidx]
    · have hp : (0 : Int) < (i : Int) := by omega
      have hp' : 0 < i := by omega
      simp [EncodeEntry_loop0, Stmt.rbody, cLoc, State.assign1, Env.set, hidx, hp']
  have hfold := rangeRun_foldIdx (execS (X P) rec EncodeEntry_loop0.rbody) (.loc "l3") .blank (fun v : Val => v)
    (fun (l : Bytes) (rest : Env) => (⟨cLoc e fields l es rest, conFld c sepc b sp ns rb re obuf osp ons self ev⟩ : State))
    (fun l i y => (if i > 0 then l ++ sepc else l) ++ P.text y) es hstep es 0 line rest rfl
  have hs : ceStmt 6 EncodeEntry_body =
      .range (.loc "l3") .blank (.index (.loc "l1") (.lit (.int 0))) EncodeEntry_loop0.rbody := rfl
  have hev : evalE (X P) ⟨cLoc e fields line es rest, conFld c sepc b sp ns rb re obuf osp ons self ev⟩
      (.index (.loc "l1") (.lit (.int 0))) = .ok (.list es) := by
    simp [cLoc]
  rw [hs, execS_range, hev]
  simpa only [Res.out, List.map_id', joinCols] using hfold

theorem CE_putSlice (line : Bytes) (es : List Val) (rest : Env) :
    execS (X P) rec (ceStmt 7 EncodeEntry_body) ⟨cLoc e fields line es rest, conFld c sepc b sp ns rb re obuf osp ons self ev⟩ =
      .normal ⟨cLoc e fields line es rest, conFld c sepc b sp ns rb re obuf osp ons self
        (ev ++ [.list [TransConsole.nm "putSliceEncoder", arrV es]])⟩ := by
  dsimp only [ceStmt, Stmt.hd, Stmt.tl, EncodeEntry_body]
  simp [cLoc, nm_putSlice]

theorem CE_message (line : Bytes) (es : List Val) (rest : Env) (fuel : Nat) (hrec : rec = exec (X P) (fuel + 1)) :
    execS (X P) rec (ceStmt 8 EncodeEntry_body) ⟨cLoc e fields line es rest, conFld c sepc b sp ns rb re obuf osp ons self ev⟩ =
      .normal ⟨cLoc e fields (messageLine c sepc e line) es rest, conFld c sepc b sp ns rb re obuf osp ons self ev⟩ := by
  dsimp only [ceStmt, Stmt.hd, Stmt.tl, EncodeEntry_body]
  subst hrec
  cases hk : c.messageKey.isEmpty <;>
    simp [cLoc, messageLine, hk, addSeparatorIfNecessary_call, Env.get, State.assign1, Env.set]

theorem CE_context (line : Bytes) (es : List Val) (rest : Env) (fuel : Nat) (hrec : rec = exec (X P) (fuel + 2)) :
    execS (X P) rec (ceStmt 9 EncodeEntry_body) ⟨cLoc e fields line es rest, conFld c sepc b sp ns rb re obuf osp ons self ev⟩ =
      .normal ⟨cLoc e fields (writeContextSpec P sepc obuf osp ons fields line) es rest,
        conFld c sepc (ctxBytes P obuf osp ons fields) osp 0 (ctxSt P obuf osp ons fields).rbuf (ctxSt P obuf osp ons fields).renc
          obuf osp ons self (ev ++ writeContextEv P obuf osp ons fields self)⟩ := by
  dsimp only [ceStmt, Stmt.hd, Stmt.tl, EncodeEntry_body]
  subst hrec
  have hcall : ∀ σ : State, retK σ [.loc "l0"] "writeContext"
      (exec (X P) (fuel + 2) writeContext_body
        ⟨[("p0", .bytes line), ("p1", fields)], conFld c sepc b sp ns rb re obuf osp ons self ev⟩) = _ :=
    fun σ => retK_of_fin1 σ _ _ _ _ _ (writeContext_exec_matches_source P c sepc line fields b sp ns rb re obuf osp ons self ev fuel)
  simp [cLoc, hcall, State.assign1, Env.set]

/-- stack (after a newline, only with a key), line ending, `return line, nil` -/
theorem CE_tail (line : Bytes) (es : List Val) (rest : Env) :
    execS (X P) rec (EncodeEntry_body.tl.tl.tl.tl.tl.tl.tl.tl.tl.tl) ⟨cLoc e fields line es rest, conFld c sepc b sp ns rb re obuf osp ons self ev⟩ =
      .ret [.bytes (stackLine c e line ++ c.lineEnding), .list []]
        ⟨cLoc e fields (stackLine c e line ++ c.lineEnding) es rest, conFld c sepc b sp ns rb re obuf osp ons self ev⟩ := by
  dsimp only [ceStmt, Stmt.hd, Stmt.tl, EncodeEntry_body]
  cases hs : e.stack.isEmpty
  · cases hk : c.stacktraceKey.isEmpty <;> simp [cLoc, stackLine, hs, hk]
  · simp [cLoc, stackLine, hs]

end blocks

/-- **EncodeEntry_matches_source** (console): for every configuration, entry, context and every behaviour of the
    sub-encoders and of `addFields`, the interpreted `EncodeEntry` returns `consoleBytes` and a nil error; the logger's
    own encoder (`o.*`) is unchanged; every pooled object is returned after its last use -/
theorem EncodeEntry_matches_source (P : Par) (c : ECfg) (sepc : Bytes) (e : EEnt) (fields : Val) (b : Bytes) (sp : Bool)
    (ns : Int) (rb re : List Val) (obuf : Bytes) (osp : Bool) (ons : Int) (self : Val) (ev : List Val) (fuel : Nat) :
    run (X P) (fuel + 3) "EncodeEntry" [e.val, fields] (conFld c sepc b sp ns rb re obuf osp ons self ev) =
      .done [.bytes (consoleBytes P c sepc obuf osp ons e fields), .list []]
        (conFld c sepc (ctxBytes P obuf osp ons fields) osp 0 (ctxSt P obuf osp ons fields).rbuf
          (ctxSt P obuf osp ons fields).renc obuf osp ons self
          (ev ++ [.list [TransConsole.nm "bufferpool.Get"], .list [TransConsole.nm "getSliceEncoder"]] ++
            [.list [TransConsole.nm "putSliceEncoder", arrV (elems P c e)]] ++ writeContextEv P obuf osp ons fields self)) := by
  refine run_of_exec (X_funs P) funs_EncodeEntry rfl ?_
  show (execS (X P) (exec (X P) (fuel + 2)) EncodeEntry_body ⟨[("p0", e.val), ("p1", fields)], _⟩).fin = _
  have hb : EncodeEntry_body =
      .seq (ceStmt 0 EncodeEntry_body) (.seq (ceStmt 1 EncodeEntry_body) (.seq (ceStmt 2 EncodeEntry_body)
      (.seq (ceStmt 3 EncodeEntry_body) (.seq (ceStmt 4 EncodeEntry_body) (.seq (ceStmt 5 EncodeEntry_body)
      (.seq (ceStmt 6 EncodeEntry_body) (.seq (ceStmt 7 EncodeEntry_body) (.seq (ceStmt 8 EncodeEntry_body)
      (.seq (ceStmt 9 EncodeEntry_body) EncodeEntry_body.tl.tl.tl.tl.tl.tl.tl.tl.tl.tl))))))))) := rfl
  generalize hrec : exec (X P) (fuel + 2) = rec
  rw [hb]
  simp only [execS_seq]
  rw [CE_get]; simp only [Out.andThen_normal, execS_seq]
  rw [CE_getSlice]; simp only [Out.andThen_normal, execS_seq]
  rw [CE_time]; simp only [Out.andThen_normal, execS_seq]
  rw [CE_level]; simp only [Out.andThen_normal, execS_seq]
  rw [CE_name]; simp only [Out.andThen_normal, execS_seq]
  rw [CE_caller]; simp only [Out.andThen_normal, execS_seq]
  obtain ⟨r6, h6⟩ := CE_print P c sepc e fields b sp ns rb re obuf osp ons self _ rec [] _ _
  rw [h6]; simp only [Out.andThen_normal, execS_seq]
  rw [CE_putSlice]; simp only [Out.andThen_normal, execS_seq]
  rw [CE_message P c sepc e fields b sp ns rb re obuf osp ons self _ rec _ _ _ (fuel + 1) hrec.symm]
  simp only [Out.andThen_normal, execS_seq]
  rw [CE_context P c sepc e fields b sp ns rb re obuf osp ons self _ rec _ _ _ fuel hrec.symm]
  simp only [Out.andThen_normal]
  rw [CE_tail]
  simp [consoleBytes, elems, List.append_assoc]

/-- the line is the model's `Console.consoleLine` — the function `console_shape`, `ctx_is_json_ctx` … are stated
    over — whenever the sub-encoders append what the model's `Cols` say and `addFields` does what the model's call trees
    say (`TransConsole.ConsoleLink`, Proofs/TransConsoleLink.lean) -/
theorem EncodeEntry_is_consoleLine (P : Par) (c : ECfg) (e : EEnt) (cfg : Entry.Cfg) (ent : Entry.Ent) (k : Console.Cols)
    (L : ConsoleLink P c e cfg ent k) (sepRaw : Bytes) (ctx : List (List Entry.Field)) (fields : List Entry.Field) (fv : Val)
    (hf : ∀ (b : Bytes) (n : Nat),
      (P.addFields fv true ⟨b, n, [], []⟩).buf = (Enc.runO true ⟨b, n⟩ (Entry.addFields fields)).buf ∧
      (P.addFields fv true ⟨b, n, [], []⟩).ns = ((Enc.runO true ⟨b, n⟩ (Entry.addFields fields)).openNs : Int))
    (b : Bytes) (sp : Bool) (ns : Int) (rb re : List Val) (self : Val) (ev : List Val) (fuel : Nat) :
    ∃ fl, run (X P) (fuel + 3) "EncodeEntry" [e.val, fv]
        (conFld c (if sepRaw.isEmpty then [9] else sepRaw) b sp ns rb re (Entry.ctxEnc true ctx).buf true
          (Entry.ctxEnc true ctx).openNs self ev) =
      .done [.bytes (Console.consoleLine cfg sepRaw ent k ctx fields), .list []] fl := by
  have h := EncodeEntry_matches_source P c (if sepRaw.isEmpty then [9] else sepRaw) e fv b sp ns rb re
    (Entry.ctxEnc true ctx).buf true (Entry.ctxEnc true ctx).openNs self ev fuel
  rw [consoleBytes_is_consoleLine P c e cfg ent k L sepRaw ctx fields fv hf] at h
  exact ⟨_, h⟩

end ZapVerif.C16
