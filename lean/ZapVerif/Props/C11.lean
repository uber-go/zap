import Mathlib.Algebra.Order.Group.Nat
import ZapVerif.Proofs.Sampler
import ZapVerif.Proofs.TransSampler
/-! # C11 — the sampler admits the first N then every Mth entry per level and message per tick

The model is `Model/Sampler.lean` (+ `Model/SamplerConc.lean` for the atomic-step machine).

Scope notes.
* Timestamps are `Entry.Time.UnixNano()` as unbounded integers. The Go code computes `tn + tick` in int64; every
  theorem that speaks about a *new* window end is stated for the mathematical sum, i.e. under the hypothesis
  `NoOverflow` below (the harness generators keep `|t| ≤ 2^61`, `|tick| ≤ 2^61`).
* `2 ^ 63` (in `NoOverflow` and `fnv32a_matches_source`) is read as the monoid power of Mathlib on `Int` / `Nat`; nothing
  else here needs Mathlib.
* `new_window_iff` is the full-strength statement "windows are judged by entry timestamps"; it is FALSE for the
  code as it is (finding F10: the zero value of `resetAt` acts as a window that ends at the epoch), so it is kept
  as a `def … : Prop` with `new_window_iff_partial` and `new_window_iff_fails`. -/
namespace ZapVerif.C11
open ZapVerif ZapVerif.Sampler

/-- the explicit no-overflow hypothesis under which the Int model is the int64 code -/
def NoOverflow (t tick : Int) : Prop := -(2 : Int) ^ 63 ≤ t + tick ∧ t + tick < (2 : Int) ^ 63

example : NoOverflow 1700000000000000000 1000000000 := by unfold NoOverflow; omega

/-- FULL statement (not provable, see `new_window_iff_fails`): from a fresh counter, every history of
    timestamps gets the window positions of the specification — an entry opens a new window, ending one tick
    later, iff it is the first one or is stamped at or after the end of the current window. -/
def new_window_iff : Prop :=
  ∀ (tick : Int) (ts : List Int), cellRun {} tick ts = specRun none tick ts

/-- what holds: the full statement for every history whose FIRST entry is not before the epoch
    (later entries may carry any timestamp, also negative ones) -/
theorem new_window_iff_partial (tick t0 : Int) (rest : List Int) (h0 : 0 ≤ t0) :
    cellRun {} tick (t0 :: rest) = specRun none tick (t0 :: rest) := by
  have hn : inc ({} : Cell) t0 tick = ({ resetAt := t0 + tick, n := 1 }, 1) := inc_new _ _ _ h0
  simp only [cellRun, specRun, specStep, hn]
  rw [cellRun_eq_specRun_some]

/-- … in particular for every history without pre-epoch timestamps -/
theorem new_window_iff_partial_nonneg (tick : Int) (ts : List Int) (h : ∀ t ∈ ts, 0 ≤ t) :
    cellRun {} tick ts = specRun none tick ts := by
  cases ts with
  | nil => rfl
  | cons t0 rest => exact new_window_iff_partial tick t0 rest (h t0 (by simp))

/-- F10, the concrete witness: 5 entries 10 s apart before the epoch, tick 1 s —
    the code keeps counting 1,2,3,4,5 in one never-closing window, the specification opens 5 windows -/
theorem new_window_iff_fails : ¬ new_window_iff := by
  intro h
  have := h 1000000000 [-100000000000, -90000000000, -80000000000, -70000000000, -60000000000]
  revert this
  decide

/-- the witness in numbers: with N = 1, M = 0 the code passes 1 entry where 5 are owed -/
example : (cellRun {} 1000000000 [-100000000000, -90000000000, -80000000000, -70000000000, -60000000000]).countP
            (allows 1 0) = 1 ∧
          (specRun none 1000000000 [-100000000000, -90000000000, -80000000000, -70000000000, -60000000000]).countP
            (allows 1 0) = 5 := by decide

/-- one step, both directions: for a counter that has counted at least one entry, the call returns
    position 1 with the window end moved to `t + tick` iff the entry is at or after the current end;
    otherwise it takes the next position and the end stays -/
theorem new_window_step_iff (c : Cell) (t tick : Int) (hn : 0 < c.n) :
    ((inc c t tick).2 = 1 ↔ c.resetAt ≤ t) ∧
    (c.resetAt ≤ t → inc c t tick = ({ resetAt := t + tick, n := 1 }, 1)) ∧
    (t < c.resetAt → inc c t tick = ({ c with n := c.n + 1 }, c.n + 1)) := by
  refine ⟨?_, inc_new c t tick, inc_open c t tick⟩
  by_cases h : t < c.resetAt
  · rw [inc_open c t tick h]; constructor
    · intro h1; simp at h1; omega
    · intro h1; omega
  · rw [inc_new c t tick (by omega)]; simp; omega

/-- position in the window = 1 + number of earlier entries since the opener: after an opener at `t0`,
    entries stamped before `t0 + tick` (in any order, equal timestamps included) get positions 2, 3, … -/
theorem window_positions (c : Cell) (tick t0 : Int) (ts : List Int)
    (hopen : c.resetAt ≤ t0) (hin : ∀ t ∈ ts, t < t0 + tick) :
    cellRun c tick (t0 :: ts) = List.range' 1 (ts.length + 1) ∧
    cellAfter c tick (t0 :: ts) = { resetAt := t0 + tick, n := ts.length + 1 } := by
  have h := cellRun_open { resetAt := t0 + tick, n := 1 } tick ts hin
  simp only [cellRun, cellAfter, inc_new c t0 tick hopen, List.range'_succ]
  refine ⟨by rw [h.1], ?_⟩
  rw [h.2]; simp; omega

/-- an entry stamped exactly at the window end is NOT in the window: it opens the next one -/
theorem boundary_opens (c : Cell) (tick : Int) : (inc c c.resetAt tick) = ({ resetAt := c.resetAt + tick, n := 1 }, 1) :=
  inc_new c c.resetAt tick (Int.le_refl _)

theorem allows_iff (N M n : Nat) : allows N M n = true ↔ n ≤ N ∨ (M ≠ 0 ∧ (n - N) % M = 0) :=
  Sampler.allows_iff N M n

/-- k entries in one window ⇒ `min k N + (k-N)/M` of them pass (none after the first N when M = 0) -/
theorem window_count (N M k : Nat) :
    ((List.range' 1 k).countP (allows N M)) = min k N + (if M = 0 then 0 else (k - N) / M) :=
  countP_window N M k

/-- the two together, on the cell: an opener and `ts` further entries inside its window -/
theorem window_passed (c : Cell) (N M : Nat) (tick t0 : Int) (ts : List Int)
    (hopen : c.resetAt ≤ t0) (hin : ∀ t ∈ ts, t < t0 + tick) :
    ((cellRun c tick (t0 :: ts)).countP (allows N M)) =
      min (ts.length + 1) N + (if M = 0 then 0 else (ts.length + 1 - N) / M) := by
  rw [(window_positions c tick t0 ts hopen hin).1, window_count]

/-- a Check touches only the counter of its own (level, bucket); every other counter is untouched -/
theorem key_frame (cfg : Cfg) (en : Int → Bool) (cs : Counters) (e : Entry) (k : Key) (hk : k ≠ e.key) :
    (check cfg en cs e).1 k = cs k := by
  by_cases hc : counted en e = true
  · rw [(check_counted cfg en cs e hc).1, set_other _ _ _ _ hk]
  · rw [(check_uncounted cfg en cs e (by simpa using hc)).1]

/-- messages whose hashes agree modulo 4096 use the same counter at the same level (they share a budget),
    and the level is part of the key -/
theorem colliding_share (e₁ e₂ : Entry) :
    e₁.key = e₂.key ↔ e₁.level = e₂.level ∧ (fnv32a e₁.msg).toNat % 4096 = (fnv32a e₂.msg).toNat % 4096 := by
  simp [Entry.key, bucket, numBuckets, Prod.ext_iff]

/-- the counter values seen by the entries of one key, within any run over the whole table, are exactly the run
    of that key's cell over those entries' timestamps: other keys, disabled and out-of-range entries
    do not disturb it -/
theorem key_projection (cfg : Cfg) (en : Int → Bool) (k : Key) (es : List Entry) (cs : Counters) :
    (((runAll cfg en cs es).2.zip es).filter (fun p => sel en k p.2)).map (fun p => p.1.n) =
      (cellRun (cs k) cfg.tick ((es.filter (sel en k)).map (·.t))).map some :=
  (runAll_projects cfg en k es cs).1

/-- an entry at a disabled level consumes no budget, calls no hook and is not forwarded -/
theorem disabled_no_budget (cfg : Cfg) (en : Int → Bool) (cs : Counters) (e : Entry) (h : en e.level = false) :
    check cfg en cs e = (cs, ⟨[], false, none⟩) := by
  simp [check, h]

/-- an enabled entry with a level outside [Debug, Fatal] passes unsampled: forwarded, no counter, no hook -/
theorem oob_unsampled (cfg : Cfg) (en : Int → Bool) (cs : Counters) (e : Entry)
    (h : en e.level = true) (ho : e.level < -1 ∨ 5 < e.level) :
    check cfg en cs e = (cs, ⟨[], true, none⟩) := by
  have : inRange e.level = false := by
    rcases ho with h1 | h1
    · have : ¬ (-1 ≤ e.level) := by omega
      simp [inRange, minLevel, this]
    · have : ¬ (e.level ≤ 5) := by omega
      simp [inRange, maxLevel, this]
  simp [check, h, this]

/-- a With-derived sampler points to the same counters and hook, and a Check through it has exactly the effect
    on the shared counters, the decision and the hook call of a Check through its parent -/
theorem with_shares_counters (w : World) (s : Samp) (f : Nat) (en : Int → Bool) (e : Entry) :
    (s.with f).ref = s.ref ∧ (s.with f).hookId = s.hookId ∧ (s.with f).cfg = s.cfg ∧
    w.check (s.with f) en e = w.check s en e :=
  ⟨rfl, rfl, rfl, rfl⟩

/-- a separately constructed sampler has its own fresh counters, and Checks through one sampler never touch
    the counters of another -/
theorem new_sampler_independent (w : World) (cfg : Cfg) (h : Nat) (s : Samp) (en : Int → Bool) (e : Entry) :
    (w.newSampler cfg h).1.heap (w.newSampler cfg h).2.ref = Counters.fresh ∧
    (∀ r, r ≠ s.ref → (w.check s en e).1.heap r = w.heap r) := by
  constructor
  · simp [World.newSampler]
  · intro r hr; simp [World.check, hr]

/-- every decided entry (enabled, in range) causes exactly one hook call, with the decision that is applied:
    forwarded iff sampled iff the predicate allows the position the counter returned -/
theorem hook_once_with_decision (cfg : Cfg) (en : Int → Bool) (cs : Counters) (e : Entry)
    (h : en e.level = true) (hr : -1 ≤ e.level ∧ e.level ≤ 5) :
    ∃ n d, (check cfg en cs e).2 = ⟨[d], decide (d = .sampled), some n⟩ ∧
      n = (inc (cs e.key) e.t cfg.tick).2 ∧ (d = .sampled ↔ allows cfg.N cfg.M n = true) := by
  have hr' : inRange e.level = true := by simp [inRange, minLevel, maxLevel, hr.1, hr.2]
  by_cases ha : allows cfg.N cfg.M (inc (cs e.key) e.t cfg.tick).2 = true
  · exact ⟨_, .sampled, by simp [check, h, hr', ha], rfl, by simp [ha]⟩
  · exact ⟨_, .dropped, by simp [check, h, hr', ha], rfl, by simp [ha]⟩

/-- entries that are not decided (disabled or out of range) cause no hook call -/
theorem hook_not_called_undecided (cfg : Cfg) (en : Int → Bool) (cs : Counters) (e : Entry)
    (h : counted en e = false) : (check cfg en cs e).2.hook = [] :=
  (check_uncounted cfg en cs e h).2.2

/-- for EVERY interleaving of the atomic steps of `k` concurrent `IncCheckReset` calls whose timestamps lie
    inside the already open window, once all calls have returned the values returned are exactly
    `c+1 … c+k` (each once), the counter stands at `c+k`, and the window end is untouched -/
theorem open_window_exact (c : Cell) (ts : List Int) (tick : Int) (sched : List Nat)
    (hopen : ∀ t ∈ ts, t < c.resetAt)
    (hdone : Conc.allDone (Conc.run tick (Conc.initSt c ts) sched) = true) :
    (Conc.rets (Conc.run tick (Conc.initSt c ts) sched).ths).Perm (List.range' (c.n + 1) ts.length) ∧
    (Conc.run tick (Conc.initSt c ts) sched).n = c.n + ts.length ∧
    (Conc.run tick (Conc.initSt c ts) sched).resetAt = c.resetAt := by
  have hinv := Conc.run_inv tick c.resetAt c.n sched _ (Conc.init_inv c ts hopen)
  have hlen : (Conc.rets (Conc.run tick (Conc.initSt c ts) sched).ths).length = ts.length := by
    rw [Conc.rets_length_of_allDone _ hdone, Conc.run_length]; simp [Conc.initSt]
  refine ⟨?_, ?_, hinv.ra⟩
  · have := hinv.perm; rwa [hlen] at this
  · have := hinv.cnt; rwa [hlen] at this

/-- hence the number of admitted entries under any interleaving equals the sequential one
    (each call's decision, hook call and forwarding are functions of the value it got back:
    `hook_once_with_decision`) -/
theorem open_window_count_eq_sequential (c : Cell) (N M : Nat) (ts : List Int) (tick : Int) (sched : List Nat)
    (hopen : ∀ t ∈ ts, t < c.resetAt)
    (hdone : Conc.allDone (Conc.run tick (Conc.initSt c ts) sched) = true) :
    (Conc.rets (Conc.run tick (Conc.initSt c ts) sched).ths).countP (allows N M) =
      (cellRun c tick ts).countP (allows N M) := by
  rw [(open_window_exact c ts tick sched hopen hdone).1.countP_eq, (cellRun_open c tick ts hopen).1]

/-- non-vacuity: a complete interleaving of three calls (loads first, then the adds in another order) -/
example : Conc.allDone (Conc.run 10 (Conc.initSt ⟨100, 4⟩ [7, 7, 50]) [2, 0, 1, 1, 2, 0]) = true ∧
    Conc.rets (Conc.run 10 (Conc.initSt ⟨100, 4⟩ [7, 7, 50]) [2, 0, 1, 1, 2, 0]).ths = [7, 5, 6] := by decide

/-- the hypothesis matters: when calls at the window end race with the reset, a value can be handed out twice
    (the documented "slightly over- or under-sampled"); inside an open window it cannot -/
example : Conc.allDone (Conc.run 10 (Conc.initSt ⟨100, 4⟩ [100, 100, 105]) [0, 1, 0, 0, 2, 2, 1, 1, 1]) = true ∧
    Conc.rets (Conc.run 10 (Conc.initSt ⟨100, 4⟩ [100, 100, 105]) [0, 1, 0, 0, 2, 2, 1, 1, 1]).ths = [1, 2, 2] := by
  decide

end ZapVerif.C11

/-! ## the model's counter and hash ARE the source (Go→GoMini translation, docs/TRANSLATOR.md)

`Gen/TransSampler.lean` holds the bodies of `fnv32a`, `counter.IncCheckReset` and `sampler.Check` as read from
zapcore/sampler.go on this run, as GoMini terms.  The theorems below run them in the GoMini interpreter on ALL inputs
and get exactly `Sampler.fnv32a`, `Sampler.inc` and `Sampler.check`.  The atomics carry their sequential meaning
(the concurrent claim is `open_window_exact`).  Hypotheses: lengths fit `int`; the counter does not wrap
(`n + 1 < 2^64`); `NoOverflow t tick` — the same hypothesis the window theorems carry.  `en` is the wrapped
core's `Enabled`. -/
namespace ZapVerif.C11
open ZapVerif ZapVerif.Sampler ZapVerif.GoMini ZapVerif.TransSampler ZapVerif.Gen.TransSampler

/-- the loop of `fnv32a`: one xor-then-multiply round per byte, on uint32 -/
theorem fnv32a_loop_matches_source (en : Int → Bool) (s : Bytes) (hs : s.length < 2^63) (h0 : UInt32) (fuel : Nat) :
    execS (X en) (exec (X en) (fuel + s.length + 0)) fnv32a_loop0
        ⟨[("p0", .bytes s), ("l0", .int h0.toNat), ("l1", .int (0 : Nat))], []⟩ =
      .normal ⟨[("p0", .bytes s), ("l0", .int (s.foldl (fun (h : UInt32) (b : UInt8) => (h ^^^ b.toUInt32) * fnvPrime) h0).toNat),
                ("l1", .int s.length)], []⟩ := by
  unfold fnv32a_loop0
  refine (loop_fold (α := Nat × UInt32) (X en) _ _ _ 0
    (fun a : Nat × UInt32 => ⟨[("p0", .bytes s), ("l0", .int (a.2.toNat : Nat)), ("l1", .int (a.1 : Nat))], []⟩)
    (fun a : Nat × UInt32 => a.1 ≤ s.length)
    (fun a : Nat × UInt32 => decide (a.1 < s.length))
    (fun a : Nat × UInt32 => (a.1 + 1, (a.2 ^^^ (s.getD a.1 0).toUInt32) * fnvPrime))
    (fun a : Nat × UInt32 => (s.length, (s.drop a.1).foldl (fun (h : UInt32) (b : UInt8) => (h ^^^ b.toUInt32) * fnvPrime) a.2))
    (fun a : Nat × UInt32 => s.length - a.1)
    ?_ ?_ ?_ ?_ ?_ ?_ s.length (0, h0) fuel (Nat.zero_le _) (by simp)).trans (by simp)
  · intro a _; simp
  · intro a fuel _ hc
    have hc' : a.1 < s.length := of_decide_eq_true hc
    have hw : wrap .int ((a.1 : Int) + 1) = ((a.1 + 1 : Nat) : Int) := wrap_int_id _ (by omega) (by omega)
    have hg : s[a.1]?.getD 0 = s[a.1] := by simp [hc']
    simp [hw, indexVal_bytes s a.1 hc', fnv_round, hg]
  · intro a _ hc
    exact of_decide_eq_true hc
  · intro a _ hc
    have : a.1 < s.length := of_decide_eq_true hc
    show s.length - (a.1 + 1) < s.length - a.1
    omega
  · intro a ha hc
    have h1 : ¬ a.1 < s.length := of_decide_eq_false hc
    have h2 : a.1 ≤ s.length := ha
    have h3 : a.1 = s.length := by omega
    rw [h3, List.drop_length, List.foldl_nil, ← h3]
  · intro a _ hc
    have h1 : a.1 < s.length := of_decide_eq_true hc
    have hg : s.getD a.1 0 = s[a.1] := by simp [h1]
    simp only [List.drop_eq_getElem_cons h1, List.foldl_cons, hg]

/-- `fnv32a(s)` ≡ `Sampler.fnv32a`: FNV-1a with wrapping uint32 multiplication, for every string -/
theorem fnv32a_matches_source (en : Int → Bool) (s : Bytes) (hs : s.length < 2^63) (fuel : Nat) :
    run (X en) (fuel + s.length + 1) "fnv32a" [.bytes s] [] = .done [.int (Sampler.fnv32a s).toNat] [] := by
  refine run_of_exec (X_funs en) funs_fnv32a rfl ?_
  have := fnv32a_loop_matches_source en s hs fnvOffset fuel
  simp [fnvOffset] at this
  simp [fnv32a_body, this, Sampler.fnv32a, fnvOffset]

/-- body of `counter.IncCheckReset` inside any larger field environment (`rest` is untouched) -/
theorem IncCheckReset_exec_matches_source (en : Int → Bool) (c : Cell) (t tick : Int) (rest : Env) (fuel : Nat)
    (hn : (c.n : Int) + 1 < 18446744073709551616) (hov : NoOverflow t tick) :
    (exec (X en) (fuel + 1) IncCheckReset_body ⟨[("p0", .int t), ("p1", .int tick)], cellFld c.resetAt c.n rest⟩).fin =
      some ([.int (inc c t tick).2], cellFld (inc c t tick).1.resetAt (inc c t tick).1.n rest) := by
  rw [exec_succ]
  have hw : wrap .u64 ((c.n : Int) + 1) = ((c.n + 1 : Nat) : Int) := by
    rw [wrap_u64_id] <;> omega
  have hw2 : wrap .i64 (t + tick) = t + tick := wrap_i64_id _ hov.1 hov.2
  by_cases h : t < c.resetAt <;> simp [IncCheckReset_body, inc, h, hw, hw2]

/-- `counter.IncCheckReset(t, tick)` ≡ `Sampler.inc` (sequential meaning of the atomics: `Load`, `Add(1)`,
    `Store(1)`, `CompareAndSwap`, which cannot fail without a concurrent writer): the returned count and the new
    `resetAt`/`counter`, for every cell and timestamp; `t + tick` inside int64 is `NoOverflow` -/
theorem IncCheckReset_matches_source (en : Int → Bool) (c : Cell) (t tick : Int) (fuel : Nat)
    (hn : (c.n : Int) + 1 < 18446744073709551616) (hov : NoOverflow t tick) :
    run (X en) (fuel + 1) "IncCheckReset" [.int t, .int tick] (cellFld c.resetAt c.n []) =
      .done [.int (inc c t tick).2] (cellFld (inc c t tick).1.resetAt (inc c t tick).1.n []) :=
  run_of_exec (X_funs en) funs_IncCheckReset rfl
    (by simpa [exec_succ] using IncCheckReset_exec_matches_source en c t tick [] fuel hn hov)

/-- `sampler.Check(ent, ce)` ≡ `Sampler.check`, on the cell `counts.get` selected: a disabled level returns `ce`
    untouched; an in-range level counts (`IncCheckReset`, translated) and is dropped — hook called with `LogDropped`,
    `ce` returned, nothing forwarded — iff `n > first && (thereafter == 0 || (n-first)%thereafter != 0)`, otherwise
    the hook is called with `LogSampled` and the entry is forwarded to the wrapped core; an out-of-range level is
    forwarded without counting and without a hook call.  The uint64 subtraction cannot wrap and `%` cannot divide
    by zero (short-circuit `||`). -/
theorem Check_matches_source (en : Int → Bool) (cfg : Cfg) (cs : Counters) (e : Entry) (ce : Val)
    (hooks fwd : List Val) (fuel : Nat)
    (hN : (cfg.N : Int) < 18446744073709551616) (hM : (cfg.M : Int) < 18446744073709551616)
    (hn : ((cs e.key).n : Int) + 1 < 18446744073709551616) (hov : NoOverflow e.t cfg.tick) :
    run (X en) (fuel + 2) "Check" [entV e, ce]
        (cellFld (cs e.key).resetAt (cs e.key).n (sampRest cfg.N cfg.M cfg.tick hooks fwd)) =
      .done [if (check cfg en cs e).2.forwarded then .list [ce] else ce]
        (cellFld ((check cfg en cs e).1 e.key).resetAt ((check cfg en cs e).1 e.key).n
          (sampRest cfg.N cfg.M cfg.tick (hooks ++ (check cfg en cs e).2.hook.map fun d => .int (decCode d))
            (fwd ++ if (check cfg en cs e).2.forwarded then [entV e] else []))) := by
  obtain ⟨N, M, tick⟩ := cfg
  simp only at hN hM hov ⊢
  refine run_of_exec (X_funs en) funs_Check rfl ?_
  have hinc : ∀ σ : State, retK σ [.loc "l1"] "IncCheckReset"
      (exec (X en) (fuel + 1) IncCheckReset_body
        ⟨[("p0", .int e.t), ("p1", .int tick)],
          cellFld (cs e.key).resetAt (cs e.key).n (sampRest N M tick hooks fwd)⟩) = _ :=
    fun σ => retK_of_fin1 σ _ _ _ _ _ (IncCheckReset_exec_matches_source en (cs e.key) e.t tick _ fuel hn hov)
  have hle := inc_le (cs e.key) e.t tick
  have hset : ∀ c : Cell, (cs.set e.key c) e.key = c := fun c => set_same cs e.key c
  -- one symbolic run of the body, which leaves the decision tree of its tests; the cases below only pick leaves
  simp [Check_body, entV, hinc, Out.andThen_ite, Res.out_ite, Res.bind_ite]
  cases hen : en e.level
  · simp [check, hen]
  · by_cases hlo : -1 ≤ e.level
    · by_cases hhi : e.level ≤ 5
      · have hc : counted en e = true := by simp [counted, hen, inRange, minLevel, maxLevel, hlo, hhi]
        obtain ⟨c1, _, c3, c4⟩ := check_counted ⟨N, M, tick⟩ en cs e hc
        rw [c1, c3, c4, hset]
        simp only [hlo, hhi, if_true]
        generalize inc (cs e.key) e.t tick = r at hle ⊢
        by_cases h1 : N < r.2
        · by_cases h2 : M = 0
          · simp [allows, h1, h2, decCode]
          · have hrem := rem_u64_eq_zero r.2 N M (by omega) h1
            by_cases h3 : (r.2 - N) % M = 0 <;> simp [allows, h1, h2, h3, decCode, hrem]
        · simp [allows, h1, decCode]
      · have hr : inRange e.level = false := by simp [inRange, minLevel, maxLevel, hlo, hhi]
        simp [check, hen, hr, hlo, hhi]
    · have hr : inRange e.level = false := by simp [inRange, minLevel, maxLevel, hlo]
      simp [check, hen, hr, hlo]

end ZapVerif.C11
