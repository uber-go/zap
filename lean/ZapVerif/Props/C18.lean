import ZapVerif.Model.Slog
import ZapVerif.Proofs.Slog
import ZapVerif.Proofs.TransSlog
/-! # C18 — the slog handler reproduces slog's attribute and group semantics

`tree D R` is the slog.Handler contract for a derivation sequence `D` and a record `R` (Model/Slog.lean):
attributes keep order and payload, group attributes nest, empty-key groups are inlined, the empty Attr and
groups without (transitive) content are omitted, `WithGroup ""` opens nothing, LogValuers are resolved.
`handle (run root D) R` is what the handler of exp/zapslog makes the encoder emit. -/
namespace ZapVerif.C18
open ZapVerif ZapVerif.Slog

/-- core of C18, from any handler state: the entry is the context with, in its innermost open namespace,
    the pending groups wrapped around the contract tree of the remaining derivation and the record -/
theorem handler_refines_contract_from : ∀ (D : List Step) (h : H) (R : List SAttr),
    handle (run h D) R = plugD h.ctx (wrap h.pending (tree D R))
  | [], h, R => by
    have := addAttrs_plug h R []
    simp only [wrap, List.append_nil] at this
    simp only [handle, run, tree, denote_eq_plugD]
    simpa [wrap] using this
  | .withGroup g :: D, h, R => by
    simp only [run, step, tree]
    by_cases hg : g = ""
    · simp only [hg, if_true]; exact handler_refines_contract_from D h R
    · simp only [hg, if_false]
      rw [handler_refines_contract_from D _ R, wrap_wrap]
  | .withAttrs as :: D, h, R => by
    simp only [run, step, tree]
    rw [handler_refines_contract_from D _ R, addAttrs_plug]

/-- **C18**: for every derivation sequence and every record, the handler emits exactly the contract tree -/
theorem handler_refines_contract (D : List Step) (R : List SAttr) :
    handle (run root D) R = tree D R := by
  rw [handler_refines_contract_from]; simp [root, plugD, wrap_nil]

/-- the same for branching programs: every handler a program creates (parents and siblings included, whatever
    was derived from them afterwards) emits the contract tree of the derivation path that leads to it -/
theorem handler_refines_contract_branching (ps : List PStep) (i : Nat) (h : H) (R : List SAttr)
    (hi : (runProg [root] ps)[i]? = some h) :
    ∃ D, (pathsOf [[]] ps)[i]? = some D ∧ handle h R = tree D R := by
  have hp := runProg_paths [[]] ps
  simp only [List.map_cons, List.map_nil, run] at hp
  rw [hp, List.getElem?_map] at hi
  cases hd : (pathsOf [[]] ps)[i]? with
  | none => simp [hd] at hi
  | some D =>
    simp only [hd, Option.map_some, Option.some.injEq] at hi
    exact ⟨D, rfl, by rw [← hi]; exact handler_refines_contract D R⟩

/-- LogValuers are resolved: the number of LogValuer layers around a value changes neither the contract
    nor the conversion (and `Value.Resolve` is what the conversion applies) -/
theorem valuers_resolved (a : SAttr) :
    content a = content (resolveTop a) ∧ convert a = convert (resolveTop a) := by
  cases a <;> simp [resolveTop, content, convert]

/-- the conversion skips exactly the attributes the contract ignores -/
theorem skip_iff_no_content (a : SAttr) : isSkip (convert a) = true ↔ content a = [] := by
  constructor
  · intro h
    have := denote_convert a
    cases hc : convert a <;> rw [hc] at h this <;> simp [isSkip] at h
    simpa [denote] using this.symm
  · intro h
    cases hs : isSkip (convert a) with
    | true => rfl
    | false => exact absurd h (convert_nonskip a hs)

/-- `hasContent` (the repair of F15) decides "has effective content" -/
theorem hasContent_spec (a : SAttr) : hasContent a = true ↔ content a ≠ [] := by
  rw [hasContent_iff]; cases content a <;> simp

/-- levels map monotonically (over the regenerated table of `convertSlogLevel`) … -/
theorem level_map_monotone (l l' z z' : Int) (h : convertLevel l = some z) (h' : convertLevel l' = some z')
    (hl : l ≤ l') : z ≤ z' := by
  -- the table lies on the thresholds of `convertSlogLevel`, and those are monotone
  have hz : TransSlog.levelSpec l = z := TransSlog.slogLevels_thresholds (l, z) (lookup_mem _ _ _ h)
  have hz' : TransSlog.levelSpec l' = z' := TransSlog.slogLevels_thresholds (l', z') (lookup_mem _ _ _ h')
  rw [← hz, ← hz']
  exact TransSlog.levelSpec_mono hl

/-- … onto zap levels (Debug = −1 … Fatal = 5), and the table covers every slog level in [−12, 12] (and far-out sample points on both sides) -/
theorem level_map_valid :
    (∀ p ∈ Gen.slogLevels, -1 ≤ p.2 ∧ p.2 ≤ 5) ∧
    (∀ n ∈ List.range 25, (convertLevel ((n : Int) - 12)).isSome = true) := by
  constructor <;> decide +kernel

/-- a record is handled iff the core enables the mapped level; the entry carries the mapped level -/
theorem handled_iff_enabled (enab : Int → Bool) (h : H) (l : Int) (R : List SAttr) :
    ((∃ e, handleRecord enab h l R = some (some e)) ↔ enabledAt enab l = some true) ∧
    (∀ z t, handleRecord enab h l R = some (some (z, t)) → convertLevel l = some z ∧ t = handle h R) := by
  unfold handleRecord enabledAt
  cases convertLevel l with
  | none => simp
  | some z =>
    by_cases he : enab z = true
    · simp [he]
    · simp [he]

/-- deriving never affects parents or siblings: with `Handler.groups` as Go slice headers over a heap of
    backing arrays, running any branching program at heap level (WithGroup copies into a fresh array) gives,
    for every handler, the state of the value-level semantics; and the value-level semantics only appends -/
theorem derive_isolated (ps : List PStep) (hp : GHeap) (xs : List HH) (hl : ∀ x ∈ xs, Live hp x) :
    (runProgHeap (hp, xs) ps).2.map (absH (runProgHeap (hp, xs) ps).1) = runProg (xs.map (absH hp)) ps ∧
    (runProg (xs.map (absH hp)) ps).take xs.length = xs.map (absH hp) := by
  refine ⟨runProgHeap_abs ps hp xs hl, ?_⟩
  have := runProg_prefix (xs.map (absH hp)) ps
  simpa using this

/-- one derivation step leaves every other live handler's view of its groups unchanged -/
theorem derive_frame (hp : GHeap) (x y : HH) (s : Step) (hy : Live hp y) :
    absH (stepHeap hp x s).1 y = absH hp y := stepHeap_frame hp x y s hy

/-! ## witnesses -/

/-- why the copy matters: with `append(h.groups, g)` a second sibling overwrites the first one's group -/
theorem append_would_alias :
    ∃ (hp : GHeap) (s : GSlice),
      let (hp1, t) := appendHeap hp s "first"
      let (hp2, _) := appendHeap hp1 s "second"
      view hp1 t = ["a", "first"] ∧ view hp2 t = ["a", "second"] := by
  refine ⟨[["a", ""]], ⟨0, 1⟩, ?_⟩
  decide

/-- F15, the handler before the repair: an empty group reaching it through WithAttrs is emitted as `"g":{}` -/
theorem unrepaired_emits_empty_group :
    handleOld (runOld root [.withAttrs [.group "g" 0 []]]) [] = [.node "g" []] ∧
    tree [.withAttrs [.group "g" 0 []]] [] = [] := by
  constructor <;> simp [handleOld, runOld, stepOld, root, addAttrs, convertsOld, convertOld, denote, tree, contents, content]

/-- F15, second symptom: a LogValuer resolving to an empty group forces the pending WithGroup namespace open -/
theorem unrepaired_opens_pending_group :
    handleOld (runOld root [.withGroup "p"]) [.group "x" 1 []] = [.node "p" [.node "x" []]] ∧
    tree [.withGroup "p"] [.group "x" 1 []] = [] := by
  constructor <;>
    simp [handleOld, runOld, stepOld, root, addAttrs, ins, isSkip, convertsOld, convertOld, denote, tree, contents,
      content, wrap]

/-- F14, the handler before the repair: `WithGroup("")` nests the next attribute under "" -/
theorem unrepaired_empty_name_opens_group (l : Leaf) :
    handleOld (runOld root [.withGroup ""]) [.leaf "a" 0 l] = [.node "" [.leaf "a" l]] ∧
    tree [.withGroup ""] [.leaf "a" 0 l] = [.leaf "a" l] := by
  constructor <;>
    simp [handleOld, runOld, stepOld, root, addAttrs, ins, isSkip, convertsOld, convertOld, denote, tree, contents,
      content]

/-! ## the hypotheses are satisfiable / the statements are not vacuous -/

example : handle (run root [.withGroup "g", .withAttrs [.nilv "" 1], .withGroup "h"])
    [.group "" 0 [.leaf "a" 0 ⟨"i64", "1"⟩], .group "e" 2 [.nilv "" 0]]
    = [.node "g" [.node "h" [.leaf "a" ⟨"i64", "1"⟩]]] := by
  rw [handler_refines_contract]
  simp [tree, contents, content, wrap, nest]

example : convertLevel 4 = some 1 ∧ convertLevel (-4) = some (-1) ∧ convertLevel 14 = none ∧ convertLevel 512 = some 2 := by decide +kernel

example : Live [] ⟨[], ⟨0, 0⟩⟩ := Or.inl rfl

example : (runProg [root] [⟨0, .withGroup "a"⟩, ⟨0, .withGroup "b"⟩, ⟨1, .withGroup "c"⟩]).map (·.pending)
    = [[], ["a"], ["b"], ["a", "c"]] := by decide

end ZapVerif.C18

/-! ## the slog handler IS the source (table `Gen/TransSlog.lean`)

`convertSlogLevel`, `hasContent`, `convertAttrToField`, `appendGroups`, `WithGroup`, `WithAttrs` and the head of `Handle` of
exp/zapslog/handler.go, translated mechanically, are interpreted on the model's own attributes (`Slog.SAttr`, encoded as
slog values: `TransSlog.attrV`) — every tree of groups, every number of LogValuer layers — and give the model's functions:
`levelSpec` (which is the regenerated level table), `Slog.hasContent`, `Slog.convert` (as constructor values), the
`ins` loop of `addAttrs`, `pending ++ [g]`.

**Aliasing.**  GoMini slices are VALUES: `append(h.groups, group)` and the clone idiom `make` + `copy` + element
assignment denote the same list, so the property `derive_isolated` (no two handlers share a backing array) is NOT
expressible about the translated term.  Instead the translator REFUSES, for this table (`noFieldAppend`), every `append`
whose first argument is a field of the receiver or of a struct copy of it, and every `append` that is not
`x = append(x, …)`; `WithGroup_matches_source` then holds of the clone idiom only, and `derive_isolated` /
`append_would_alias` above stay the statements about the heap-level model. -/
namespace ZapVerif.C18
open ZapVerif ZapVerif.GoMini ZapVerif.Slog ZapVerif.TransSlog ZapVerif.Gen.TransSlog

/-- `convertSlogLevel`: Error from 8, Warn from 4, Info from 0, Debug below — for EVERY integer -/
theorem convertSlogLevel_exec_matches_source (P : Par) (l : Int) (fl : Env) (fuel : Nat) :
    (exec (X P) (fuel + 1) convertSlogLevel_body ⟨[("p0", .int l)], fl⟩).fin = some ([.int (levelSpec l)], fl) := by
  rw [exec_succ]
  have m8 := matchCase_true1 (X P) ⟨[("p0", .int l)], fl⟩ (.bin .ge (.loc "p0") (.lit (.int 8))) (decide (l ≥ 8)) (by simp)
  have m4 := matchCase_true1 (X P) ⟨[("p0", .int l)], fl⟩ (.bin .ge (.loc "p0") (.lit (.int 4))) (decide (l ≥ 4)) (by simp)
  have m0 := matchCase_true1 (X P) ⟨[("p0", .int l)], fl⟩ (.bin .ge (.loc "p0") (.lit (.int 0))) (decide (l ≥ 0)) (by simp)
  by_cases h8 : l ≥ 8
  · simp [convertSlogLevel_body, levelSpec, h8, m8]
  · by_cases h4 : l ≥ 4
    · simp [convertSlogLevel_body, levelSpec, h8, h4, m8, m4]
    · by_cases h0 : l ≥ 0 <;> simp [convertSlogLevel_body, levelSpec, h8, h4, h0, m8, m4, m0]

theorem convertSlogLevel_matches_source (P : Par) (l : Int) (fl : Env) (fuel : Nat) :
    run (X P) (fuel + 1) "convertSlogLevel" [.int l] fl = .done [.int (levelSpec l)] fl :=
  run_of_exec (X_funs P) funs_convertSlogLevel rfl (convertSlogLevel_exec_matches_source P l fl fuel)

/-- the thresholds ARE the regenerated table `Gen.slogLevels` the model's `convertLevel` looks up -/
theorem levelSpec_is_convertLevel (l z : Int) (h : convertLevel l = some z) : levelSpec l = z :=
  slogLevels_thresholds (l, z) (lookup_mem _ _ _ h)

/-- `appendGroups(fields)`: one `zap.Namespace` per pending group, in order, after the fields -/
theorem appendGroups_exec_matches_source (P : Par) (fields : List Val) (gs : List Bytes) (fl : Env)
    (hfl : Env.get "groups" fl = some (.list (gs.map Val.bytes))) (fuel : Nat) :
    (exec (X P) (fuel + 1) appendGroups_body ⟨[("p0", .list fields)], fl⟩).fin =
      some ([.list (fields ++ gs.map fun g => .list [TransSlog.nm "zap.Namespace", .bytes g])], fl) := by
  -- `rest` holds the loop variable once the first iteration has bound it
  have hloop : ∀ (ys : List Bytes) (acc : List Val) (i : Nat) (rest : Env),
      ∃ rest', rangeRun (execS (X P) (exec (X P) fuel) appendGroups_loop0.rbody) .blank (.loc "l0") (ys.map Val.bytes) i
          ⟨("p0", .list acc) :: rest, fl⟩ =
        .normal ⟨("p0", .list (acc ++ ys.map fun g => .list [TransSlog.nm "zap.Namespace", .bytes g])) :: rest', fl⟩ := by
    intro ys
    induction ys with
    | nil => intro acc i rest; exact ⟨rest, by simp [rangeRun]⟩
    | cons y r ih =>
      intro acc i rest
      obtain ⟨rest', h⟩ := ih (acc ++ [.list [TransSlog.nm "zap.Namespace", .bytes y]]) (i + 1) (Env.set "l0" (.bytes y) rest)
      exact ⟨rest', by simpa [rangeRun, appendGroups_loop0, Stmt.rbody] using h⟩
  obtain ⟨rest', h⟩ := hloop gs fields 0 []
  rw [exec_succ]
  simp [appendGroups_body, appendGroups_loop0, Stmt.rbody, hfl] at h ⊢
  simp [h]

/-- `WithGroup("")` returns the receiver; otherwise the clone gets every field of the receiver and a FRESH slice
    holding the receiver's groups followed by the new one -/
theorem WithGroup_matches_source (P : Par) (g : Bytes) (core : Val) (name : Bytes) (ac : Bool) (asa cs : Int) (groups : List Val)
    (self : Val) (ocore : Val) (oname : Bytes) (oac : Bool) (oasa ocs : Int) (ogroups : List Val) (oself : Val) (ev : List Val)
    (hlen : (groups.length : Int) + 1 < 9223372036854775808) (fuel : Nat) :
    run (X P) (fuel + 1) "WithGroup" [.bytes g] (hFld core name ac asa cs groups self ocore oname oac oasa ocs ogroups oself ev) =
      if g.isEmpty then .done [self] (hFld core name ac asa cs groups self ocore oname oac oasa ocs ogroups oself ev)
      else .done [oself] (hFld core name ac asa cs groups self core name ac asa cs (groups ++ [.bytes g]) oself ev) := by
  cases g with
  | nil =>
    refine run_of_exec (X_funs P) funs_WithGroup rfl ?_
    simp [WithGroup_body]
  | cons x xs =>
    refine run_of_exec (X_funs P) funs_WithGroup rfl ?_
    have hw : wrap .int ((groups.length : Int) + 1) = (groups.length : Int) + 1 := by rw [wrap_int_id] <;> omega
    have hmk : ext P "make.strings" [.int ((groups.length : Int) + 1)] =
        some [.list (List.replicate (groups.length + 1) (.bytes []))] := by
      have := ext_makeStrings P (groups.length + 1); push_cast at this; exact this
    have hcopy : groups.take (groups.length + 1) ++ (List.replicate (groups.length + 1) (Val.bytes [])).drop groups.length =
        groups ++ [.bytes []] := by
      rw [List.take_of_length_le (by omega)]
      simp [List.drop_replicate]
    have hset := ext_set P (groups ++ [.bytes []]) groups.length (.bytes (x :: xs)) (by simp)
    have hsetv : (groups ++ [Val.bytes []]).set groups.length (.bytes (x :: xs)) = groups ++ [.bytes (x :: xs)] := by
      simp [List.set_append_right]
    have htake : groups.take (groups.length + 1) = groups := List.take_of_length_le (by omega)
    simp [WithGroup_body, hw, hmk, htake, hset, hsetv]

/-! ### `hasContent`: recursion over groups, with the fuel the nesting depth needs -/

/-- loop variables of `hasContent` left behind by earlier iterations: the member and the callee's answer -/
def hcJunk : Option (Val × Val) → Env
  | none => []
  | some (m, r) => [("l0", m), ("l1", r)]

theorem hcJunk_some (m r : Val) : hcJunk (some (m, r)) = [("l0", m), ("l1", r)] := rfl

theorem hcJunk_set (t : Option (Val × Val)) (m r : Val) :
    Env.set "l1" r (Env.set "l0" m (hcJunk t)) = [("l0", m), ("l1", r)] := by
  cases t <;> simp [hcJunk]

theorem hasContent_loop_of_members (P : Par) (F : Nat) (fl : Env) : ∀ (ms : List SAttr),
    (∀ m ∈ ms, (exec (X P) F hasContent_body ⟨[("p0", attrV m)], fl⟩).fin = some ([.bool (Slog.hasContent m)], fl)) →
    ∀ (i : Nat) (p0 : Val) (t : Option (Val × Val)),
    ∃ t', rangeRun (execS (X P) (exec (X P) F) hasContent_loop0.rbody) .blank (.loc "l0") (attrsV ms) i
        ⟨[("p0", p0)] ++ hcJunk t, fl⟩ =
      if anyContent ms then .ret [.bool true] ⟨[("p0", p0)] ++ hcJunk t', fl⟩ else .normal ⟨[("p0", p0)] ++ hcJunk t', fl⟩
  | [], _, i, p0, t => ⟨t, by simp [attrsV, rangeRun, anyContent]⟩
  | m :: r, hmem, i, p0, t => by
    have hcall : ∀ σ : State, retK σ [.loc "l1"] "hasContent"
        (exec (X P) F hasContent_body ⟨[("p0", attrV m)], fl⟩) = _ :=
      fun σ => retK_of_fin1 σ _ _ _ _ _ (hmem m List.mem_cons_self)
    obtain ⟨t', hrest⟩ := hasContent_loop_of_members P F fl r (fun m' h => hmem m' (List.mem_cons_of_mem _ h)) (i + 1) p0
      (some (attrV m, .bool (Slog.hasContent m)))
    cases hc : Slog.hasContent m with
    | true =>
      exact ⟨some (attrV m, .bool true), by
        simp [attrsV, rangeRun, hasContent_loop0, Stmt.rbody, hcall, hc, anyContent, hcJunk_set, hcJunk_some]⟩
    | false =>
      refine ⟨t', ?_⟩
      rw [hc] at hrest
      simpa [attrsV, rangeRun, hasContent_loop0, Stmt.rbody, hcall, hc, anyContent, hcJunk_set, hcJunk_some] using hrest

/-- `attr.Value = attr.Value.Resolve()`: the attribute with every LogValuer layer stripped -/
theorem hasContent_resolve_matches_source (P : Par) (a : SAttr) (fl : Env) (rec : Stmt → State → GoMini.Out) :
    execS (X P) rec hasContent_body.hd ⟨[("p0", attrV a)], fl⟩ = .normal ⟨[("p0", attrV (resolved a))], fl⟩ := by
  simp [hasContent_body, Stmt.hd]

/-- `hasContent` resolves the value, answers false on the empty Attr and true on every other non-group, and scans the
    members of a group.  By induction on the fuel: the members are handled one level of `exec` below. -/
theorem hasContent_exec_matches_source (P : Par) : ∀ (F : Nat) (a : SAttr) (fl : Env), dep a + 1 ≤ F →
    (exec (X P) F hasContent_body ⟨[("p0", attrV a)], fl⟩).fin = some ([.bool (Slog.hasContent a)], fl)
  | 0, _, _, h => absurd h (by omega)
  | F + 1, a, fl, h => by
    rw [exec_succ, show hasContent_body = .seq hasContent_body.hd hasContent_body.tl from rfl, execS_seq,
      hasContent_resolve_matches_source]
    cases a with
    | leaf k lv l =>
      have hk : ¬ (kindOfTy l.ty = 8) := by have := kindOfTy_range l.ty; omega
      simp [hasContent_body, Stmt.tl, Slog.hasContent, resolved, isZeroAttr, lvOf, kind0, hk]
    | nilv k lv =>
      simp [hasContent_body, Stmt.tl, Slog.hasContent, resolved, isZeroAttr, lvOf, kind0, sbytes_isEmpty, Out.andThen_ite,
        Out.fin_ite]
      split <;> simp [*]
    | group k lv ms =>
      have hd : deps ms + 1 ≤ F := by simp only [dep] at h; omega
      obtain ⟨t', hloop⟩ := hasContent_loop_of_members P F fl ms
        (fun m hm => hasContent_exec_matches_source P F m fl (by have := dep_le_deps m ms hm; omega))
        0 (attrV (.group k 0 ms)) none
      simp only [hcJunk, List.append_nil] at hloop
      simp [hasContent_body, Stmt.tl, hasContent_loop0, Stmt.rbody, resolved, isZeroAttr, lvOf, kind0] at hloop ⊢
      rw [hloop]
      cases hany : anyContent ms <;> simp [Slog.hasContent, hany]

/-- the loop over the members: returns true at the first member with content -/
theorem hasContent_loop_matches_source (P : Par) : ∀ (ms : List SAttr) (F : Nat) (fl : Env), deps ms + 1 ≤ F →
    ∀ (i : Nat) (p0 : Val) (t : Option (Val × Val)),
    ∃ t', rangeRun (execS (X P) (exec (X P) F) hasContent_loop0.rbody) .blank (.loc "l0") (attrsV ms) i
        ⟨[("p0", p0)] ++ hcJunk t, fl⟩ =
      if anyContent ms then .ret [.bool true] ⟨[("p0", p0)] ++ hcJunk t', fl⟩ else .normal ⟨[("p0", p0)] ++ hcJunk t', fl⟩ :=
  fun ms F fl h => hasContent_loop_of_members P F fl ms
    fun m hm => hasContent_exec_matches_source P F m fl (by have := dep_le_deps m ms hm; omega)

/-- `hasContent(attr)` is the model's `Slog.hasContent` on every attribute tree (fuel: the nesting depth + 1) -/
theorem hasContent_matches_source (P : Par) (a : SAttr) (fl : Env) (fuel : Nat) :
    run (X P) (fuel + dep a + 1) "hasContent" [attrV a] fl = .done [.bool (Slog.hasContent a)] fl :=
  run_of_exec (X_funs P) funs_hasContent rfl
    (hasContent_exec_matches_source P (fuel + dep a + 1) a fl (by omega))

/-- on a RESOLVED attribute (no LogValuer layer): the empty Attr and content-less groups are `zap.Skip()`, scalars go
    to the constructor of their kind, groups to `zap.Inline` (empty key) or `zap.Object` over their members -/
theorem convertAttrToField_resolved_matches_source (P : Par) (a : SAttr) (h0 : lvOf a = 0) (F : Nat) (hF : dep a + 2 ≤ F)
    (fl : Env) :
    (exec (X P) F convertAttrToField_body ⟨[("p0", attrV a)], fl⟩).fin = some ([convV a], fl) := by
  obtain ⟨F', rfl⟩ : ∃ F', F = F' + 1 := ⟨F - 1, by omega⟩
  rw [exec_succ]
  unfold convertAttrToField_body
  cases a with
  | leaf k lv l =>
    have hlv : lv = 0 := h0
    subst hlv
    -- the switch is run once with the kind a variable (a scalar is neither a group nor a LogValuer); what is left is a chain
    -- of tests on the kind, of which `kind_ctor` picks the arm
    have h89 : kindOfTy l.ty ≠ 8 ∧ kindOfTy l.ty ≠ 9 := by have := kindOfTy_range l.ty; omega
    simp [convV, isZeroAttr, lvOf, kind0, keyOf, h89]
    rcases kind_ctor l.ty with ⟨hk, hc⟩ | ⟨hk, hc⟩ | ⟨hk, hc⟩ | ⟨hk, hc⟩ | ⟨hk, hc⟩ | ⟨hk, hc⟩ | ⟨hk, hc⟩ | ⟨hk, hc⟩ <;>
      simp only [hk, hc, Int.reduceEq, ↓reduceIte, Res.out_ok, Bool.false_eq_true, Out.catchBrk_ret, Out.fin_ret]
  | nilv k lv =>
    have hlv : lv = 0 := h0
    subst hlv
    simp [convV, isZeroAttr, lvOf, kind0, keyOf, sbytes_isEmpty, Out.andThen_ite, Out.fin_ite]
    by_cases hk : k = "" <;> simp [hk]
  | group k lv ms =>
    have hlv : lv = 0 := h0
    subst hlv
    have hcall : ∀ σ : State, retK σ [.loc "l0"] "hasContent"
        (exec (X P) F' hasContent_body ⟨[("p0", attrV (.group k 0 ms))], fl⟩) = _ :=
      fun σ => retK_of_fin1 σ _ _ _ _ _ (hasContent_exec_matches_source P F' (.group k 0 ms) fl (by omega))
    -- one run: the tests on `hasContent` and on the key come out as `if`s around the three results
    simp [convV, isZeroAttr, lvOf, kind0, hcall, Slog.hasContent, keyOf, Out.andThen_ite,
      Out.catchBrk_ite, Out.fin_ite, sbytes_eq_nil]
    cases anyContent ms <;> by_cases hk : k = "" <;> simp [hk]

/-- `convertAttrToField(attr)` on EVERY attribute: a LogValuer is resolved (all layers) and converted -/
theorem convertAttrToField_exec_matches_source (P : Par) (a : SAttr) (F : Nat) (hF : dep a + 3 ≤ F) (fl : Env) :
    (exec (X P) F convertAttrToField_body ⟨[("p0", attrV a)], fl⟩).fin = some ([convV a], fl) := by
  by_cases h0 : lvOf a = 0
  · exact convertAttrToField_resolved_matches_source P a h0 F (by omega) fl
  · obtain ⟨F', rfl⟩ : ∃ F', F = F' + 1 := ⟨F - 1, by omega⟩
    have hpos : (0 : Int) < (lvOf a : Int) := by omega
    have hz : isZeroAttr a = false := by
      cases a <;> simp_all [isZeroAttr, lvOf]
    have hcall : ∀ σ : State, retK σ [.loc "l1"] "convertAttrToField"
        (exec (X P) F' convertAttrToField_body ⟨[("p0", attrV (resolved a))], fl⟩) = _ :=
      fun σ => retK_of_fin1 σ _ _ _ _ _
        (convertAttrToField_resolved_matches_source P (resolved a) (lvOf_resolved a) F' (by rw [dep_resolved]; omega) fl)
    have hposN : 0 < lvOf a := by omega
    rw [exec_succ]
    unfold convertAttrToField_body
    simp [hz, hposN, hcall, convV_resolved]

theorem convertAttrToField_matches_source (P : Par) (a : SAttr) (fl : Env) (fuel : Nat) :
    run (X P) (fuel + dep a + 3) "convertAttrToField" [attrV a] fl = .done [convV a] fl :=
  run_of_exec (X_funs P) funs_convertAttrToField rfl
    (convertAttrToField_exec_matches_source P a (fuel + dep a + 3) (by omega) fl)

/-- one iteration of the loop of `WithAttrs`: the attribute is converted; the pending groups are opened right before the
    first field that is not `zap.Skip()` -/
theorem WithAttrs_iter_matches_source (P : Par) (gs : List Bytes) (fl : Env)
    (hfl : Env.get "groups" fl = some (.list (gs.map Val.bytes))) (p0 : Val) (a : SAttr) (F : Nat) (hF : dep a + 3 ≤ F)
    (acc : List Val × Bool) (rest : Env) :
    execS (X P) (exec (X P) F) WithAttrs_loop0.rbody
        ⟨("p0", p0) :: ("l0", .list acc.1) :: ("l1", .bool acc.2) :: Env.set "l2" (attrV a) rest, fl⟩ =
      .normal ⟨("p0", p0) :: ("l0", .list (attrStep gs acc a).1) :: ("l1", .bool (attrStep gs acc a).2) ::
        Env.set "l3" (convV a) (Env.set "l2" (attrV a) rest), fl⟩ := by
  obtain ⟨F', rfl⟩ : ∃ F', F = F' + 1 := ⟨F - 1, by omega⟩
  have hconv : ∀ σ : State, retK σ [.loc "l3"] "convertAttrToField"
      (exec (X P) (F' + 1) convertAttrToField_body ⟨[("p0", attrV a)], fl⟩) = _ :=
    fun σ => retK_of_fin1 σ _ _ _ _ _ (convertAttrToField_exec_matches_source P a (F' + 1) hF fl)
  have hgrp : ∀ (σ : State) (fs : List Val), retK σ [.loc "l0"] "appendGroups"
      (exec (X P) (F' + 1) appendGroups_body ⟨[("p0", .list fs)], fl⟩) = _ :=
    fun σ fs => retK_of_fin1 σ _ _ _ _ _ (appendGroups_exec_matches_source P fs gs fl hfl F')
  obtain ⟨fs, added⟩ := acc
  cases added with
  | true => simp [WithAttrs_loop0, Stmt.rbody, hconv, attrStep]
  | false =>
    cases gs <;> cases hs : isSkip (convert a) <;>
      simp [WithAttrs_loop0, Stmt.rbody, hconv, hgrp, hfl, convV_ne_skip, attrStep, hs]

theorem WithAttrs_loop_matches_source (P : Par) (gs : List Bytes) (fl : Env)
    (hfl : Env.get "groups" fl = some (.list (gs.map Val.bytes))) (p0 : Val) (as : List SAttr) (F : Nat) (hF : deps as + 3 ≤ F)
    (acc : List Val × Bool) :
    ∃ rest', rangeRun (execS (X P) (exec (X P) F) WithAttrs_loop0.rbody) .blank (.loc "l2") (attrsV as) 0
        ⟨[("p0", p0), ("l0", .list acc.1), ("l1", .bool acc.2)], fl⟩ =
      .normal ⟨("p0", p0) :: ("l0", .list (as.foldl (attrStep gs) acc).1) :: ("l1", .bool (as.foldl (attrStep gs) acc).2) ::
        rest', fl⟩ := by
  have h := rangeRun_foldIdx (execS (X P) (exec (X P) F) WithAttrs_loop0.rbody) .blank (.loc "l2") attrV
    (fun acc rest => ⟨("p0", p0) :: ("l0", .list acc.1) :: ("l1", .bool acc.2) :: rest, fl⟩) (fun acc _ a => attrStep gs acc a) as
    (fun acc rest i a hi => ⟨_, by
      have := dep_le_deps a as (List.mem_of_getElem? hi)
      simpa using WithAttrs_iter_matches_source P gs fl hfl p0 a F (by omega) acc rest⟩)
    as 0 acc [] rfl
  rwa [zipIdx_foldl_fst, ← attrsV_eq_map] at h

/-- `WithAttrs(attrs)`: the clone gets every field of the receiver; its core is `core.With(fields)` for the fields of
    `withAttrsSpec`; its pending groups are cleared exactly when they were opened -/
theorem WithAttrs_matches_source (P : Par) (as : List SAttr) (core : Val) (name : Bytes) (ac : Bool) (asa cs : Int)
    (gs : List Bytes) (self : Val) (ocore : Val) (oname : Bytes) (oac : Bool) (oasa ocs : Int) (ogroups : List Val)
    (oself : Val) (ev : List Val) (fuel : Nat) :
    run (X P) (fuel + deps as + 4) "WithAttrs" [.list (attrsV as)]
        (hFld core name ac asa cs (gs.map Val.bytes) self ocore oname oac oasa ocs ogroups oself ev) =
      .done [oself] (hFld core name ac asa cs (gs.map Val.bytes) self
        (P.coreWith core (.list (withAttrsSpec gs as).1)) name ac asa cs
        (if (withAttrsSpec gs as).2 then [] else gs.map Val.bytes) oself ev) := by
  refine run_of_exec (X_funs P) funs_WithAttrs rfl ?_
  obtain ⟨rest, hloop⟩ := WithAttrs_loop_matches_source P gs
    (hFld core name ac asa cs (gs.map Val.bytes) self ocore oname oac oasa ocs ogroups oself ev) (by simp) (.list (attrsV as))
    as (fuel + deps as + 3) (by omega) ([], false)
  rw [show List.foldl (attrStep gs) ([], false) as = withAttrsSpec gs as from rfl] at hloop
  generalize withAttrsSpec gs as = R at hloop ⊢
  obtain ⟨fs, added⟩ := R
  simp [WithAttrs_body, WithAttrs_loop0, Stmt.rbody] at hloop ⊢
  rw [hloop]
  simp [Out.andThen_ite, Out.fin_ite]
  cases added <;> rfl

/-- the fields and the flag are the model's `addAttrs` (`Slog.ins` over `converts`): Proofs/TransSlog.lean -/
theorem WithAttrs_is_addAttrs (pending : List String) (as : List SAttr) :
    ∃ items : List (String ⊕ SAttr),
      (withAttrsSpec (pending.map sbytes) as).1 = items.map itemV ∧
      (addAttrs ⟨[], pending⟩ (converts as)).ctx = items.map itemF ∧
      (addAttrs ⟨[], pending⟩ (converts as)).pending = (if (withAttrsSpec (pending.map sbytes) as).2 then [] else pending) :=
  withAttrsSpec_is_ins pending as

/-! ### `Handle`, up to the attribute iteration -/

/-- a `slog.Record` as the translated function reads it -/
def recV (level : Int) (time : Val) (msg : Bytes) (pc : Int) (attrs : Val) : Val :=
  .list [.int level, time, .bytes msg, .int pc, attrs]

def entOf (level : Int) (time : Val) (msg name : Bytes) : Val := .list [.int (levelSpec level), time, .bytes msg, .bytes name]

theorem Handle_check_matches_source (P : Par) (ctx : Val) (level : Int) (time : Val) (msg : Bytes) (pc : Int) (attrs core : Val)
    (name : Bytes) (fl : Env) (hcore : Env.get "core" fl = some core) (hname : Env.get "name" fl = some (.bytes name))
    (k : Stmt) (fuel : Nat) :
    execS (X P) (exec (X P) (fuel + 1)) (.seq Handle_body.hd (.seq Handle_body.tl.hd k))
        ⟨[("p0", ctx), ("p1", recV level time msg pc attrs)], fl⟩ =
      execS (X P) (exec (X P) (fuel + 1)) k ⟨[("p0", ctx), ("p1", recV level time msg pc attrs), ("l0", .int (levelSpec level)),
        ("l1", entOf level time msg name), ("l2", P.check core (entOf level time msg name))], fl⟩ := by
  have hlvl : ∀ σ : State, retK σ [.loc "l0"] "convertSlogLevel"
      (exec (X P) (fuel + 1) convertSlogLevel_body ⟨[("p0", .int level)], fl⟩) = _ :=
    fun σ => retK_of_fin1 σ _ _ _ _ _ (convertSlogLevel_exec_matches_source P level _ fuel)
  simp [Handle_body, Stmt.hd, Stmt.tl, recV, entOf, hlvl, hcore, hname]

theorem Handle_caller_matches_source (P : Par) (rec : Stmt → State → GoMini.Out) (ctx : Val) (level : Int) (time : Val)
    (msg : Bytes) (pc : Int) (attrs l0 l1 c0 s0 r0 : Val) (ac : Bool) (fl : Env)
    (hac : Env.get "addCaller" fl = some (.bool ac))
    (fpc : Int) (ffile fline ffn : Val) (more : Bool) (hfr : P.frame (.int pc) = (.list [.int fpc, ffile, fline, ffn], more)) :
    ∃ junk, ∀ k, execS (X P) rec (.seq Handle_body.tl.tl.hd (.seq Handle_body.tl.tl.tl.hd k))
        ⟨[("p0", ctx), ("p1", recV level time msg pc attrs), ("l0", l0), ("l1", l1), ("l2", .list [c0, s0, r0])], fl⟩ =
      execS (X P) rec k ⟨[("p0", ctx), ("p1", recV level time msg pc attrs), ("l0", l0), ("l1", l1),
        ("l2", .list [if ac && decide (pc ≠ 0) && decide (fpc ≠ 0) then .list [.bool true, .int fpc, ffile, fline, ffn] else c0,
          s0, r0])] ++ junk, fl⟩ := by
  simp only [Handle_body, Stmt.hd, Stmt.tl, recV]
  cases ac with
  | false => exact ⟨[], fun k => by simp [hac]⟩
  | true =>
    by_cases hpc : pc = 0
    · exact ⟨[], fun k => by simp [hac, hpc]⟩
    · refine ⟨[("l3", .list [.int fpc, ffile, fline, ffn])], fun k => ?_⟩  -- the frame variable stays behind
      by_cases hf : fpc = 0 <;> simp [hac, hpc, hfr, hf]

theorem Handle_write_matches_source (P : Par) (rec : Stmt → State → GoMini.Out) (ctx : Val) (level : Int) (time : Val)
    (msg : Bytes) (pc : Int) (attrs l0 l1 c s r : Val) (junk fl : Env) (asa cs : Int) (ev : List Val)
    (hasa : Env.get "addStackAt" fl = some (.int asa)) (hcs : Env.get "callerSkip" fl = some (.int cs))
    (hev : Env.get "ev" fl = some (.list ev))
    (hw : -9223372036854775808 ≤ 3 + cs ∧ 3 + cs < 9223372036854775808) :
    (execS (X P) rec Handle_body.tl.tl.tl.tl
        ⟨[("p0", ctx), ("p1", recV level time msg pc attrs), ("l0", l0), ("l1", l1), ("l2", .list [c, s, r])] ++ junk, fl⟩).fin =
      some ([.list []], Env.set "ev" (.list (ev ++ [.list [TransSlog.nm "Handler.convertAndWrite",
        .list [c, if level ≥ asa then .bytes (P.take (3 + cs)) else s, r], recV level time msg pc attrs]])) fl) := by
  have hw' : wrap .int (3 + cs) = 3 + cs := wrap_int_id _ hw.1 hw.2
  have hnm : TransSlog.nm "Handler.convertAndWrite" = .bytes [72, 97, 110, 100, 108, 101, 114, 46, 99, 111, 110, 118, 101, 114, 116, 65, 110, 100, 87, 114, 105, 116, 101] :=
    congrArg Val.bytes (by decide +kernel)
  simp only [Handle_body, Stmt.tl, recV]
  by_cases hl : level ≥ asa <;> simp [hasa, hcs, hev, hw', hnm, hl]

/-- the ONLY gate is `core.Check` on the mapped level: a nil answer returns nil and NOTHING is written -/
theorem Handle_rejected_matches_source (P : Par) (ctx : Val) (level : Int) (time : Val) (msg : Bytes) (pc : Int) (attrs : Val)
    (core : Val) (name : Bytes) (ac : Bool) (asa cs : Int) (groups : List Val) (self : Val) (ocore : Val) (oname : Bytes)
    (oac : Bool) (oasa ocs : Int) (ogroups : List Val) (oself : Val) (ev : List Val)
    (hck : P.check core (entOf level time msg name) = .list []) (fuel : Nat) :
    run (X P) (fuel + 2) "Handle" [ctx, recV level time msg pc attrs]
        (hFld core name ac asa cs groups self ocore oname oac oasa ocs ogroups oself ev) =
      .done [.list []] (hFld core name ac asa cs groups self ocore oname oac oasa ocs ogroups oself ev) := by
  refine run_of_exec (X_funs P) funs_Handle rfl ?_
  rw [Handle_body_eq, show Handle_body = .seq Handle_body.hd (.seq Handle_body.tl.hd Handle_body.tl.tl) from rfl]
  exact (congrArg Out.fin (Handle_check_matches_source P ctx level time msg pc attrs core name _ (by simp) (by simp) _ fuel)).trans
    (by simp [Handle_body, Stmt.tl, hck])

/-- an accepted entry: the caller is taken from the record's PC (only with `addCaller`, a PC and a frame), the stack is
    taken from `addStackAt` up, and the entry is handed to the attribute iteration and `ce.Write` exactly once -/
theorem Handle_accepted_matches_source (P : Par) (ctx : Val) (level : Int) (time : Val) (msg : Bytes) (pc : Int) (attrs : Val)
    (core : Val) (name : Bytes) (ac : Bool) (asa cs : Int) (groups : List Val) (self : Val) (ocore : Val) (oname : Bytes)
    (oac : Bool) (oasa ocs : Int) (ogroups : List Val) (oself : Val) (ev : List Val)
    (c0 s0 r0 : Val) (hck : P.check core (entOf level time msg name) = .list [c0, s0, r0])
    (fpc : Int) (ffile fline ffn : Val) (more : Bool)
    (hfr : P.frame (.int pc) = (.list [.int fpc, ffile, fline, ffn], more))
    (hcs : -9223372036854775808 ≤ 3 + cs ∧ 3 + cs < 9223372036854775808) (fuel : Nat) :
    run (X P) (fuel + 2) "Handle" [ctx, recV level time msg pc attrs]
        (hFld core name ac asa cs groups self ocore oname oac oasa ocs ogroups oself ev) =
      .done [.list []] (hFld core name ac asa cs groups self ocore oname oac oasa ocs ogroups oself
        (ev ++ [.list [TransSlog.nm "Handler.convertAndWrite",
          .list [if ac && decide (pc ≠ 0) && decide (fpc ≠ 0) then .list [.bool true, .int fpc, ffile, fline, ffn] else c0,
                 if level ≥ asa then .bytes (P.take (3 + cs)) else s0, r0],
          recV level time msg pc attrs]])) := by
  refine run_of_exec (X_funs P) funs_Handle rfl ?_
  obtain ⟨junk, hcaller⟩ := Handle_caller_matches_source P (exec (X P) (fuel + 1)) ctx level time msg pc attrs
    (.int (levelSpec level)) (entOf level time msg name) c0 s0 r0 ac
    (hFld core name ac asa cs groups self ocore oname oac oasa ocs ogroups oself ev) (by simp) fpc ffile fline ffn more hfr
  rw [Handle_body_eq, show Handle_body = .seq Handle_body.hd (.seq Handle_body.tl.hd (.seq Handle_body.tl.tl.hd
    (.seq Handle_body.tl.tl.tl.hd Handle_body.tl.tl.tl.tl))) from rfl]
  refine (congrArg Out.fin (Handle_check_matches_source P ctx level time msg pc attrs core name _ (by simp) (by simp) _ fuel)).trans ?_
  rw [hck, hcaller]
  refine (Handle_write_matches_source P _ ctx level time msg pc attrs _ _ _ s0 r0 junk _ asa cs ev (by simp) (by simp) (by simp)
    hcs).trans ?_
  simp

end ZapVerif.C18
