import ZapVerif.Proofs.EntryWF
import ZapVerif.Gen.JsonAdd
import ZapVerif.Model.SubEnc
import ZapVerif.Proofs.TransJsonSep
import ZapVerif.Proofs.TransEscape
import ZapVerif.Proofs.TransJsonEnc
/-! # C01 — the JSON encoder always emits one well-formed JSON object per entry, on one line

Model: `Model/Esc.lean` (escaping), `Model/Enc.lean` (the streaming encoder over call trees), `Model/Entry.lean`
(`Field.AddTo`, metadata rules, `jsonLine`).  Helper lemmas: `Proofs/Enc*.lean`, `Proofs/Entry*.lean`. -/
namespace ZapVerif.C01
open ZapVerif ZapVerif.Esc ZapVerif.Json ZapVerif.Enc ZapVerif.Entry

/-- whatever the input bytes (hostile, invalid UTF-8, control characters, quotes), the escaped text is a legal
    JSON string body: no raw byte < 0x20, no bare quote, every backslash starts a legal escape -/
theorem escape_body_safe (s : Bytes) : runD 0 (esc s) = some 0 := esc_ok s

/-- and in particular it contains no raw control byte or line break -/
theorem escape_no_control (s : Bytes) : ∀ b ∈ esc s, b ≥ 32 :=
  runD_ge 0 (esc s) (by rw [escape_body_safe]; rfl)

/-- the crux: the encoder decides separators from the LAST BYTE of its buffer (`addElementSeparator`); for every
    nested call tree with well-formed leaves — objects, arrays, namespaces left open, to any depth, compact or
    spaced — that streaming machine equals the compositional output function -/
theorem stream_eq_out (sp : Bool) (calls : List OC) (buf : Bytes) (n : Nat) (first : Bool)
    (hs : St buf first) (hw : WFo calls) :
    runO sp ⟨buf, n⟩ calls = ⟨buf ++ (outO sp first calls).1, n + (outO sp first calls).2⟩ :=
  runO_eq sp calls buf n first hs hw

/-- nil and no-op sub-encoders (level, time, duration, caller, name) still yield exactly one well-formed value
    after the key: the string / integer fall-back -/
theorem noop_fallbacks (s : Bytes) (n : Int) :
    WFj (subOrStr .noop s) ∧ WFj (subOrStr .nilEnc s) ∧ WFj (subOrNanos .noop n) ∧ WFj (subOrNanos .nilEnc n) :=
  ⟨(subOrStr_ok .noop s trivial).1, (subOrStr_ok .nilEnc s trivial).1,
   (subOrNanos_ok .noop n trivial).1, (subOrNanos_ok .nilEnc n trivial).1⟩

/-- `Field.AddTo` only ever makes calls with well-formed, control-free leaves — including every failure branch
    (marshaler error, panicking or nil Stringer / error, reflection failure, error groups) -/
theorem addTo_wellformed (f : Field) (h : FieldOK f) : WFo (addTo f) ∧ NoCtlO (addTo f) := addTo_good f h

/-- C01, full statement over the model: for every encoder configuration (keys empty / duplicate / needing
    escapes, nil / no-op / arbitrary sub-encoder results, any line ending), every entry, every With-chain and every
    call-site field list (any nesting, namespaces left open anywhere, failing marshalers), the emitted line is
    ONE JSON object followed by the configured line ending; that object is well-formed, contains no byte below
    0x20 (so it occupies exactly one line), and decodes back to the tree it renders. -/
theorem jsonLine_wellformed (c : Cfg) (e : Ent) (ctx : List (List Field)) (fields : List Field)
    (he : EntOK e) (hc : ∀ fs ∈ ctx, ∀ f ∈ fs, FieldOK f) (hf : ∀ f ∈ fields, FieldOK f) :
    ∃ ms : List (Bytes × J),
      jsonLine c e ctx fields = render (J.obj ms) ++ c.ending ∧
      WFj (J.obj ms) ∧
      (∀ b ∈ render (J.obj ms), b ≥ 32) ∧
      parseV (size (J.obj ms)) (render (J.obj ms)) = some (J.obj ms, []) := by
  have hok := entryMembers_ok c e ctx fields he hc hf
  exact ⟨entryMembers c e ctx fields, jsonLine_eq_render c e ctx fields he hc hf, hok.1,
    render_ge _ hok.1 hok.2, parse_render _ hok.1⟩

/-- what the model assumes about `jsonEncoder`'s Add/Append surface, as a table: every `AddX(key, val)` is
    `addKey(key); AppendX(val)` (so it is one `OC.prim`/`obj`/`arr` call of the model), or widens to AddInt64 /
    AddUint64 with the plain conversion, AddBinary goes through base64 + AddString, AddReflected encodes BEFORE it
    writes the key, OpenNamespace is key + `{` + counter; floats carry their own bit size, complex numbers their
    precision.  `Gen.jsonAdd` is regenerated from zapcore/json_encoder.go on every run. -/
def expectedJsonAdd : List (String × String × String × String) := [
  ("AddArray", "keyAppend", "AppendArray", ""),
  ("AddBinary", "binary", "AddString", ""),
  ("AddBool", "keyAppend", "AppendBool", ""),
  ("AddByteString", "keyAppend", "AppendByteString", ""),
  ("AddComplex128", "keyAppend", "AppendComplex128", ""),
  ("AddComplex64", "keyAppend", "AppendComplex64", ""),
  ("AddDuration", "keyAppend", "AppendDuration", ""),
  ("AddFloat32", "keyAppend", "AppendFloat32", ""),
  ("AddFloat64", "keyAppend", "AppendFloat64", ""),
  ("AddInt", "widen", "AddInt64", "int64"),
  ("AddInt16", "widen", "AddInt64", "int64"),
  ("AddInt32", "widen", "AddInt64", "int64"),
  ("AddInt64", "keyAppend", "AppendInt64", ""),
  ("AddInt8", "widen", "AddInt64", "int64"),
  ("AddObject", "keyAppend", "AppendObject", ""),
  ("AddReflected", "reflected", "", ""),
  ("AddString", "keyAppend", "AppendString", ""),
  ("AddTime", "keyAppend", "AppendTime", ""),
  ("AddUint", "widen", "AddUint64", "uint64"),
  ("AddUint16", "widen", "AddUint64", "uint64"),
  ("AddUint32", "widen", "AddUint64", "uint64"),
  ("AddUint64", "keyAppend", "AppendUint64", ""),
  ("AddUint8", "widen", "AddUint64", "uint64"),
  ("AddUintptr", "widen", "AddUint64", "uint64"),
  ("AppendComplex128", "appendWiden", "appendComplex", "complex128(v);64"),
  ("AppendComplex64", "appendWiden", "appendComplex", "complex128(v);32"),
  ("AppendFloat32", "appendWiden", "appendFloat", "float64(v);32"),
  ("AppendFloat64", "appendWiden", "appendFloat", "v;64"),
  ("AppendInt", "appendWiden", "AppendInt64", "int64(v);"),
  ("AppendInt16", "appendWiden", "AppendInt64", "int64(v);"),
  ("AppendInt32", "appendWiden", "AppendInt64", "int64(v);"),
  ("AppendInt8", "appendWiden", "AppendInt64", "int64(v);"),
  ("AppendUint", "appendWiden", "AppendUint64", "uint64(v);"),
  ("AppendUint16", "appendWiden", "AppendUint64", "uint64(v);"),
  ("AppendUint32", "appendWiden", "AppendUint64", "uint64(v);"),
  ("AppendUint8", "appendWiden", "AppendUint64", "uint64(v);"),
  ("AppendUintptr", "appendWiden", "AppendUint64", "uint64(v);"),
  ("OpenNamespace", "namespace", "", "")
]

theorem json_add_surface : Gen.jsonAdd = expectedJsonAdd := rfl

/-- the line ending: SkipLineEnding wins; an empty LineEnding means one "\n" -/
theorem ending_rule (c : Cfg) :
    c.ending = (if c.skipLineEnding then [] else if c.lineEnding.isEmpty then [10] else c.lineEnding) := rfl

/-- non-vacuity: hostile key and value, a namespace left open inside an object inside an array, a failing marshaler -/
example : FieldOK (.arr [107] [AC.obj [OC.ns [34], OC.prim [10] (J.str (esc [255, 34]))]] (some [101])) := by
  refine ⟨?_, ?_⟩
  · simp [WFa, WFo, WFj, esc_ok]
  · simp [NoCtlA, NoCtlO, NoCtlJ]

/-! ## built-in sub-encoders (model `Model/SubEnc.lean`)

`jsonLine_wellformed` assumes `EntOK` / `PrimOK`: what each configured sub-encoder appended is a legal scalar.  For the
built-in encoders the model computes (levels ×4, `NanosDurationEncoder`, `MillisDurationEncoder`,
`StringDurationEncoder`, `EpochNanosTimeEncoder`, `FullCallerEncoder`, `ShortCallerEncoder`, `FullNameEncoder` / nil) that
hypothesis is DISCHARGED: they append one string or one integer. -/
section SubEncoders
open ZapVerif.SubEnc

/-- every model-computed sub-encoder result satisfies the well-formedness hypothesis, whatever the raw values -/
theorem subenc_wellformed (lk : LvlEnc) (dk : DurEnc) (ck : CallerEnc) (o : SubRes) (l n : Int) (defined : Bool)
    (file name : Bytes) (line : Int) :
    SubOK (lvlRes (some lk) o l) ∧ SubOK (durRes (some dk) o n) ∧ SubOK (timeRes true o n) ∧
    SubOK (callerRes (some ck) o defined file line) ∧ SubOK (nameRes true o name) := by
  refine ⟨trivial, ?_, trivial, trivial, trivial⟩
  cases dk <;> trivial

/-- duration and time fields encoded by the exact built-ins are well-formed leaves (no hypothesis left) -/
theorem builtin_prims_ok (dk : DurEnc) (o : SubRes) (n : Int) :
    PrimOK (.dur ⟨n, durRes (some dk) o n⟩) ∧ PrimOK (.time ⟨n, timeRes true o n⟩) := by
  refine ⟨?_, trivial⟩
  cases dk <;> trivial

/-- an entry whose level, caller and name go through built-in exact encoders needs a hypothesis only for the time
    encoder's result (float / layout kinds) -/
theorem builtin_entry_ok (lk : LvlEnc) (ck : CallerEnc) (level : Int) (time : Option TimeV) (name : Bytes)
    (defined : Bool) (file : Bytes) (line : Int) (function message stack : Bytes)
    (ht : ∀ t, time = some t → SubOK t.res) :
    EntOK (builtinEnt lk ck level time name defined file line function message stack) :=
  ⟨trivial, ht, trivial, trivial⟩

/-- C01 for the built-in encoders: with a level encoder among Lowercase/Capital/LowercaseColor/CapitalColor, a caller
    encoder among Full/Short, FullNameEncoder (or nil) and EpochNanosTimeEncoder (or a zero time), the statement of
    `jsonLine_wellformed` holds with NO assumption about sub-encoder results — for every level (known or not), every
    file, line, name and instant -/
theorem jsonLine_wellformed_builtin (c : Cfg) (lk : LvlEnc) (ck : CallerEnc) (level : Int) (nanos : Option Int)
    (name : Bytes) (defined : Bool) (file : Bytes) (line : Int) (function message stack : Bytes)
    (ctx : List (List Field)) (fields : List Field)
    (hc : ∀ fs ∈ ctx, ∀ f ∈ fs, FieldOK f) (hf : ∀ f ∈ fields, FieldOK f) :
    ∃ ms : List (Bytes × J),
      jsonLine c (builtinEnt lk ck level (nanos.map fun n => ⟨n, timeRes true .noop n⟩) name defined file line
        function message stack) ctx fields = render (J.obj ms) ++ c.ending ∧
      WFj (J.obj ms) ∧
      (∀ b ∈ render (J.obj ms), b ≥ 32) ∧
      parseV (size (J.obj ms)) (render (J.obj ms)) = some (J.obj ms, []) := by
  apply jsonLine_wellformed c _ ctx fields _ hc hf
  apply builtin_entry_ok
  intro t ht
  cases nanos with
  | none => simp at ht
  | some n =>
    simp only [Option.map_some, Option.some.injEq] at ht
    rw [← ht]; trivial

/-- non-vacuity: an unknown level under the capital colour encoder, a Windows-style path, a negative line -/
example : ∃ ms, jsonLine ⟨[109], [108], [116], [110], [99], [], [], [], false⟩
    (builtinEnt .capitalColor .short 42 (some ⟨-1, timeRes true .noop (-1)⟩) [115] true [67, 58, 92, 97, 92, 98] (-7) [] [104, 105] [])
    [] [.prim [100] (.dur ⟨-1500000, durRes (some .millis) .noop (-1500000)⟩)] = render (J.obj ms) ++ [10] :=
  let ⟨ms, h, _⟩ := jsonLine_wellformed_builtin ⟨[109], [108], [116], [110], [99], [], [], [], false⟩ .capitalColor .short 42
    (some (-1)) [115] true [67, 58, 92, 97, 92, 98] (-7) [] [104, 105] [] []
    [.prim [100] (.dur ⟨-1500000, durRes (some .millis) .noop (-1500000)⟩)] (by simp)
    (by intro f hf; simp at hf; subst hf; exact (builtin_prims_ok .millis .noop (-1500000)).1)
  ⟨ms, h⟩

end SubEncoders

end ZapVerif.C01

/-! ## the model's separator logic IS the source (Go→GoMini translation, docs/TRANSLATOR.md)

`Gen/TransJsonSep.lean` holds the bodies of `addElementSeparator`, `addKey` and `closeOpenNamespaces` as read from
zapcore/json_encoder.go on this run, as GoMini terms.  The theorems below run them in the GoMini interpreter on ALL
inputs (any buffer, any key, spaced or not, any number of open namespaces) and get exactly `Enc.sep`, `Enc.addKey`
and the closing braces `runO`/`encodeEntry` append — the functions `stream_eq_out` is stated over.  A behaviour
change of one of the Go functions changes the generated term and breaks the corresponding proof.
Hypothesis: lengths fit Go's `int` (`< 2^63`).  `safeAddString` is an intrinsic here (it appends `esc key`). -/
namespace ZapVerif.C01
open ZapVerif ZapVerif.Esc ZapVerif.Enc ZapVerif.GoMini ZapVerif.TransJsonSep ZapVerif.Gen.TransJsonSep

/-- body of `addElementSeparator`: ends (by `return` or by falling off the end) with `buf = sep sp buf`;
    neither the index expression `enc.buf.Bytes()[last]` nor anything else can panic -/
theorem addElementSeparator_exec_matches_source (buf : Bytes) (sp : Bool) (n : Int) (fuel : Nat) (hl : buf.length < 2^63) :
    (exec X (fuel + 1) addElementSeparator_body ⟨[], encFld buf sp n⟩).fin = some ([], encFld (sep sp buf) sp n) := by
  rw [exec_succ]
  rcases List.eq_nil_or_concat buf with rfl | ⟨l, b, rfl⟩
  · simp [addElementSeparator_body, wrap, sep]
  · have hw : wrap .int (l.length : Int) = l.length := by
      rw [wrap_int_id] <;> simp at hl ⊢ <;> omega
    have hnn : ¬ ((l.length : Int) < 0) := by omega
    have e1 : ((b.toNat : Int) = 123) ↔ b = 123 := byte_eq b 123
    have e2 : ((b.toNat : Int) = 91) ↔ b = 91 := byte_eq b 91
    have e3 : ((b.toNat : Int) = 58) ↔ b = 58 := byte_eq b 58
    have e4 : ((b.toNat : Int) = 44) ↔ b = 44 := byte_eq b 44
    have e5 : ((b.toNat : Int) = 32) ↔ b = 32 := byte_eq b 32
    simp only [addElementSeparator_body, sep, skip]
    simp [hw, hnn, indexVal_concat, Res.out_ite, Out.catchBrk_ite, Out.fin_ite, e1, e2, e3, e4, e5]
    -- what is left is Go's `switch` against the definition of `skip`
    by_cases h : (((b = 123 ∨ b = 91) ∨ b = 58) ∨ b = 44) ∨ b = 32
    · rw [if_pos h]
      rcases h with (((rfl | rfl) | rfl) | rfl) | rfl <;> rfl
    · rw [if_neg h]
      simp only [not_or] at h
      obtain ⟨⟨⟨⟨h1, h2⟩, h3⟩, h4⟩, h5⟩ := h
      rw [if_neg h1, if_neg h2, if_neg h3, if_neg h4, if_neg h5]
      cases sp <;> simp

/-- `enc.addElementSeparator()` ≡ `Enc.sep`: for every buffer, the last byte decides -/
theorem addElementSeparator_matches_source (buf : Bytes) (sp : Bool) (n : Int) (fuel : Nat) (hl : buf.length < 2^63) :
    run X (fuel + 1) "addElementSeparator" [] (encFld buf sp n) = .done [] (encFld (sep sp buf) sp n) :=
  run_of_exec X_funs funs_addElementSeparator rfl (addElementSeparator_exec_matches_source buf sp n fuel hl)

/-- `enc.addKey(key)` ≡ `Enc.addKey`: separator, quoted escaped key, colon (and a space when spaced) -/
theorem addKey_matches_source (buf k : Bytes) (sp : Bool) (n : Int) (fuel : Nat) (hl : buf.length < 2^63) :
    run X (fuel + 2) "addKey" [.bytes k] (encFld buf sp n) = .done [] (encFld (Enc.addKey sp buf k) sp n) := by
  refine run_of_exec X_funs funs_addKey rfl ?_
  have hsep : ∀ σ : State, retK σ [] "addElementSeparator"
      (exec X (fuel + 1) addElementSeparator_body ⟨[], encFld buf sp n⟩) = .normal { σ with fld := encFld (sep sp buf) sp n } :=
    fun σ => retK_of_fin0 σ _ _ _ (addElementSeparator_exec_matches_source buf sp n fuel hl)
  simp [addKey_body, hsep, Enc.addKey, colon, Out.fin_ite]
  cases sp <;> simp

/-- the loop of `closeOpenNamespaces` appends one `}` per open namespace (`+ 0`: `loop_fold`'s fuel for the body, which
    makes no call) -/
theorem closeOpenNamespaces_loop_matches_source (buf : Bytes) (sp : Bool) (n : Nat) (hn : n < 2^63) (fuel : Nat) :
    execS X (exec X (fuel + n + 0)) closeOpenNamespaces_loop0 ⟨[("l0", .int (0 : Nat))], encFld buf sp n⟩ =
      .normal ⟨[("l0", .int n)], encFld (buf ++ List.replicate n 125) sp n⟩ := by
  unfold closeOpenNamespaces_loop0
  refine (loop_fold (α := Nat × Bytes) X _ _ _ 0
    (fun a => ⟨[("l0", .int a.1)], encFld a.2 sp n⟩) (fun a => a.1 ≤ n) (fun a => decide (a.1 < n))
    (fun a => (a.1 + 1, a.2 ++ [125])) (fun a => (n, a.2 ++ List.replicate (n - a.1) 125)) (fun a => n - a.1)
    ?_ ?_ ?_ ?_ ?_ ?_ n (0, buf) fuel (Nat.zero_le n) (by simp)).trans (by simp)
  · intro a _; simp
  · intro a fuel _ hc
    have hc' : a.1 < n := by simpa using hc
    have hw : wrap .int ((a.1 : Int) + 1) = ((a.1 + 1 : Nat) : Int) := by
      rw [wrap_int_id] <;> omega
    simp [hw]
  · intro a ha hc
    have : a.1 < n := by simpa using hc
    show a.1 + 1 ≤ n
    omega
  · intro a ha hc
    have : a.1 < n := by simpa using hc
    show n - (a.1 + 1) < n - a.1
    omega
  · intro a ha hc
    have h1 : ¬ a.1 < n := by simpa using hc
    have h2 : a.1 ≤ n := ha
    have : a.1 = n := by omega
    obtain ⟨i, b⟩ := a
    simp_all
  · intro a ha hc
    obtain ⟨i, b⟩ := a
    have h1 : i < n := by simpa using hc
    simp only [Prod.mk.injEq, true_and, List.append_assoc]
    have : n - i = (n - (i + 1)) + 1 := by omega
    rw [this, List.replicate_succ]; simp

/-- `enc.closeOpenNamespaces()` ≡ what `runO` (`OC.obj`, `AC.obj`) and `encodeEntry` do with `openNs`:
    append `openNs` closing braces and reset the counter; `fuel + n + 1` units of fuel suffice -/
theorem closeOpenNamespaces_matches_source (buf : Bytes) (sp : Bool) (n : Nat) (hn : n < 2^63) (fuel : Nat) :
    run X (fuel + n + 1) "closeOpenNamespaces" [] (encFld buf sp n) =
      .done [] (encFld (buf ++ List.replicate n 125) sp 0) := by
  refine run_of_exec X_funs funs_closeOpenNamespaces rfl ?_
  have := closeOpenNamespaces_loop_matches_source buf sp n hn fuel
  simp at this
  simp [closeOpenNamespaces_body, this]

/-- non-vacuity / sanity: the interpreter really runs the generated term (closed instance, by evaluation) -/
example : run X 3 "addKey" [.bytes [107]] (encFld [123, 34, 97, 34, 58, 49] true 0) =
    .done [] (encFld [123, 34, 97, 34, 58, 49, 44, 32, 34, 107, 34, 58, 32] true 0) := by
  have := addKey_matches_source [123, 34, 97, 34, 58, 49] [107] true 0 1 (by decide)
  simpa [Enc.addKey, sep, skip, colon, esc, escape, plain] using this

end ZapVerif.C01

/-! ## the model's escaping IS the source

`Gen/TransEscape.lean` holds `safeAppendStringLike` (the generic function behind `safeAddString` and
`safeAddByteString`, at its string instance) as read from zapcore/json_encoder.go on this run.  The theorem runs it on
EVERY byte string — invalid UTF-8, control characters, quotes, any length — and gets exactly `Esc.escape`, the function
`escape_body_safe` is about.  `utf8.DecodeRune` is the intrinsic `Esc.validLen` (the validity model of unicode/utf8);
`appendTo` is `(*buffer.Buffer).AppendString`.  No index or slice expression of the loop can panic. -/
namespace ZapVerif.C01
open ZapVerif ZapVerif.Esc ZapVerif.GoMini ZapVerif.TransEscape ZapVerif.Gen.TransEscape

/-- loop variables `r`, `size` of the last `decodeRune` (absent before the first one) -/
def eTail : Option (Int × Int) → Env
  | none => []
  | some (r, n) => [("l2", .int r), ("l3", .int n)]

/-- the state of `safeAppendStringLike` at the loop head -/
def eAbs (fa fd : Val) (s : Bytes) (a : St × Option (Int × Int)) : State :=
  ⟨[("p0", fa), ("p1", fd), ("p2", .bytes a.1.2.2), ("p3", .bytes s), ("l0", .int a.1.1), ("l1", .int a.1.2.1)] ++ eTail a.2, []⟩

/-- the abstract step with the loop variables it leaves behind -/
def eNext (s : Bytes) (a : St × Option (Int × Int)) : St × Option (Int × Int) :=
  (stepE s a.1,
   if s.getD a.1.2.1 0 ≥ 128 then
     (match validLen (s.drop a.1.2.1) with
      | some n => some (0, (n : Int))
      | none => some (65533, 1))
   else a.2)

/-- one iteration of the escape loop is `TransEscape.stepE` (`k` is the continuation: the rest of the loop) -/
theorem safeAppendStringLike_iter_matches_source (fa fd : Val) (buf s : Bytes)
    (hs : (s.length : Int) < 9223372036854775808) (a : St × Option (Int × Int)) (rec : Stmt → State → GoMini.Out)
    (k : State → GoMini.Out) (hinv : InvE buf s a.1) (hc : a.1.2.1 < s.length) :
    (execS X rec safeAppendStringLike_loop0.lbody (eAbs fa fd s a)).loopBody
      (fun σ' => (execS X rec safeAppendStringLike_loop0.lpost σ').loopPost k) = k (eAbs fa fd s (eNext s a)) := by
  obtain ⟨⟨last, i, out⟩, t⟩ := a
  obtain ⟨h1, h2, -⟩ := hinv
  simp only at h1 h2 hc
  have hg : s.getD i 0 = s[i] := by simp [hc]
  have hg' : s[i]?.getD 0 = s[i] := by simp [hc]
  have hidx := indexVal_bytes s i hc
  have hw1 : wrap .int ((i : Int) + 1) = ((i + 1 : Nat) : Int) := by rw [wrap_int_id] <;> omega
  have hge : ((128 : Int) ≤ s[i].toNat) ↔ s[i] ≥ 128 := byte_le 128 s[i]
  have hslice : (0 : Int) ≤ last ∧ (last : Int) ≤ i ∧ (i : Int) ≤ s.length := by omega
  -- `r, size := decodeRune(…)` creates the two variables the first time round and overwrites them afterwards: the tail
  -- `eTail t` of the environment is never inspected, so `t` stays a variable throughout.
  have eTail_set : ∀ r n : Int, Env.set "l3" (.int n) (Env.set "l2" (.int r) (eTail t)) = eTail (some (r, n)) := by
    intro r n; cases t <;> simp [eTail]
  have eTail_some : ∀ r n : Int, eTail (some (r, n)) = [("l2", .int r), ("l3", .int n)] := fun _ _ => rfl
  by_cases hb : s[i] ≥ 128
  · have hb2 : (128 : Int) ≤ s[i].toNat := hge.mpr hb
    have htake : s.take s.length = s := List.take_length
    have hbnd : (0 : Int) ≤ i ∧ (i : Int) ≤ s.length := by omega
    cases hv : validLen (s.drop i) with
    | none =>
      have hext : ext "decodeRune" [.bytes (s.drop i)] = some [.int 65533, .int 1] := by rw [ext_decode, hv]
      simp [safeAppendStringLike_loop0, Stmt.lbody, Stmt.lpost, eAbs, eTail_some, eTail_set, eNext, stepE, hg', hidx,
        hb, hb2, hw1, hslice, hbnd, htake, hext, hv]
    | some n =>
      have hbd := validLen_bounds _ _ hv
      have hdl : (s.drop i).length = s.length - i := by simp
      have hext : ext "decodeRune" [.bytes (s.drop i)] = some [.int 0, .int n] := by rw [ext_decode, hv]
      have hwn : wrap .int ((i : Int) + n) = ((i + n : Nat) : Int) := by rw [wrap_int_id] <;> omega
      simp [safeAppendStringLike_loop0, Stmt.lbody, Stmt.lpost, eAbs, eTail_some, eTail_set, eNext, stepE, hg', hidx,
        hb, hb2, hwn, hslice, hbnd, htake, hext, hv]
  · -- A byte below 0x80.  The body is executed ONCE, with the byte left symbolic: the `_ite` lemmas push the rest of
    -- the body into the branches of the plain-byte test and of the `switch`, so the result is the if-chain of Go's
    -- control flow with the final state at every leaf; the chain is then compared with `plain` / `esc1` leaf by leaf.
    have hb2 : ¬ (128 : Int) ≤ s[i].toNat := fun h => hb (hge.mp h)
    have h32 : ((32 : Int) ≤ s[i].toNat) ↔ 32 ≤ s[i] := byte_le 32 s[i]
    have e92 : ((s[i].toNat : Int) = 92) ↔ s[i] = 92 := byte_eq s[i] 92
    have e34 : ((s[i].toNat : Int) = 34) ↔ s[i] = 34 := byte_eq s[i] 34
    have e10 : ((s[i].toNat : Int) = 10) ↔ s[i] = 10 := byte_eq s[i] 10
    have e13 : ((s[i].toNat : Int) = 13) ↔ s[i] = 13 := byte_eq s[i] 13
    have e9 : ((s[i].toNat : Int) = 9) ↔ s[i] = 9 := byte_eq s[i] 9
    have hh := hex_hi_val s[i]
    have hl := hex_lo_val s[i]
    simp only [hexlit] at hh hl
    push_cast at hh hl
    simp [safeAppendStringLike_loop0, Stmt.lbody, Stmt.lpost, eAbs, hidx, hb2, hw1, hslice, hh, hl,
      h32, e92, e34, e10, e13, e9, andK_ok_bool, -andK_bool,
      Res.out_ite, Out.andThen_ite, Out.catchBrk_ite, Out.loopBody_ite]
    have hN : eNext s ((last, i, out), t) =
        (if plain s[i] then (last, i + 1, out) else (i + 1, i + 1, out ++ (s.take i).drop last ++ esc1 s[i]), t) := by
      simp [eNext, stepE, hg', hb]
    rw [hN]
    by_cases hp : (32 ≤ s[i] ∧ ¬s[i] = 92) ∧ ¬s[i] = 34
    · have hpl : plain s[i] = true := by simp [plain, hp]
      rw [if_pos hp, if_pos hpl]; simp
    · have hnp : ¬ plain s[i] = true := by simpa [plain] using hp
      rw [if_neg hp, if_neg hnp]
      by_cases h92 : s[i] = 92
      · rw [if_pos h92]; simp [esc1, h92]
      rw [if_neg h92]
      by_cases h34 : s[i] = 34
      · rw [if_pos h34]; simp [esc1, h34]
      rw [if_neg h34]
      by_cases h10 : s[i] = 10
      · rw [if_pos h10]; simp [esc1, h10]
      rw [if_neg h10]
      by_cases h13 : s[i] = 13
      · rw [if_pos h13]; simp [esc1, h13]
      rw [if_neg h13]
      by_cases h9 : s[i] = 9
      · rw [if_pos h9]; simp [esc1, h9]
      rw [if_neg h9]; simp [esc1, h92, h34, h10, h13, h9]

/-- `safeAppendStringLike(appendTo, decodeRune, buf, s)` ≡ `buf ++ Esc.escape s` — the JSON string escaping the
    encoder applies to every key and string value — for EVERY byte string `s`; `fuel + len(s) + 1` suffices -/
theorem safeAppendStringLike_matches_source (fa fd : Val) (buf s : Bytes) (fuel : Nat)
    (hs : (s.length : Int) < 9223372036854775808) :
    run X (fuel + s.length + 1) "safeAppendStringLike" [fa, fd, .bytes buf, .bytes s] [] =
      .done [.bytes (buf ++ escape s.length s)] [] := by
  refine run_of_exec TransEscape.X_funs funs_safeAppendStringLike rfl ?_
  have hL : safeAppendStringLike_loop0 = .loop safeAppendStringLike_loop0.lcond safeAppendStringLike_loop0.lpost
      safeAppendStringLike_loop0.lbody := rfl
  obtain ⟨a', hrun, hinv', hcnd'⟩ := loop_inv (α := St × Option (Int × Int)) X
    safeAppendStringLike_loop0.lcond safeAppendStringLike_loop0.lpost safeAppendStringLike_loop0.lbody 0
    (eAbs fa fd s) (fun a => InvE buf s a.1) (fun a => decide (a.1.2.1 < s.length)) (eNext s) (fun a => s.length - a.1.2.1)
    (by
      intro a _
      obtain ⟨⟨last, i, out⟩, t⟩ := a
      simp [safeAppendStringLike_loop0, Stmt.lcond, eAbs])
    (by
      intro a fuel ha hc
      exact safeAppendStringLike_iter_matches_source fa fd buf s hs a _ _ ha (by simpa using hc))
    (by
      intro a ha hc
      exact (InvE_step buf s a.1 ha (by simpa using hc)).1)
    (by
      intro a ha hc
      have hlt : a.1.2.1 < s.length := by simpa using hc
      have h := InvE_step buf s a.1 ha hlt
      have h2 : (stepE s a.1).2.1 ≤ s.length := h.1.2.1
      show s.length - (stepE s a.1).2.1 < s.length - a.1.2.1
      omega)
    s.length ((0, 0, buf), none) fuel (InvE_init buf s) (by simp)
  rw [← hL] at hrun
  obtain ⟨⟨last, i, out⟩, t⟩ := a'
  have hfin := InvE_final buf s (last, i, out) hinv' (by simpa using hcnd')
  obtain ⟨h1, h2, -⟩ := hinv'
  simp only at h1 h2 hfin
  have htake : s.take s.length = s := List.take_length
  have hbnd : (0 : Int) ≤ last ∧ (last : Int) ≤ s.length := by omega
  have hrun' : execS X (exec X (fuel + s.length))
      safeAppendStringLike_loop0
      ⟨[("p0", fa), ("p1", fd), ("p2", .bytes buf), ("p3", .bytes s), ("l0", .int 0), ("l1", .int 0)], []⟩ =
        .normal (eAbs fa fd s ((last, i, out), t)) := by
    simpa [eAbs, eTail] using hrun
  simp [safeAppendStringLike_body, hrun', eAbs, sliceVal_bytes, hbnd, htake, hfin, G]

end ZapVerif.C01

/-! ## the structural methods of the JSON encoder ARE the source (table `Gen/TransJsonEnc.lean`)

`AppendObject`, `AppendArray`, `AddObject`, `AddArray`, `OpenNamespace`, `encodeReflected` (+ `resetReflectBuf`),
`AppendReflected`, `AddReflected`, `truncate` of zapcore/json_encoder.go, translated mechanically, are interpreted for
EVERY buffer, every counter of open namespaces, every marshaler (`Par.mo` / `Par.ma`: whatever it does to the encoder it
is handed, whatever error it returns) and every reflected encoder.  Each is exactly one clause of the streaming machine
`Enc.runO` / `Enc.runA` that `stream_eq_out` and `jsonLine_wellformed` are about (`…_is_run_clause`):

* `AppendObject`: separator, `{`, the marshaler on a counter reset to 0, `}`, THEN the namespaces the marshaler left
  open are closed, the saved counter is restored, the marshaler's error is returned — on the error path too;
* `AppendReflected` / `AddReflected`: the value is encoded FIRST; when that fails nothing at all is written (no separator,
  no key) and the scratch buffer is neither freed nor cleared.

`addElementSeparator` / `addKey` / `closeOpenNamespaces` are `Enc.sep` / `Enc.addKey` / the closing braces here, which the
section above proves about their source. -/
namespace ZapVerif.C01
open ZapVerif ZapVerif.Esc ZapVerif.Enc ZapVerif.GoMini ZapVerif.TransJsonEnc ZapVerif.Gen.TransJsonEnc

/-- the encoder state after `AppendObject(obj)` and the error it returns -/
def appendObjectSpec (P : Par) (obj : Val) (sp : Bool) (s : St) : St × List Val :=
  let r := P.mo obj sp ⟨sep sp s.buf ++ [123], 0, s.rbuf, s.renc⟩
  (⟨closeNs (r.1.buf ++ [125]) r.1.ns, s.ns, r.1.rbuf, r.1.renc⟩, r.2)

theorem AppendObject_exec_matches_source (P : Par) (obj : Val) (buf : Bytes) (sp : Bool) (ns : Int) (rbuf renc : List Val)
    (nr self : Val) (ev : List Val) (fuel : Nat) :
    (exec (X P) (fuel + 1) AppendObject_body ⟨[("p0", obj)], jeFld buf sp ns rbuf renc nr self ev⟩).fin =
      some ([.list (appendObjectSpec P obj sp ⟨buf, ns, rbuf, renc⟩).2],
        jeFld (appendObjectSpec P obj sp ⟨buf, ns, rbuf, renc⟩).1.buf sp ns
          (appendObjectSpec P obj sp ⟨buf, ns, rbuf, renc⟩).1.rbuf (appendObjectSpec P obj sp ⟨buf, ns, rbuf, renc⟩).1.renc
          nr self ev) := by
  rw [exec_succ]
  simp [AppendObject_body, appendObjectSpec]

theorem AppendObject_matches_source (P : Par) (obj : Val) (buf : Bytes) (sp : Bool) (ns : Int) (rbuf renc : List Val)
    (nr self : Val) (ev : List Val) (fuel : Nat) :
    run (X P) (fuel + 1) "AppendObject" [obj] (jeFld buf sp ns rbuf renc nr self ev) =
      .done [.list (appendObjectSpec P obj sp ⟨buf, ns, rbuf, renc⟩).2]
        (jeFld (appendObjectSpec P obj sp ⟨buf, ns, rbuf, renc⟩).1.buf sp ns
          (appendObjectSpec P obj sp ⟨buf, ns, rbuf, renc⟩).1.rbuf (appendObjectSpec P obj sp ⟨buf, ns, rbuf, renc⟩).1.renc
          nr self ev) :=
  run_of_exec (X_funs P) funs_AppendObject rfl
    (AppendObject_exec_matches_source P obj buf sp ns rbuf renc nr self ev fuel)

/-- `AppendObject` is the `AC.obj` clause of `runA` (and, after `addKey`, the `OC.obj` clause of `runO`): when the
    marshaler behaves on the encoder as the machine does on its call tree `body`, the buffer afterwards is the machine's -/
theorem AppendObject_is_run_clause (P : Par) (obj : Val) (sp : Bool) (body : List OC) (buf : Bytes) (ns : Int)
    (rbuf renc : List Val)
    (hmo : ∀ b : Bytes, (P.mo obj sp ⟨b, 0, rbuf, renc⟩).1.buf = (runO sp ⟨b, 0⟩ body).buf ∧
      (P.mo obj sp ⟨b, 0, rbuf, renc⟩).1.ns = ((runO sp ⟨b, 0⟩ body).openNs : Int)) (r : List AC) :
    runA sp buf (AC.obj body :: r) = runA sp (appendObjectSpec P obj sp ⟨buf, ns, rbuf, renc⟩).1.buf r ∧
    (appendObjectSpec P obj sp ⟨buf, ns, rbuf, renc⟩).1.ns = ns := by
  obtain ⟨h1, h2⟩ := hmo (sep sp buf ++ [123])
  simp [runA, appendObjectSpec, closeNs, h1, h2]

def appendArraySpec (P : Par) (arr : Val) (sp : Bool) (s : St) : St × List Val :=
  let r := P.ma arr sp ⟨sep sp s.buf ++ [91], s.ns, s.rbuf, s.renc⟩
  (⟨r.1.buf ++ [93], r.1.ns, r.1.rbuf, r.1.renc⟩, r.2)

theorem AppendArray_exec_matches_source (P : Par) (arr : Val) (buf : Bytes) (sp : Bool) (ns : Int) (rbuf renc : List Val)
    (nr self : Val) (ev : List Val) (fuel : Nat) :
    (exec (X P) (fuel + 1) AppendArray_body ⟨[("p0", arr)], jeFld buf sp ns rbuf renc nr self ev⟩).fin =
      some ([.list (appendArraySpec P arr sp ⟨buf, ns, rbuf, renc⟩).2],
        jeFld (appendArraySpec P arr sp ⟨buf, ns, rbuf, renc⟩).1.buf sp (appendArraySpec P arr sp ⟨buf, ns, rbuf, renc⟩).1.ns
          (appendArraySpec P arr sp ⟨buf, ns, rbuf, renc⟩).1.rbuf (appendArraySpec P arr sp ⟨buf, ns, rbuf, renc⟩).1.renc
          nr self ev) := by
  rw [exec_succ]
  simp [AppendArray_body, appendArraySpec]

theorem AppendArray_matches_source (P : Par) (arr : Val) (buf : Bytes) (sp : Bool) (ns : Int) (rbuf renc : List Val)
    (nr self : Val) (ev : List Val) (fuel : Nat) :
    run (X P) (fuel + 1) "AppendArray" [arr] (jeFld buf sp ns rbuf renc nr self ev) =
      .done [.list (appendArraySpec P arr sp ⟨buf, ns, rbuf, renc⟩).2]
        (jeFld (appendArraySpec P arr sp ⟨buf, ns, rbuf, renc⟩).1.buf sp (appendArraySpec P arr sp ⟨buf, ns, rbuf, renc⟩).1.ns
          (appendArraySpec P arr sp ⟨buf, ns, rbuf, renc⟩).1.rbuf (appendArraySpec P arr sp ⟨buf, ns, rbuf, renc⟩).1.renc
          nr self ev) :=
  run_of_exec (X_funs P) funs_AppendArray rfl
    (AppendArray_exec_matches_source P arr buf sp ns rbuf renc nr self ev fuel)

/-- `AppendArray` is the `AC.arr` clause of `runA` -/
theorem AppendArray_is_run_clause (P : Par) (arr : Val) (sp : Bool) (body : List AC) (buf : Bytes) (ns : Int)
    (rbuf renc : List Val)
    (hma : ∀ b : Bytes, (P.ma arr sp ⟨b, ns, rbuf, renc⟩).1.buf = runA sp b body) (r : List AC) :
    runA sp buf (AC.arr body :: r) = runA sp (appendArraySpec P arr sp ⟨buf, ns, rbuf, renc⟩).1.buf r := by
  simp [runA, appendArraySpec, hma]

/-- `AddObject(key, obj)` = `addKey` then `AppendObject`: the `OC.obj` clause of `runO` -/
theorem AddObject_matches_source (P : Par) (k : Bytes) (obj : Val) (buf : Bytes) (sp : Bool) (ns : Int) (rbuf renc : List Val)
    (nr self : Val) (ev : List Val) (fuel : Nat) :
    run (X P) (fuel + 2) "AddObject" [.bytes k, obj] (jeFld buf sp ns rbuf renc nr self ev) =
      .done [.list (appendObjectSpec P obj sp ⟨Enc.addKey sp buf k, ns, rbuf, renc⟩).2]
        (jeFld (appendObjectSpec P obj sp ⟨Enc.addKey sp buf k, ns, rbuf, renc⟩).1.buf sp ns
          (appendObjectSpec P obj sp ⟨Enc.addKey sp buf k, ns, rbuf, renc⟩).1.rbuf
          (appendObjectSpec P obj sp ⟨Enc.addKey sp buf k, ns, rbuf, renc⟩).1.renc nr self ev) := by
  refine run_of_exec (X_funs P) funs_AddObject rfl ?_
  have hcall : ∀ σ : State, retK σ [.loc "l0"] "AppendObject"
      (exec (X P) (fuel + 1) AppendObject_body ⟨[("p0", obj)], jeFld (Enc.addKey sp buf k) sp ns rbuf renc nr self ev⟩) = _ :=
    fun σ => retK_of_fin1 σ _ _ _ _ _ (AppendObject_exec_matches_source P obj (Enc.addKey sp buf k) sp ns rbuf renc nr self ev fuel)
  simp [AddObject_body, hcall]

theorem AddObject_is_run_clause (P : Par) (obj : Val) (sp : Bool) (k : Bytes) (body : List OC) (e : Enc)
    (rbuf renc : List Val)
    (hmo : ∀ b : Bytes, (P.mo obj sp ⟨b, 0, rbuf, renc⟩).1.buf = (runO sp ⟨b, 0⟩ body).buf ∧
      (P.mo obj sp ⟨b, 0, rbuf, renc⟩).1.ns = ((runO sp ⟨b, 0⟩ body).openNs : Int)) (r : List OC) :
    runO sp e (OC.obj k body :: r) =
      runO sp ⟨(appendObjectSpec P obj sp ⟨Enc.addKey sp e.buf k, e.openNs, rbuf, renc⟩).1.buf, e.openNs⟩ r := by
  obtain ⟨h1, h2⟩ := hmo (sep sp (Enc.addKey sp e.buf k) ++ [123])
  simp [runO, appendObjectSpec, closeNs, h1, h2]

theorem AddArray_matches_source (P : Par) (k : Bytes) (arr : Val) (buf : Bytes) (sp : Bool) (ns : Int) (rbuf renc : List Val)
    (nr self : Val) (ev : List Val) (fuel : Nat) :
    run (X P) (fuel + 2) "AddArray" [.bytes k, arr] (jeFld buf sp ns rbuf renc nr self ev) =
      .done [.list (appendArraySpec P arr sp ⟨Enc.addKey sp buf k, ns, rbuf, renc⟩).2]
        (jeFld (appendArraySpec P arr sp ⟨Enc.addKey sp buf k, ns, rbuf, renc⟩).1.buf sp
          (appendArraySpec P arr sp ⟨Enc.addKey sp buf k, ns, rbuf, renc⟩).1.ns
          (appendArraySpec P arr sp ⟨Enc.addKey sp buf k, ns, rbuf, renc⟩).1.rbuf
          (appendArraySpec P arr sp ⟨Enc.addKey sp buf k, ns, rbuf, renc⟩).1.renc nr self ev) := by
  refine run_of_exec (X_funs P) funs_AddArray rfl ?_
  have hcall : ∀ σ : State, retK σ [.loc "l0"] "AppendArray"
      (exec (X P) (fuel + 1) AppendArray_body ⟨[("p0", arr)], jeFld (Enc.addKey sp buf k) sp ns rbuf renc nr self ev⟩) = _ :=
    fun σ => retK_of_fin1 σ _ _ _ _ _ (AppendArray_exec_matches_source P arr (Enc.addKey sp buf k) sp ns rbuf renc nr self ev fuel)
  simp [AddArray_body, hcall]

theorem AddArray_is_run_clause (P : Par) (arr : Val) (sp : Bool) (k : Bytes) (body : List AC) (e : Enc)
    (rbuf renc : List Val)
    (hma : ∀ b : Bytes, (P.ma arr sp ⟨b, e.openNs, rbuf, renc⟩).1.buf = runA sp b body) (r : List OC) :
    runO sp e (OC.arr k body :: r) =
      runO sp { e with buf := (appendArraySpec P arr sp ⟨Enc.addKey sp e.buf k, e.openNs, rbuf, renc⟩).1.buf } r := by
  simp [runO, appendArraySpec, hma]

/-- `OpenNamespace(key)`: key, `{`, one more open namespace — the `OC.ns` clause of `runO` -/
theorem OpenNamespace_matches_source (P : Par) (k : Bytes) (buf : Bytes) (sp : Bool) (ns : Nat) (hns : (ns : Int) + 1 < 2^63)
    (rbuf renc : List Val) (nr self : Val) (ev : List Val) (fuel : Nat) :
    run (X P) (fuel + 1) "OpenNamespace" [.bytes k] (jeFld buf sp ns rbuf renc nr self ev) =
      .done [] (jeFld (runO sp ⟨buf, ns⟩ [OC.ns k]).buf sp ((runO sp ⟨buf, ns⟩ [OC.ns k]).openNs : Nat) rbuf renc nr self ev) := by
  refine run_of_exec (X_funs P) funs_OpenNamespace rfl ?_
  have hw : wrap .int ((ns : Int) + 1) = (ns : Int) + 1 := by rw [wrap_int_id] <;> omega
  simp [OpenNamespace_body, runO, hw]

/-- `truncate` empties the buffer (and nothing else) -/
theorem truncate_matches_source (P : Par) (buf : Bytes) (sp : Bool) (ns : Int) (rbuf renc : List Val) (nr self : Val)
    (ev : List Val) (fuel : Nat) :
    run (X P) (fuel + 1) "truncate" [] (jeFld buf sp ns rbuf renc nr self ev) =
      .done [] (jeFld [] sp ns rbuf renc nr self ev) := by
  refine run_of_exec (X_funs P) funs_truncate rfl ?_
  simp [truncate_body]

/-- `resetReflectBuf`: the scratch buffer is created (from the buffer pool, with its encoder) once, emptied otherwise -/
def resetSpec (P : Par) (nr : Val) (rbuf renc ev : List Val) : List Val × List Val × List Val :=
  if rbuf.isEmpty then ([.bytes []], P.newRefl nr [.bytes []], ev ++ [.list [TransJsonEnc.nm "bufferpool.GetPtr"]])
  else ([.bytes []], renc, ev)

theorem resetReflectBuf_exec_matches_source (P : Par) (buf : Bytes) (sp : Bool) (ns : Int) (rbuf renc : List Val)
    (nr self : Val) (ev : List Val) (fuel : Nat) :
    (exec (X P) (fuel + 1) resetReflectBuf_body ⟨[], jeFld buf sp ns rbuf renc nr self ev⟩).fin =
      some ([], jeFld buf sp ns (resetSpec P nr rbuf renc ev).1 (resetSpec P nr rbuf renc ev).2.1 nr self
        (resetSpec P nr rbuf renc ev).2.2) := by
  rw [exec_succ]
  cases rbuf with
  | nil => simp [resetReflectBuf_body, resetSpec, nm_getPtr]
  | cons a r =>
    have hpos : ¬ ((r.length : Int) + 1 = 0) := by omega
    simp [resetReflectBuf_body, resetSpec, hpos]

theorem resetReflectBuf_matches_source (P : Par) (buf : Bytes) (sp : Bool) (ns : Int) (rbuf renc : List Val)
    (nr self : Val) (ev : List Val) (fuel : Nat) :
    run (X P) (fuel + 1) "resetReflectBuf" [] (jeFld buf sp ns rbuf renc nr self ev) =
      .done [] (jeFld buf sp ns (resetSpec P nr rbuf renc ev).1 (resetSpec P nr rbuf renc ev).2.1 nr self
        (resetSpec P nr rbuf renc ev).2.2) :=
  run_of_exec (X_funs P) funs_resetReflectBuf rfl
    (resetReflectBuf_exec_matches_source P buf sp ns rbuf renc nr self ev fuel)

/-- `encodeReflected(obj)`: the bytes and the error it returns, and the scratch state it leaves.  `nil` is the literal
    `null` without touching anything; a failing `Encode` returns the error with NO bytes and leaves the scratch buffer as
    it is (not freed, not cleared); a successful one has its trailing newline trimmed -/
def encodeReflectedSpec (P : Par) (nr : Val) (obj rbuf renc ev : List Val) :
    (Bytes × List Val) × (List Val × List Val × List Val) :=
  if obj.isEmpty then (([110, 117, 108, 108], []), (rbuf, renc, ev))
  else
    let rs := resetSpec P nr rbuf renc ev
    let r := P.reflEncode rs.2.1 (.list obj)
    if r.2.isEmpty then ((trimNewline r.1, []), ([.bytes (trimNewline r.1)], rs.2.1, rs.2.2))
    else (([], r.2), ([.bytes r.1], rs.2.1, rs.2.2))

theorem encodeReflected_exec_matches_source (P : Par) (obj : List Val) (buf : Bytes) (sp : Bool) (ns : Int)
    (rbuf renc : List Val) (nr self : Val) (ev : List Val) (fuel : Nat) :
    (exec (X P) (fuel + 2) encodeReflected_body ⟨[("p0", .list obj)], jeFld buf sp ns rbuf renc nr self ev⟩).fin =
      some ([.bytes (encodeReflectedSpec P nr obj rbuf renc ev).1.1, .list (encodeReflectedSpec P nr obj rbuf renc ev).1.2],
        jeFld buf sp ns (encodeReflectedSpec P nr obj rbuf renc ev).2.1 (encodeReflectedSpec P nr obj rbuf renc ev).2.2.1
          nr self (encodeReflectedSpec P nr obj rbuf renc ev).2.2.2) := by
  have hcall : ∀ σ : State, retK σ [] "resetReflectBuf"
      (exec (X P) (fuel + 1) resetReflectBuf_body ⟨[], jeFld buf sp ns rbuf renc nr self ev⟩) = _ :=
    fun σ => retK_of_fin0 σ _ _ _ (resetReflectBuf_exec_matches_source P buf sp ns rbuf renc nr self ev fuel)
  rw [exec_succ]
  cases obj with
  | nil => simp [encodeReflected_body, encodeReflectedSpec]
  | cons a r =>
    have hpos : ¬ ((r.length : Int) + 1 = 0) := by omega
    have hrs : (resetSpec P nr rbuf renc ev).1 = [.bytes []] := by unfold resetSpec; split <;> rfl
    simp [encodeReflected_body, encodeReflectedSpec, hcall, hpos, hrs, Out.andThen_ite, Out.fin_ite]
    cases he : (P.reflEncode (resetSpec P nr rbuf renc ev).2.1 (.list (a :: r))).2 <;> simp

theorem encodeReflected_matches_source (P : Par) (obj : List Val) (buf : Bytes) (sp : Bool) (ns : Int)
    (rbuf renc : List Val) (nr self : Val) (ev : List Val) (fuel : Nat) :
    run (X P) (fuel + 2) "encodeReflected" [.list obj] (jeFld buf sp ns rbuf renc nr self ev) =
      .done [.bytes (encodeReflectedSpec P nr obj rbuf renc ev).1.1, .list (encodeReflectedSpec P nr obj rbuf renc ev).1.2]
        (jeFld buf sp ns (encodeReflectedSpec P nr obj rbuf renc ev).2.1 (encodeReflectedSpec P nr obj rbuf renc ev).2.2.1
          nr self (encodeReflectedSpec P nr obj rbuf renc ev).2.2.2) :=
  run_of_exec (X_funs P) funs_encodeReflected rfl
    (encodeReflected_exec_matches_source P obj buf sp ns rbuf renc nr self ev fuel)

/-- `AppendReflected(val)`: encode FIRST; on an error the buffer is untouched (no separator), otherwise separator + bytes -/
theorem AppendReflected_matches_source (P : Par) (obj : List Val) (buf : Bytes) (sp : Bool) (ns : Int)
    (rbuf renc : List Val) (nr self : Val) (ev : List Val) (fuel : Nat) :
    run (X P) (fuel + 3) "AppendReflected" [.list obj] (jeFld buf sp ns rbuf renc nr self ev) =
      .done [.list (encodeReflectedSpec P nr obj rbuf renc ev).1.2]
        (jeFld (if (encodeReflectedSpec P nr obj rbuf renc ev).1.2.isEmpty
                then sep sp buf ++ (encodeReflectedSpec P nr obj rbuf renc ev).1.1 else buf) sp ns
          (encodeReflectedSpec P nr obj rbuf renc ev).2.1 (encodeReflectedSpec P nr obj rbuf renc ev).2.2.1
          nr self (encodeReflectedSpec P nr obj rbuf renc ev).2.2.2) := by
  refine run_of_exec (X_funs P) funs_AppendReflected rfl ?_
  have hcall : ∀ σ : State, retK σ [.loc "l0", .loc "l1"] "encodeReflected"
      (exec (X P) (fuel + 2) encodeReflected_body ⟨[("p0", .list obj)], jeFld buf sp ns rbuf renc nr self ev⟩) = _ :=
    fun σ => retK_of_fin2 σ _ _ _ _ _ _ _ (encodeReflected_exec_matches_source P obj buf sp ns rbuf renc nr self ev fuel)
  generalize encodeReflectedSpec P nr obj rbuf renc ev = R at hcall ⊢
  obtain ⟨⟨bs, err⟩, rb, re, ev'⟩ := R
  simp [AppendReflected_body, hcall, Out.fin_ite, Out.andThen_ite]
  cases err <;> simp

/-- `AddReflected(key, obj)`: encode FIRST; on an error NOTHING is written (no key), otherwise key + bytes -/
theorem AddReflected_matches_source (P : Par) (k : Bytes) (obj : List Val) (buf : Bytes) (sp : Bool) (ns : Int)
    (rbuf renc : List Val) (nr self : Val) (ev : List Val) (fuel : Nat) :
    run (X P) (fuel + 3) "AddReflected" [.bytes k, .list obj] (jeFld buf sp ns rbuf renc nr self ev) =
      .done [.list (encodeReflectedSpec P nr obj rbuf renc ev).1.2]
        (jeFld (if (encodeReflectedSpec P nr obj rbuf renc ev).1.2.isEmpty
                then Enc.addKey sp buf k ++ (encodeReflectedSpec P nr obj rbuf renc ev).1.1 else buf) sp ns
          (encodeReflectedSpec P nr obj rbuf renc ev).2.1 (encodeReflectedSpec P nr obj rbuf renc ev).2.2.1
          nr self (encodeReflectedSpec P nr obj rbuf renc ev).2.2.2) := by
  refine run_of_exec (X_funs P) funs_AddReflected rfl ?_
  have hcall : ∀ σ : State, retK σ [.loc "l0", .loc "l1"] "encodeReflected"
      (exec (X P) (fuel + 2) encodeReflected_body ⟨[("p0", .list obj)], jeFld buf sp ns rbuf renc nr self ev⟩) = _ :=
    fun σ => retK_of_fin2 σ _ _ _ _ _ _ _ (encodeReflected_exec_matches_source P obj buf sp ns rbuf renc nr self ev fuel)
  generalize encodeReflectedSpec P nr obj rbuf renc ev = R at hcall ⊢
  obtain ⟨⟨bs, err⟩, rb, re, ev'⟩ := R
  simp [AddReflected_body, hcall, Out.fin_ite, Out.andThen_ite]
  cases err <;> simp

/-- a reflected value that encoded to `render j` is the `OC.prim` / `AC.prim` clause of the machine; one that failed
    leaves the buffer exactly as it was (`Field.refl k none` contributes only its `<key>Error` member) -/
theorem Reflected_is_run_clause (sp : Bool) (k : Bytes) (j : Json.J) (e : Enc) (buf : Bytes) :
    (runO sp e [OC.prim k j]).buf = Enc.addKey sp e.buf k ++ Json.render j ∧
    runA sp buf [AC.prim j] = sep sp buf ++ Json.render j := by
  simp [runO, runA, sep_addKey]

end ZapVerif.C01
