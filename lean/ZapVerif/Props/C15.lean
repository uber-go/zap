import ZapVerif.Model.Callers
import ZapVerif.Proofs.TransCaller
import ZapVerif.Proofs.Callers
import ZapVerif.Proofs.TransCapture
import ZapVerif.Proofs.TransStackFmt
/-! # C15 — caller and stack annotations identify the user's call site

A stack is the list of frames (innermost first) that `runtime.Callers(0, …)` would enumerate from inside
`stacktrace.Capture`; the frame type is arbitrary. Every offset (`callerSkipOffset`, Sugar `+`/Desugar `−`, the std-log
depth constants, `runtime.Callers(skip+n)`, `Take`'s `+n`, slog's `n +`, the slab size and growth factor) and the list
of front-end methods with the number of zap frames they put between the user and `Logger.check` are regenerated from
the source (`Gen.Callers`). The depths inside package log and log/slog are the constants `stdlibLogFrames`,
`stdlibSlogFrames` of the model (validated by the correspondence check only); `runtime.Callers`/`CallersFrames`
(including inlining) are trusted to enumerate the logical frames. -/
namespace ZapVerif.C15
open ZapVerif ZapVerif.Callers ZapVerif.Gen.Callers

variable {F : Type}

/-- the skips a front end accumulates cover exactly the frames it puts between `runtime.Callers` and its caller -/
abbrev balanced (fe : FrontEnd) : Prop :=
  fe.extraSkip + (if fe.onSugared then sugarDelta else 0) + callerSkipOffset + captureCallersOffset = 3 + fe.zapFrames

theorem annot_eq (a b : Annot F) (h1 : a.caller = b.caller) (h2 : a.stack = b.stack) : a = b := by
  cases a; cases b; simp_all

/-- what a balanced front end records, on any logger whose accumulated AddCallerSkip equals the wrapper depth -/
theorem via_selects (l : Logger) (fe : FrontEnd) (hbal : balanced fe) (hfe : fe.onSugared = l.sugared)
    (w : Nat) (hskip : l.callerSkip = (w : Int) + (if l.sugared then (sugarDelta : Int) else 0))
    (addCaller addStack : Bool) (slab : Nat) (hslab : 0 < slab)
    (pre zap ws : List F) (user : F) (outer : List F)
    (hpre : pre.length = 3) (hzap : zap.length = fe.zapFrames) (hws : ws.length = w) :
    logVia l fe addCaller addStack slab pre zap (ws ++ user :: outer) =
      { caller := if addCaller then some user else none,
        stack := if addStack then some (user :: formatStack outer) else none } := by
  have hn := balanced_skip l.callerSkip w fe.extraSkip sugarDelta callerSkipOffset captureCallersOffset fe.zapFrames
    l.sugared hskip (hfe ▸ hbal)
  rw [← hpre, ← hzap, ← hws] at hn
  exact annotate_of_drop _ _ _ slab hslab _ user outer (drop_structured pre zap ws user outer _ hn)

theorem logger_balanced (m : String) : balanced (.logger m) := by
  show 0 + (if false = true then sugarDelta else 0) + callerSkipOffset + captureCallersOffset = 3 + 1
  decide
theorem sugar_balanced (m : String) : balanced (.sugar m) := by
  show 0 + (if true = true then sugarDelta else 0) + callerSkipOffset + captureCallersOffset = 3 + (1 + sugarLogToCheck)
  decide
/-- uses the stdlib-internal constant `stdlibLogFrames` -/
theorem stdlog_balanced : balanced .stdlog := by decide

/-- the entry-producing front ends of the property: every exported Logger method that reaches `check`, every exported
    SugaredLogger logging method, and the std-log bridge -/
def userFrontEnd : FrontEnd → Bool
  | .logger m => (.logger m : FrontEnd).known
  | .sugar m => (.sugar m : FrontEnd).known
  | .stdlog => true
  | _ => false

/-- for every derivation chain (Sugar/Desugar/With/WithLazy/Named/WithOptions, in any well-typed
    order) whose AddCallerSkip values sum to the wrapper depth `w`, every front end that exists on the resulting logger,
    every stack shape (any frames below, `w` wrapper frames, the user's frame, anything above) and every pooled slab,
    the caller recorded is the user's frame — and the stack, when requested, starts there -/
theorem caller_is_user (ds : List Deriv) (l : Logger) (hrun : run ds {} = some l)
    (w : Nat) (hw : sumSkips ds = (w : Int))
    (fe : FrontEnd) (huser : userFrontEnd fe = true) (hfe : fe.onSugared = l.sugared)
    (addStack : Bool) (slab : Nat) (hslab : 0 < slab)
    (pre zap ws : List F) (user : F) (outer : List F)
    (hpre : pre.length = 3) (hzap : zap.length = fe.zapFrames) (hws : ws.length = w) :
    (logVia l fe true addStack slab pre zap (ws ++ user :: outer)).caller = some user := by
  have hskip := run_skip ds l hrun
  rw [hw] at hskip
  have hbal : balanced fe := by
    cases fe with
    | logger m => exact logger_balanced m
    | sugar m => exact sugar_balanced m
    | stdlog => exact stdlog_balanced
    | stdlogDeep => simp [userFrontEnd] at huser
    | diagWith => simp [userFrontEnd] at huser
    | diagLog => simp [userFrontEnd] at huser
  rw [via_selects l fe hbal hfe w hskip true addStack slab hslab pre zap ws user outer hpre hzap hws]
  rfl

/-- every method the table lists is a front end of the theorem (non-vacuity of `userFrontEnd`) -/
theorem all_methods_are_front_ends :
    (∀ m ∈ loggerMethods, userFrontEnd (.logger m.1) = true) ∧ (∀ m ∈ sugarMethods, userFrontEnd (.sugar m.name) = true) := by
  constructor <;> decide +kernel

/-- the remaining exported SugaredLogger methods produce no entry of their own (a logging method that delegated
    through another exported method would show up here instead of in `sugarMethods`) -/
theorem non_logging_methods :
    sugarNonLogging = ["Desugar", "Level", "Named", "Sync", "With", "WithLazy", "WithOptions"] := rfl

/-- the diagnostics `sweetenFields` issues about ill-formed arguments are attributed to the user's call as well, under
    With/WithLazy and under the `*w` methods -/
theorem diag_caller_is_user (ds : List Deriv) (l : Logger) (hrun : run ds {} = some l) (hs : l.sugared = true)
    (w : Nat) (hw : sumSkips ds = (w : Int))
    (fe : FrontEnd) (hfe : fe = .diagWith ∨ fe = .diagLog)
    (addStack : Bool) (slab : Nat) (hslab : 0 < slab)
    (pre zap ws : List F) (user : F) (outer : List F)
    (hpre : pre.length = 3) (hzap : zap.length = fe.zapFrames) (hws : ws.length = w) :
    (logVia l fe true addStack slab pre zap (ws ++ user :: outer)).caller = some user := by
  have hskip := run_skip ds l hrun
  rw [hw] at hskip
  have hbal : balanced fe := by rcases hfe with rfl | rfl <;> decide
  have hon : fe.onSugared = l.sugared := by rcases hfe with rfl | rfl <;> simp [FrontEnd.onSugared, hs]
  rw [via_selects l fe hbal hon w hskip true addStack slab hslab pre zap ws user outer hpre hzap hws]
  rfl

/-- Sugar then Desugar (and Desugar then Sugar) give back the same caller skip -/
theorem sugar_desugar_inverse (l : Logger) :
    (l.sugared = false → (Deriv.sugar.apply l).bind Deriv.desugar.apply = some l) ∧
    (l.sugared = true → (Deriv.desugar.apply l).bind Deriv.sugar.apply = some l) := by
  have h : (sugarDelta : Int) = (desugarDelta : Int) := by rw [sugar_desugar_eq]
  constructor <;> intro hs <;> cases l <;> simp_all [Deriv.apply] <;> omega

/-- whatever the depth of the stack and the size of the pooled slab, the doubling loop terminates
    (the result is `some`) and returns every frame from the requested one outward -/
theorem capture_complete (st : List F) (skip slab : Nat) (h : 0 < slab) :
    capture st skip true slab = some (st.drop (skip + captureCallersOffset)) :=
  capture_full st skip slab h

/-- in particular with the slab size of stack.go, below and above its capacity -/
theorem capture_complete_pooled (st : List F) (skip : Nat) :
    capture st skip true slabSize = some (st.drop (skip + captureCallersOffset)) :=
  capture_full st skip slabSize (by decide)

/-- when both annotations are on, the first frame of the stack is the caller -/
theorem stack_starts_at_caller (callerSkip : Int) (slab : Nat) (st : List F) (c : F)
    (h : (annotate callerSkip true true slab st).caller = some c) :
    ∃ rest, (annotate callerSkip true true slab st).stack = some (c :: rest) := by
  unfold annotate at h ⊢
  simp only [and_self, ↓reduceIte] at h ⊢
  cases hc : capture st (callerSkip + callerSkipOffset).toNat true slab with
  | none => simp [hc] at h
  | some fr =>
    cases fr with
    | nil => simp [hc] at h
    | cons f r => simp [hc, formatFrom] at h ⊢; exact h

/-- the stack text is the user's frame and everything
    above it except the outermost frame; nothing in between is missing, whatever the depth -/
theorem stack_complete (l : Logger) (fe : FrontEnd) (hbal : balanced fe) (hfe : fe.onSugared = l.sugared)
    (w : Nat) (hskip : l.callerSkip = (w : Int) + (if l.sugared then (sugarDelta : Int) else 0))
    (addCaller : Bool) (slab : Nat) (hslab : 0 < slab)
    (pre zap ws : List F) (user : F) (outer : List F) (last : F)
    (hpre : pre.length = 3) (hzap : zap.length = fe.zapFrames) (hws : ws.length = w) :
    (logVia l fe addCaller true slab pre zap (ws ++ user :: (outer ++ [last]))).stack = some (user :: outer) := by
  rw [via_selects l fe hbal hfe w hskip addCaller true slab hslab pre zap ws user (outer ++ [last]) hpre hzap hws]
  simp [formatStack]

/-- frame selection of stack.go in isolation: the first frame is always formatted, then every further frame except
    the one for which `Next` reports `more = false` (runtime.goexit / runtime.main) -/
theorem last_runtime_frame_dropped (f : F) (mid : List F) (last : F) :
    formatFrom (f :: (mid ++ [last])) = f :: mid := by
  simp [formatFrom, formatStack]

/-- a one-frame capture keeps its only frame (`FormatFrame` of the first frame is unconditional) -/
example (f : F) : formatFrom [f] = [f] := rfl

/-- a stack is attached exactly when the entry is written, the AddStacktrace enabler accepts its
    level, and the requested frame exists -/
theorem stack_iff_level (c : LevelCfg) (lvl callerSkip : Int) (addCaller : Bool) (slab : Nat) (hslab : 0 < slab) (st : List F) :
    (∃ a, checkAnnot c lvl callerSkip addCaller slab st = some a ∧ a.stack.isSome = true) ↔
      (c.coreMin ≤ lvl ∧ c.stackLevels lvl = true ∧
        (callerSkip + callerSkipOffset).toNat + captureCallersOffset < st.length) := by
  unfold checkAnnot LevelCfg.will annotate
  by_cases hw : c.coreMin ≤ lvl
  · cases hs : c.stackLevels lvl
    · cases addCaller <;> simp [hw, capture_first] <;> split <;> simp
    · simp only [hw, decide_true, ↓reduceIte, capture_full _ _ _ hslab]
      cases hd : st.drop ((callerSkip + callerSkipOffset).toNat + captureCallersOffset) with
      | nil =>
        have := List.drop_eq_nil_iff.mp hd
        simp; omega
      | cons f r =>
        have : (callerSkip + callerSkipOffset).toNat + captureCallersOffset < st.length := by
          apply Nat.lt_of_not_le; intro hle
          rw [List.drop_eq_nil_of_le hle] at hd; simp at hd
        simp [this]
  · simp [hw]

/-- full-strength claim for the std-log bridge: every way of logging through the `*log.Logger` is balanced.
    It does NOT hold for Panic*/Fatal*/package-level Output since Go 1.21 (known finding `C15:stdlog-extra-frame`):
    `caller_is_user` covers the Print*/(*Logger).Output family (`stdlog_balanced`), and `stdlog_deep_fails` is the witness. -/
abbrev stdlog_all_balanced : Prop := balanced .stdlog ∧ balanced .stdlogDeep

theorem stdlog_all_balanced_partial : balanced .stdlog := stdlog_balanced

theorem stdlog_deep_fails : ¬ stdlog_all_balanced := by decide

/-- what is recorded instead: the frame of package log that called `(*Logger).Output` -/
example : (logVia ({} : Logger) .stdlogDeep true false 64 [100, 101, 102] [1, 2, 3, 4, 5] ([] ++ 42 :: [50, 99]) : Annot Nat).caller
    = some 5 := by decide

/-- the std-log bridge adds exactly `loggerWriter.Write` plus the two frames of package log -/
theorem stdlog_depth : stdLogDefaultDepth + loggerWriterDepth = 1 + stdlibLogFrames := by decide

/-- every std-log constructor applies that skip -/
theorem stdlog_constructors : ∀ c ∈ ["NewStdLog", "NewStdLogAt", "redirectStdLogAt"], c ∈ stdLogConstructors := by
  decide +kernel

/-- slog handler: the caller is the frame slog recorded; with `WithCallerSkip w` and `w` wrapper frames the stack starts
    at the user's frame and is complete except for the outermost frame -/
theorem slog_stack_starts_at_user (w : Nat) (addCaller : Bool) (rec : Option F) (slab : Nat) (hslab : 0 < slab)
    (pre lib ws : List F) (user : F) (outer : List F) (last : F)
    (hpre : pre.length = 3 + 1)                      -- runtime.Callers, Capture, Take, Handle
    (hlib : lib.length = stdlibSlogFrames) (hws : ws.length = w) :
    slogHandle w addCaller true rec slab (stackOf pre lib (ws ++ user :: (outer ++ [last]))) =
      { caller := if addCaller then rec else none, stack := some (user :: outer) } := by
  have hn : slogTakeSkip + w + takeOffset + captureCallersOffset = pre.length + lib.length + ws.length := by
    rw [hpre, hlib, hws]; simp [slogTakeSkip, takeOffset, captureCallersOffset, stdlibSlogFrames]; omega
  have hd := drop_structured pre lib ws user (outer ++ [last]) _ hn
  simp only [slogHandle, take, ↓reduceIte, capture_full _ _ _ hslab, hd, Option.map_some]
  simp [formatStack, List.dropLast_cons_of_ne_nil]

/-! ## path trimming (zapcore.EntryCaller.TrimmedPath) -/

/-- TrimmedPath keeps exactly the last two path elements: `…/dir/file` ↦ `dir/file` -/
theorem trimmed_keeps_last_two (pre dir file : Bytes) (hd : slash ∉ dir) (hf : slash ∉ file) :
    trimmedFile (pre ++ slash :: (dir ++ slash :: file)) = dir ++ slash :: file := by
  have e1 : pre ++ slash :: (dir ++ slash :: file) = (pre ++ slash :: dir) ++ slash :: file := by simp
  have h1 : lastIndexOf slash (pre ++ slash :: (dir ++ slash :: file)) = some (pre ++ slash :: dir).length := by
    rw [e1]; exact lastIndexOf_sep slash (pre ++ slash :: dir) file hf
  have h2 : (pre ++ slash :: (dir ++ slash :: file)).take (pre ++ slash :: dir).length = pre ++ slash :: dir := by
    rw [e1, List.take_left' rfl]
  have h3 : lastIndexOf slash (pre ++ slash :: dir) = some pre.length := lastIndexOf_sep slash pre dir hd
  have e2 : pre ++ slash :: (dir ++ slash :: file) = (pre ++ [slash]) ++ (dir ++ slash :: file) := by simp
  simp only [trimmedFile, h1, h2, h3]
  rw [e2, List.drop_left' (by simp)]

/-- with fewer than two separators the full path is kept -/
theorem trimmed_short (dir file : Bytes) (hd : slash ∉ dir) (hf : slash ∉ file) :
    trimmedFile file = file ∧ trimmedFile (dir ++ slash :: file) = dir ++ slash :: file := by
  constructor
  · simp [trimmedFile, lastIndexOf_none slash file hf]
  · have h1 := lastIndexOf_sep slash dir file hf
    simp [trimmedFile, h1, lastIndexOf_none slash dir hd]

/-! ## non-vacuity -/

/-- a concrete chain: Sugar, With, WithOptions(AddCallerSkip 1), Desugar, WithOptions(AddCallerSkip 1), Sugar — two
    wrappers, sugared method: the selected frame is the user's -/
example : (run [.sugar, .with_, .withOptions [1], .desugar, .withOptions [1], .sugar] {}).map
    (fun l => (logVia l (.sugar "Infow") true true 64 [100, 101, 102] [1, 2, 3] ([10, 11] ++ 42 :: [50, 51, 99])).caller) =
    some (some 42) := by decide

example : (logVia ({} : Logger) (.logger "Info") true true 64 [100, 101, 102] [1] ([] ++ 42 :: [50, 51, 99])).stack =
    some [42, 50, 51] := by decide

end ZapVerif.C15

/-! ## the model's path trimming IS the source (Go→GoMini translation, docs/TRANSLATOR.md)

`Gen/TransCaller.lean` holds `EntryCaller.FullPath` and `EntryCaller.TrimmedPath` as read from zapcore/entry.go on this
run.  For every file path (any length < 2^63, any number of separators) and line the interpreted functions return
exactly `Callers.fullPath` / `Callers.trimmedPath`; the slice expressions `ec.File[:idx]` and `ec.File[idx+1:]` are in
bounds.  `strconv` (`buf.AppendInt`) is the external intrinsic `itoa`. -/
namespace ZapVerif.C15
open ZapVerif ZapVerif.Callers ZapVerif.GoMini ZapVerif.TransCaller ZapVerif.Gen.TransCaller

theorem FullPath_exec_matches_source (d : Bool) (file : Bytes) (line : Nat) (fuel : Nat)
    (hline : (line : Int) < 9223372036854775808) :
    (exec X (fuel + 1) FullPath_body ⟨[], cfld d file line⟩).fin =
      some ([.bytes (fullPath d file line)], cfld d file line) := by
  rw [exec_succ]
  have hw : wrap .i64 (line : Int) = line := by rw [wrap_i64_id] <;> omega
  have hu : Bytes.ofString "undefined" = [117, 110, 100, 101, 102, 105, 110, 101, 100] := by decide +kernel
  cases d <;> simp [FullPath_body, fullPath, hw, hu]

theorem FullPath_matches_source (d : Bool) (file : Bytes) (line : Nat) (fuel : Nat)
    (hline : (line : Int) < 9223372036854775808) :
    run X (fuel + 1) "FullPath" [] (cfld d file line) = .done [.bytes (fullPath d file line)] (cfld d file line) :=
  run_of_exec X_funs funs_FullPath rfl (FullPath_exec_matches_source d file line fuel hline)

/-- `ec.TrimmedPath()` ≡ `Callers.trimmedPath`: "undefined" for an undefined caller; the full path when the file has
    fewer than two separators; otherwise everything after the penultimate separator, `:`, the line — for every path -/
theorem TrimmedPath_matches_source (d : Bool) (file : Bytes) (line : Nat) (fuel : Nat)
    (hline : (line : Int) < 9223372036854775808) (hfile : (file.length : Int) < 9223372036854775808) :
    run X (fuel + 2) "TrimmedPath" [] (cfld d file line) = .done [.bytes (trimmedPath d file line)] (cfld d file line) := by
  refine run_of_exec X_funs funs_TrimmedPath rfl ?_
  have hfull : ∀ (σ : State) (l : LV), retK σ [l] "FullPath" (exec X (fuel + 1) FullPath_body ⟨[], cfld d file line⟩) =
      .normal (({ σ with fld := cfld d file line } : State).assign1 l (.bytes (fullPath d file line))) :=
    fun σ l => retK_of_fin1 σ l "FullPath" _ _ _ (FullPath_exec_matches_source d file line fuel hline)
  have hw : wrap .i64 (line : Int) = line := by rw [wrap_i64_id] <;> omega
  have hu : Bytes.ofString "undefined" = [117, 110, 100, 101, 102, 105, 110, 101, 100] := by decide +kernel
  cases d
  · simp [TrimmedPath_body, trimmedPath, hu]
  · cases h1 : lastIndexOf slash file with
    | none =>
      have e1 : lastIndexByte file 47 = -1 := by rw [lastIndexByte_eq]; simp [show (47 : UInt8) = slash from rfl, h1]
      simp [TrimmedPath_body, trimmedPath, trimmedFile, fullPath, h1, e1, hfull]
    | some idx =>
      have e1 : lastIndexByte file 47 = idx := by rw [lastIndexByte_eq]; simp [show (47 : UInt8) = slash from rfl, h1]
      have hlt := lastIndexOf_lt slash file idx h1
      have hne : ¬ ((idx : Int) = -1) := by omega
      have hb1 : (0 : Int) ≤ idx ∧ (idx : Int) ≤ file.length := by omega
      cases h2 : lastIndexOf slash (file.take idx) with
      | none =>
        have e2 : lastIndexByte (file.take idx) 47 = -1 := by
          rw [lastIndexByte_eq]; simp [show (47 : UInt8) = slash from rfl, h2]
        simp [TrimmedPath_body, trimmedPath, trimmedFile, fullPath, h1, h2, e1, e2, hfull, hne, hb1, sliceVal_bytes]
      | some idx2 =>
        have e2 : lastIndexByte (file.take idx) 47 = idx2 := by
          rw [lastIndexByte_eq]; simp [show (47 : UInt8) = slash from rfl, h2]
        have hlt2 := lastIndexOf_lt slash (file.take idx) idx2 h2
        have hlt2' : idx2 < idx := by simp at hlt2; omega
        have hne2 : ¬ ((idx2 : Int) = -1) := by omega
        have hw2 : wrap .int ((idx2 : Int) + 1) = ((idx2 + 1 : Nat) : Int) := by rw [wrap_int_id] <;> omega
        have hb2 : (0 : Int) ≤ (idx2 : Int) + 1 ∧ (idx2 : Int) + 1 ≤ file.length := by omega
        have htake : file.take file.length = file := List.take_length
        simp [TrimmedPath_body, trimmedPath, trimmedFile, h1, h2, e1, e2, hne, hne2, hb1, hb2, hw, hw2,
          sliceVal_bytes, htake]

end ZapVerif.C15

/-! ## `stacktrace.Capture` IS the source (table `Gen/TransCapture.lean`)

The body of internal/stacktrace/stack.go `Capture` — the `switch depth`, the first `runtime.Callers`, the doubling loop
`for numFrames == len(pcs)`, the final re-slicing — translated mechanically, is interpreted on EVERY goroutine stack, every
skip and every pooled slab: it stores in `stack.pcs` exactly what `Callers.capture` says (the model `capture_complete`,
`caller_is_user` … are about), never indexes or slices out of range, and the loop terminates.  `runtime.Callers(skip,
pcs)` fills `pcs` with the frames after the first `skip` and returns the count; `make([]uintptr, n)` is `n` zeros. -/
namespace ZapVerif.C15
open ZapVerif ZapVerif.GoMini ZapVerif.TransCapture ZapVerif.Gen.TransCapture

/-- the state at the head of the doubling loop: `numFrames`, the local `pcs` -/
def cAbs (skip : Nat) (flds : Env) (a : Nat × List Val) : State :=
  ⟨[("p0", .int skip), ("p1", .int 1), ("l0", .int a.1), ("l1", .list a.2)], flds⟩

theorem callersV_len (st : List Val) (sk : Nat) (pcs : List Val) :
    (callersV st (sk : Int) pcs).2 = (Callers.callers st sk pcs.length).length ∧
    (callersV st (sk : Int) pcs).1.length = pcs.length ∧
    (callersV st (sk : Int) pcs).1.take (Callers.callers st sk pcs.length).length = Callers.callers st sk pcs.length := by
  refine ⟨?_, ?_, ?_⟩
  · simp [callersV, Callers.callers]
  · simp only [callersV, Int.toNat_natCast, List.length_append, List.length_drop, List.length_take]; omega
  · simp [callersV, Callers.callers]

/-- one pass: a fresh slice of twice the length, filled by `runtime.Callers` -/
def capNext (P : Par) (skip : Nat) (a : Nat × List Val) : Nat × List Val :=
  ((callersV P.st ((skip + 2 : Nat) : Int) (List.replicate (a.2.length * 2) (Val.int 0))).2,
   (callersV P.st ((skip + 2 : Nat) : Int) (List.replicate (a.2.length * 2) (Val.int 0))).1)

theorem Capture_iter_matches_source (P : Par) (skip : Nat) (flds : Env) (hskip : (skip : Int) + 2 < 9223372036854775808)
    (n : Nat) (l1 : List Val) (hl : (l1.length : Int) * 2 < 9223372036854775808)
    (rec : Stmt → State → GoMini.Out) (k : State → GoMini.Out) :
    (execS (X P) rec Capture_loop0.lbody (cAbs skip flds (n, l1))).loopBody
      (fun σ' => (execS (X P) rec Capture_loop0.lpost σ').loopPost k) =
      k (cAbs skip flds (capNext P skip (n, l1))) := by
  have hw2 : wrap .int ((skip : Int) + 2) = (skip : Int) + 2 := by rw [wrap_int_id] <;> omega
  have hwm : wrap .int ((l1.length : Int) * 2) = (l1.length : Int) * 2 := by rw [wrap_int_id] <;> omega
  have hz : ext P "make.zeros" [.int ((l1.length : Int) * 2)] = some [.list (List.replicate (l1.length * 2) (.int 0))] := by
    have := ext_zeros P (l1.length * 2); push_cast at this; exact this
  simp [Capture_loop0, Stmt.lbody, Stmt.lpost, cAbs, capNext, hwm, hz, hw2]

/-- at the head of the doubling loop `numFrames`, `pcs` are what `runtime.Callers` made of a non-empty slice -/
def capInv (P : Par) (skip : Nat) (a : Nat × List Val) : Prop :=
  a.1 = (Callers.callers P.st (skip + 2) a.2.length).length ∧
    a.2.take a.1 = Callers.callers P.st (skip + 2) a.2.length ∧ 0 < a.2.length

theorem capNext_inv (P : Par) (skip : Nat) (a : Nat × List Val) (h : capInv P skip a) :
    capInv P skip (capNext P skip a) ∧ (capNext P skip a).2.length = a.2.length * 2 := by
  obtain ⟨c1, c2, c3⟩ := callersV_len P.st (skip + 2) (List.replicate (a.2.length * 2) (Val.int 0))
  simp only [List.length_replicate] at c1 c2 c3
  have h3 := h.2.2
  exact ⟨⟨by rw [capNext, c2]; exact c1, by rw [capNext, c2, c1]; exact c3, by rw [capNext, c2]; omega⟩, c2⟩

/-- the doubling loop stops only when `runtime.Callers` has not filled `pcs`, which then holds every frame; each pass
    doubles a non-empty slice, so `len(stack) + 1 - len(pcs)` decreases -/
theorem Capture_loop_matches_source (P : Par) (skip : Nat) (flds : Env) (hst : 2 * (P.st.length : Int) < 9223372036854775808)
    (hskip : (skip : Int) + 2 < 9223372036854775808) (fuel : Nat) (a : Nat × List Val) (ha : capInv P skip a) :
    ∃ l1' : List Val,
      execS (X P) (exec (X P) (fuel + P.st.length)) Capture_loop0 (cAbs skip flds a) =
        .normal (cAbs skip flds ((P.st.drop (skip + 2)).length, l1')) ∧
      l1'.take (P.st.drop (skip + 2)).length = P.st.drop (skip + 2) ∧ (P.st.drop (skip + 2)).length ≤ l1'.length := by
  have hcl : ∀ cap, (Callers.callers P.st (skip + 2) cap).length = min cap (P.st.length - (skip + 2)) :=
    Callers.callers_length P.st (skip + 2)
  have hfull : ∀ a : Nat × List Val, capInv P skip a → decide ((a.1 : Int) = a.2.length) = true →
      a.2.length ≤ P.st.length := by
    intro a h hc
    have := of_decide_eq_true hc; have := hcl a.2.length; have := h.1; omega
  obtain ⟨a', hrun, ⟨h1, h2, h3⟩, hc⟩ := loop_inv (X P) Capture_loop0.lcond Capture_loop0.lpost Capture_loop0.lbody 0
    (cAbs skip flds) (capInv P skip) (fun a => decide ((a.1 : Int) = a.2.length)) (capNext P skip)
    (fun a => P.st.length + 1 - a.2.length)
    (fun a _ => by simp [Capture_loop0, Stmt.lcond, cAbs])
    (fun a fuel h hc => Capture_iter_matches_source P skip flds hskip a.1 a.2 (by have := hfull a h hc; omega) _ _)
    (fun a h _ => (capNext_inv P skip a h).1)
    (fun a h hc => by
      have := hfull a h hc; have := h.2.2
      show P.st.length + 1 - (capNext P skip a).2.length < _
      rw [(capNext_inv P skip a h).2]; omega)
    P.st.length a fuel ha (by have := ha.2.2; show P.st.length + 1 - a.2.length ≤ _; omega)
  have hne : a'.1 ≠ a'.2.length := by have := of_decide_eq_false hc; omega
  have hall : Callers.callers P.st (skip + 2) a'.2.length = P.st.drop (skip + 2) :=
    Callers.callers_all _ _ _ (by have := hcl a'.2.length; omega)
  rw [hall] at h1 h2
  refine ⟨a'.2, ?_, h1 ▸ h2, ?_⟩
  · rw [← h1]; exact hrun
  · have := hcl a'.2.length; rw [hall] at this; omega

/-- whatever `Callers.capture` yields for this stack, skip, depth and slab length is what the
    interpreted `Capture` leaves in `stack.pcs` (and hands to `runtime.CallersFrames`); `storage` ends at least as long. -/
theorem Capture_matches_source (P : Par) (skip : Nat) (full : Bool) (storage : List Val) (pcs0 frames0 self : Val)
    (hslab : 0 < storage.length) (hsl : (storage.length : Int) < 9223372036854775808)
    (hst : 2 * (P.st.length : Int) < 9223372036854775808) (hskip : (skip : Int) + 2 < 9223372036854775808)
    (r : List Val) (hcap : Callers.capture P.st skip full storage.length = some r) (fuel : Nat) :
    ∃ storage' : List Val,
      run (X P) (fuel + P.st.length + 1) "Capture" [.int skip, .int (if full then 1 else 0)]
          (capFld pcs0 storage frames0 self) =
        .done [self] (capFld (.list r) storage' (framesV (.list r)) self) ∧ r.length ≤ storage'.length := by
  have hw2 : wrap .int ((skip : Int) + 2) = (skip : Int) + 2 := by rw [wrap_int_id] <;> omega
  have hfin : ∀ (out : GoMini.Out) (res : List Val) (fl : Env),
      out.fin = some (res, fl) →
      (exec (X P) (fuel + P.st.length + 1) Capture_body
        ⟨[("p0", .int skip), ("p1", .int (if full then 1 else 0))], capFld pcs0 storage frames0 self⟩) = out →
      run (X P) (fuel + P.st.length + 1) "Capture" [.int skip, .int (if full then 1 else 0)]
          (capFld pcs0 storage frames0 self) = .done res fl := by
    intro out res fl h1 h2
    rw [show fuel + P.st.length + 1 = (fuel + P.st.length) + 1 from rfl] at h2 ⊢
    refine run_of_exec (X_funs P) funs_Capture rfl ?_
    rw [exec_succ] at h2
    subst h2; exact h1
  cases full with
  | false =>
    have hr : r = Callers.callers P.st (skip + 2) 1 := by
      simpa [Callers.capture, Callers.callers, Gen.Callers.captureCallersOffset] using hcap.symm
    subst hr
    have hone : (1 : Int) ≤ storage.length := by omega
    have hc := callersV_len P.st (skip + 2) (storage.take 1)
    have htl : (storage.take 1).length = 1 := by simp; omega
    have hcast : ((skip + 2 : Nat) : Int) = (skip : Int) + 2 := by push_cast; rfl
    rw [htl, hcast] at hc
    obtain ⟨hc1, hc2, hc3⟩ := hc
    have hle : (Callers.callers P.st (skip + 2) 1).length ≤ 1 := by
      simp only [Callers.callers, List.length_take]; omega
    have hleI : ((Callers.callers P.st (skip + 2) 1).length : Int) ≤ 1 := by exact_mod_cast hle
    refine ⟨storage, hfin _ _ _ ?_ rfl, ?_⟩
    · rw [exec_succ]
      simp [Capture_body, hw2, hone, hc1, hc2, hc3, hleI]
    · simp only [Callers.callers, List.length_take]; omega
  | true =>
    have hr : P.st.drop (skip + 2) = r :=
      Option.some.inj ((Callers.capture_full P.st skip storage.length hslab).symm.trans hcap)
    have hcast : ((skip + 2 : Nat) : Int) = (skip : Int) + 2 := by push_cast; rfl
    have hc := callersV_len P.st (skip + 2) storage
    rw [hcast] at hc
    obtain ⟨hc1, hc2, hc3⟩ := hc
    obtain ⟨l1', hrun, ht, hlen⟩ := Capture_loop_matches_source P skip
      [("pcs", .list (callersV P.st ((skip : Int) + 2) storage).1), ("storage", .list storage), ("frames", frames0),
        ("self", self)] hst hskip fuel
      ((Callers.callers P.st (skip + 2) storage.length).length, (callersV P.st ((skip : Int) + 2) storage).1)
      ⟨by rw [hc2], by rw [hc2]; exact hc3, by rw [hc2]; exact hslab⟩
    rw [hr] at hrun ht hlen
    have hlenI : (r.length : Int) ≤ l1'.length := by exact_mod_cast hlen
    have hrun' : execS (X P) (exec (X P) (fuel + P.st.length)) Capture_loop0
        ⟨[("p0", .int skip), ("p1", .int 1), ("l0", .int (Callers.callers P.st (skip + 2) storage.length).length),
          ("l1", .list (callersV P.st ((skip : Int) + 2) storage).1)],
         [("pcs", .list (callersV P.st ((skip : Int) + 2) storage).1), ("storage", .list storage), ("frames", frames0),
          ("self", self)]⟩ =
        .normal ⟨[("p0", .int skip), ("p1", .int 1), ("l0", .int r.length), ("l1", .list l1')],
         [("pcs", .list (callersV P.st ((skip : Int) + 2) storage).1), ("storage", .list storage), ("frames", frames0),
          ("self", self)]⟩ := by
      simpa [cAbs] using hrun
    refine ⟨l1', hfin _ _ _ ?_ rfl, hlen⟩
    rw [exec_succ]
    simp [Capture_body, hw2, hc1, hrun', hlenI, ht]

/-- with `capture_full`: `Capture(skip, Full)` stores EVERY frame from the requested one outward, whatever the depth of
    the stack and the size of the pooled slab (the loop terminates and nothing is truncated) -/
theorem Capture_full_matches_source (P : Par) (skip : Nat) (storage : List Val) (pcs0 frames0 self : Val)
    (hslab : 0 < storage.length) (hsl : (storage.length : Int) < 9223372036854775808)
    (hst : 2 * (P.st.length : Int) < 9223372036854775808) (hskip : (skip : Int) + 2 < 9223372036854775808) (fuel : Nat) :
    ∃ storage' : List Val,
      run (X P) (fuel + P.st.length + 1) "Capture" [.int skip, .int 1] (capFld pcs0 storage frames0 self) =
        .done [self] (capFld (.list (P.st.drop (skip + 2))) storage' (framesV (.list (P.st.drop (skip + 2)))) self) := by
  have h := Callers.capture_full P.st skip storage.length hslab
  rw [show Gen.Callers.captureCallersOffset = 2 from rfl] at h
  obtain ⟨s', hrun, -⟩ := Capture_matches_source P skip true storage pcs0 frames0 self hslab hsl hst hskip _ h fuel
  exact ⟨s', hrun⟩

end ZapVerif.C15

/-! ## the stack formatter IS the source (table `Gen/TransStackFmt.lean`)

internal/stacktrace `(*Formatter).FormatFrame` and `FormatStack`, translated mechanically; the `*Stack` is the iterator
value and `runtime.Frames.Next` an intrinsic on it.  `FormatStack_matches_source`: exactly `Callers.formatStack frames`
(all frames but the trailing runtime frame) are written, in order, each as `function\n\tfile:line`, separated by newlines. -/
namespace ZapVerif.C15
open ZapVerif ZapVerif.GoMini ZapVerif.TransStackFmt ZapVerif.Gen.TransStackFmt

/-- `FormatFrame`: a newline unless this is the first frame, then `function\n\tfile:line`; `nonEmpty` set -/
theorem FormatFrame_exec_matches_source (f : FrameD) (b : Bytes) (ne : Bool) (hl : (f.line : Int) < 9223372036854775808) (fuel : Nat) :
    (exec X (fuel + 1) FormatFrame_body ⟨[("p0", encF f)], fEnv b ne⟩).fin = some ([], fEnv (stepF b ne f) true) := by
  have hw : wrap .i64 (f.line : Int) = f.line := by rw [wrap_i64_id] <;> omega
  -- the conditional newline first, on its own; the rest of the body runs once on its result
  have h1 : execS X (exec X fuel) FormatFrame_body.hd ⟨[("p0", encF f)], fEnv b ne⟩ =
      .normal ⟨[("p0", encF f)], fEnv (if ne then b ++ [10] else b) ne⟩ := by
    cases ne <;> simp [FormatFrame_body, Stmt.hd, fEnv]
  rw [exec_succ, show FormatFrame_body = .seq FormatFrame_body.hd FormatFrame_body.tl from rfl, execS_seq, h1]
  simp [FormatFrame_body, Stmt.tl, fEnv, encF, stepF, hw, List.append_assoc]

theorem FormatFrame_matches_source (f : FrameD) (b : Bytes) (ne : Bool) (hl : (f.line : Int) < 9223372036854775808) (fuel : Nat) :
    run X (fuel + 1) "FormatFrame" [encF f] (fEnv b ne) = .done [] (fEnv (stepF b ne f) true) :=
  run_of_exec X_funs funs_FormatFrame rfl (FormatFrame_exec_matches_source f b ne hl fuel)

/-- the loop of `FormatStack`: the frame in hand is formatted only while MORE follow -/
theorem FormatStack_loop_matches_source : ∀ (rest : List FrameD) (cur : FrameD) (b : Bytes) (ne : Bool) (fuel : Nat),
    (∀ f ∈ cur :: rest, (f.line : Int) < 9223372036854775808) →
    ∃ l, execS X (exec X (fuel + rest.length + 1)) FormatStack_loop0
        ⟨[("p0", .list (rest.map encF)), ("l0", encF cur), ("l1", .bool (!rest.isEmpty))], fEnv b ne⟩ =
      .normal ⟨l, fEnv (fmtAll b ne (cur :: rest).dropLast).1 (fmtAll b ne (cur :: rest).dropLast).2⟩
  | [], cur, b, ne, fuel, _ => by
    refine ⟨[("p0", .list []), ("l0", encF cur), ("l1", .bool false)], ?_⟩
    unfold FormatStack_loop0
    rw [execS_loop]
    simp [fmtAll]
  | r0 :: rest, cur, b, ne, fuel, hl => by
    obtain ⟨l, ih⟩ := FormatStack_loop_matches_source rest r0 (stepF b ne cur) true fuel
      (fun f hf => hl f (List.mem_cons_of_mem _ hf))
    refine ⟨l, ?_⟩
    have hcall : ∀ σ : State, retK σ [] "FormatFrame"
        (exec X (fuel + rest.length + 1 + 1) FormatFrame_body ⟨[("p0", encF cur)], fEnv b ne⟩) = _ :=
      fun σ => retK_of_fin0 σ _ _ _ (FormatFrame_exec_matches_source cur b ne (hl cur (List.mem_cons_self ..)) _)
    have hdl : (cur :: r0 :: rest).dropLast = cur :: (r0 :: rest).dropLast := rfl
    unfold FormatStack_loop0 at ih ⊢
    rw [execS_loop]
    simp only [List.length_cons, show fuel + (rest.length + 1) + 1 = fuel + rest.length + 1 + 1 by omega]
    simp [hcall, hdl, fmtAll]
    rw [exec_succ]
    simpa [fmtAll] using ih

/-- `FormatStack`: every frame the iterator returns with "more follow" is formatted, in order — i.e. all frames but the
    LAST (`Callers.formatStack`, the function of `last_runtime_frame_dropped`): the trailing runtime frame is dropped,
    and an empty iterator formats nothing -/
theorem FormatStack_matches_source (frames : List FrameD) (b : Bytes) (ne : Bool)
    (hl : ∀ f ∈ frames, (f.line : Int) < 9223372036854775808) (fuel : Nat) :
    run X (fuel + frames.length + 1) "FormatStack" [.list (frames.map encF)] (fEnv b ne) =
      .done [] (fEnv (fmtAll b ne (Callers.formatStack frames)).1 (fmtAll b ne (Callers.formatStack frames)).2) := by
  refine run_of_exec X_funs funs_FormatStack rfl ?_
  cases frames with
  | nil =>
    have : FormatStack_loop0 = .loop (.loc "l1") FormatStack_loop0.lpost FormatStack_loop0.lbody := rfl
    simp only [FormatStack_body_eq, FormatStack_body, execS_seq]
    rw [this]
    simp [execS_loop, Callers.formatStack, fmtAll, zeroFrame]
  | cons f r =>
    obtain ⟨l, h⟩ := FormatStack_loop_matches_source r f b ne fuel hl
    simp only [List.length_cons, show fuel + (r.length + 1) = fuel + r.length + 1 by omega]
    simp only [FormatStack_body_eq, FormatStack_params_eq, FormatStack_named_eq, FormatStack_body, execS_seq]
    simp [h, Callers.formatStack]

end ZapVerif.C15
