import ZapVerif.Model.Slog
/-! helper lemmas for C18: the field list the handler builds denotes the contract tree -/
namespace ZapVerif.Slog

mutual
theorem hasContent_iff : ∀ a : SAttr, hasContent a = !(content a).isEmpty
  | .leaf k lv l => by simp [hasContent, content]
  | .nilv k lv => by
    by_cases hk : k = "" <;> simp [hasContent, content, hk]
  | .group k lv ms => by
    have ih := anyContent_iff ms
    simp only [hasContent, content, ih]
    by_cases he : (contents ms).isEmpty = true
    · simp [he]
    · by_cases hk : k = ""
      · simp [he, hk]
      · simp [he, hk]
theorem anyContent_iff : ∀ as : List SAttr, anyContent as = !(contents as).isEmpty
  | [] => by simp [anyContent, contents]
  | a :: r => by
    have h1 := hasContent_iff a
    have h2 := anyContent_iff r
    simp only [anyContent, contents, h1, h2]
    cases content a <;> cases contents r <;> simp
end

theorem convert_not_ns (a : SAttr) (k : String) : convert a ≠ .ns k := by
  cases a with
  | leaf k' lv l => simp [convert]
  | nilv k' lv => simp only [convert]; split <;> simp
  | group k' lv ms => simp only [convert]; split <;> (try split) <;> simp

mutual
theorem denote_convert : ∀ a : SAttr, denote [convert a] = content a
  | .leaf k lv l => by simp [convert, content, denote]
  | .nilv k lv => by
    by_cases hk : k = "" <;> simp [convert, content, denote, hk]
  | .group k lv ms => by
    have ih := denote_converts ms
    have hc := anyContent_iff ms
    simp only [convert, content, hc]
    by_cases he : (contents ms).isEmpty = true
    · simp [he, denote]
    · simp only [he, Bool.not_false, if_true, Bool.false_eq_true, if_false]
      by_cases hk : k = ""
      · simp [hk, denote, ih]
      · simp [hk, denote, ih]
theorem denote_converts : ∀ as : List SAttr, denote (converts as) = contents as
  | [] => by simp [converts, contents, denote]
  | a :: r => by
    have h1 := denote_convert a
    have h2 := denote_converts r
    simp only [converts, contents]
    cases hc : convert a with
    | kv k l => rw [hc] at h1; simp [denote] at h1 ⊢; rw [← h1, h2]; simp
    | obj k fs => rw [hc] at h1; simp [denote] at h1 ⊢; rw [← h1, h2]; simp
    | inl fs => rw [hc] at h1; simp [denote] at h1 ⊢; rw [← h1, h2]
    | skip => rw [hc] at h1; simp [denote] at h1 ⊢; rw [h1, h2]; simp
    | ns k => exact absurd hc (convert_not_ns a k)
end

/-- denote with a hole at the end of the list -/
def plugD : List Fld → List T → List T
  | [], x => x
  | .kv k l :: r, x => .leaf k l :: plugD r x
  | .obj k fs :: r, x => .node k (denote fs) :: plugD r x
  | .inl fs :: r, x => denote fs ++ plugD r x
  | .ns k :: r, x => [.node k (plugD r x)]
  | .skip :: r, x => plugD r x

theorem denote_append (a b : List Fld) : denote (a ++ b) = plugD a (denote b) := by
  induction a with
  | nil => simp [plugD]
  | cons f r ih => cases f <;> simp [denote, plugD, ih]

theorem plugD_append (a b : List Fld) (x : List T) : plugD (a ++ b) x = plugD a (plugD b x) := by
  induction a with
  | nil => simp [plugD]
  | cons f r ih => cases f <;> simp [plugD, ih]

theorem plugD_ns (p : List String) (x : List T) : plugD (p.map Fld.ns) x = nest p x := by
  induction p with
  | nil => simp [plugD, nest]
  | cons g gs ih => simp [plugD, nest, ih]

def noNs : List Fld → Prop
  | [] => True
  | .ns _ :: _ => False
  | _ :: r => noNs r

theorem plugD_noNs (fs : List Fld) (x : List T) (h : noNs fs) : plugD fs x = denote fs ++ x := by
  induction fs with
  | nil => simp [plugD, denote]
  | cons f r ih => cases f <;> simp_all [plugD, denote, noNs]

theorem converts_noNs : ∀ as : List SAttr, noNs (converts as)
  | [] => by simp [converts, noNs]
  | a :: r => by
    have := converts_noNs r
    simp only [converts]
    cases hc : convert a <;> simp_all [noNs]
    exact absurd hc (convert_not_ns a _)

theorem ins_false (p : List String) (fs : List Fld) (h : (ins p fs).2 = false) :
    (ins p fs).1 = fs ∧ denote fs = [] := by
  induction fs with
  | nil => simp [ins, denote]
  | cons f r ih =>
    unfold ins at h ⊢
    by_cases hs : isSkip f = true
    · simp only [hs, if_true] at h ⊢
      have := ih h
      cases f <;> simp_all [isSkip, denote]
    · simp [hs] at h

theorem ins_true (p : List String) (fs : List Fld) (x : List T) (hn : noNs fs)
    (h : (ins p fs).2 = true) :
    plugD (ins p fs).1 x = nest p (denote fs ++ x) := by
  induction fs with
  | nil => simp [ins] at h
  | cons f r ih =>
    unfold ins at h ⊢
    by_cases hs : isSkip f = true
    · simp only [hs, if_true] at h ⊢
      cases f <;> simp_all [isSkip, denote, plugD, noNs]
    · simp only [hs, Bool.false_eq_true, if_false]
      rw [plugD_append, plugD_ns, plugD_noNs _ _ hn]

theorem denote_eq_plugD (l : List Fld) : denote l = plugD l [] := by
  have := denote_append l []; simpa [denote] using this

theorem wrap_nil (t : List T) : wrap [] t = t := by
  unfold wrap nest; cases t <;> simp

theorem nest_append (p : List String) (g : String) (t : List T) :
    nest (p ++ [g]) t = nest p [.node g t] := by
  induction p with
  | nil => simp [nest]
  | cons a r ih => simp [nest, ih]

theorem wrap_wrap (p : List String) (g : String) (t : List T) :
    wrap p (wrap [g] t) = wrap (p ++ [g]) t := by
  cases t with
  | nil => simp [wrap]
  | cons a r => simp [wrap, nest, nest_append]

theorem wrap_nonempty (p : List String) (t : List T) (h : t ≠ []) : wrap p t = nest p t := by
  cases t with
  | nil => exact absurd rfl h
  | cons a r => simp [wrap]

theorem convert_nonskip (a : SAttr) (h : isSkip (convert a) = false) : content a ≠ [] := by
  cases a with
  | leaf k lv l => simp [content]
  | nilv k lv => by_cases hk : k = "" <;> simp_all [convert, content, isSkip]
  | group k lv ms =>
    have hc := anyContent_iff ms
    cases ha : anyContent ms <;> by_cases hk : k = "" <;> simp_all [convert, content, isSkip]

theorem ins_true_nonempty (p : List String) : ∀ as : List SAttr,
    (ins p (converts as)).2 = true → contents as ≠ []
  | [], h => by simp [converts, ins] at h
  | a :: r, h => by
    simp only [converts] at h
    unfold ins at h
    by_cases hs : isSkip (convert a) = true
    · simp only [hs, if_true] at h
      have := ins_true_nonempty p r h
      simp only [contents]; intro h0
      exact this (List.append_eq_nil_iff.mp h0).2
    · have := convert_nonskip a (by simpa using hs)
      simp only [contents]; intro h0
      exact this (List.append_eq_nil_iff.mp h0).1

/-- one WithAttrs/Handle step of the handler, in denotational terms -/
theorem addAttrs_plug (h : H) (as : List SAttr) (t : List T) :
    plugD (addAttrs h (converts as)).ctx (wrap (addAttrs h (converts as)).pending t)
      = plugD h.ctx (wrap h.pending (contents as ++ t)) := by
  have hn := converts_noNs as
  have hd := denote_converts as
  unfold addAttrs
  by_cases hp : h.pending.isEmpty = true
  · have hpe : h.pending = [] := List.isEmpty_iff.mp hp
    simp only [hpe, List.isEmpty_nil, if_true, wrap_nil]
    rw [plugD_append, plugD_noNs _ _ hn, hd]
  · simp only [hp, Bool.false_eq_true, if_false]
    cases ho : (ins h.pending (converts as)).2 with
    | false =>
      obtain ⟨h1, h2⟩ := ins_false _ _ ho
      have hc : contents as = [] := by rw [← hd]; exact h2
      simp only [h1]
      rw [plugD_append, plugD_noNs _ _ hn, h2, hc]; simp
    | true =>
      have hne := ins_true_nonempty _ as ho
      simp only [if_true, wrap_nil]
      rw [plugD_append, ins_true _ _ _ hn ho, hd]
      rw [wrap_nonempty _ _ (by intro h0; exact hne (List.append_eq_nil_iff.mp h0).1)]

theorem run_append (h : H) (a b : List Step) : run h (a ++ b) = run (run h a) b := by
  induction a generalizing h with
  | nil => simp [run]
  | cons s r ih => simp [run, ih]

/-! ### the handler as it is before the repairs of F14/F15 (witnesses only) -/

mutual
/-- `convertAttrToField` without the emptiness check: every group becomes Object/Inline -/
def convertOld : SAttr → Fld
  | .leaf k _ l => .kv k l
  | .nilv k _ => if k = "" then .skip else .kv k nilLeaf
  | .group k _ ms => if k = "" then .inl (convertsOld ms) else .obj k (convertsOld ms)
def convertsOld : List SAttr → List Fld
  | [] => []
  | a :: r => convertOld a :: convertsOld r
end

/-- `WithGroup` without the empty-name check -/
def stepOld (h : H) : Step → H
  | .withGroup g => { h with pending := h.pending ++ [g] }
  | .withAttrs as => addAttrs h (convertsOld as)

def runOld (h : H) : List Step → H
  | [] => h
  | s :: D => runOld (stepOld h s) D

def handleOld (h : H) (R : List SAttr) : List T := denote (addAttrs h (convertsOld R)).ctx

theorem getElem?_map_some {α β} (f : α → β) (l : List α) (i : Nat) :
    (l.map f)[i]? = (l[i]?).map f := by simp

theorem runProg_paths (ds : List (List Step)) (ps : List PStep) :
    runProg (ds.map (run root)) ps = (pathsOf ds ps).map (run root) := by
  induction ps generalizing ds with
  | nil => simp [runProg, pathsOf]
  | cons p ps ih =>
    simp only [runProg, pathsOf, List.getElem?_map]
    cases hd : ds[p.on]? with
    | none => simpa using ih ds
    | some d =>
      simp only [Option.map_some]
      have : ds.map (run root) ++ [step (run root d) p.s] = (ds ++ [d ++ [p.s]]).map (run root) := by
        simp [run_append, run]
      rw [this]; exact ih _

theorem runProg_prefix (hs : List H) (ps : List PStep) : (runProg hs ps).take hs.length = hs := by
  induction ps generalizing hs with
  | nil => simp [runProg]
  | cons p ps ih =>
    simp only [runProg]
    cases hs[p.on]? with
    | none => exact ih hs
    | some h =>
      have := ih (hs ++ [step h p.s])
      have h2 := congrArg (List.take hs.length) this
      simp only [List.take_take, List.length_append, List.length_cons, List.length_nil] at h2
      simpa [Nat.min_eq_left (Nat.le_add_right _ _)] using h2

/-- a slice header is live when it is empty or points at an allocated array -/
def Live (hp : GHeap) (x : HH) : Prop := x.groups.len = 0 ∨ x.groups.id < hp.length

theorem view_grow (hp : GHeap) (arr : List String) (s : GSlice) (h : s.len = 0 ∨ s.id < hp.length) :
    view (hp ++ [arr]) s = view hp s := by
  rcases h with h | h
  · simp [view, h]
  · simp [view, List.getD_eq_getElem?_getD, List.getElem?_append_left h]

theorem view_withGroup (hp : GHeap) (s : GSlice) (g : String) :
    view (withGroupHeap hp s g).1 (withGroupHeap hp s g).2 = view hp s ++ [g] := by
  simp only [withGroupHeap, view, List.getD_eq_getElem?_getD]
  simp only [List.getElem?_append_right (Nat.le_refl _), Nat.sub_self, List.getElem?_cons_zero, Option.getD_some]
  apply List.take_of_length_le
  simp only [List.length_append, List.length_take, List.length_cons, List.length_nil]
  omega

theorem addAttrs_pending (h : H) (fs : List Fld) :
    (addAttrs h fs).pending = [] ∨ (addAttrs h fs).pending = h.pending := by
  unfold addAttrs
  by_cases hp : h.pending.isEmpty = true
  · simp [hp]
  · simp only [hp, Bool.false_eq_true, if_false]
    cases (ins h.pending fs).2 <;> simp

theorem stepHeap_abs (hp : GHeap) (x : HH) (s : Step) :
    absH (stepHeap hp x s).1 (stepHeap hp x s).2 = step (absH hp x) s := by
  cases s with
  | withGroup g =>
    by_cases hg : g = ""
    · simp [stepHeap, step, hg]
    · simp only [stepHeap, step, hg, if_false, absH]
      rw [view_withGroup]
  | withAttrs as =>
    simp only [stepHeap, step]
    have hpend := addAttrs_pending (absH hp x) (converts as)
    have hpv : (absH hp x).pending = view hp x.groups := rfl
    rw [hpv] at hpend
    generalize addAttrs (absH hp x) (converts as) = h' at hpend ⊢
    obtain ⟨c, q⟩ := h'
    simp only at hpend
    by_cases hv : (view hp x.groups).isEmpty = true
    · have hve : view hp x.groups = [] := List.isEmpty_iff.mp hv
      simp only [absH, hve]
      rcases hpend with h | h <;> simp [h, hve]
    · simp only [hv, Bool.false_eq_true, if_false]
      by_cases hq : q.isEmpty = true
      · have : q = [] := List.isEmpty_iff.mp hq
        simp [absH, view, this]
      · simp only [hq, Bool.false_eq_true, if_false, absH]
        rcases hpend with h | h
        · simp [h] at hq
        · simp [h]

theorem stepHeap_frame (hp : GHeap) (x y : HH) (s : Step) (hy : Live hp y) :
    absH (stepHeap hp x s).1 y = absH hp y := by
  cases s with
  | withGroup g =>
    by_cases hg : g = ""
    · simp [stepHeap, hg]
    · simp only [stepHeap, hg, if_false, absH, withGroupHeap]
      rw [view_grow _ _ _ hy]
  | withAttrs as =>
    simp only [stepHeap]
    split <;> (try split) <;> rfl

theorem stepHeap_live_old (hp : GHeap) (x y : HH) (s : Step) (hy : Live hp y) :
    Live (stepHeap hp x s).1 y := by
  cases s with
  | withGroup g =>
    by_cases hg : g = ""
    · simpa [stepHeap, hg] using hy
    · simp only [stepHeap, hg, if_false, withGroupHeap, Live, List.length_append, List.length_cons, List.length_nil]
      rcases hy with h | h
      · exact Or.inl h
      · exact Or.inr (by omega)
  | withAttrs as =>
    simp only [stepHeap]
    split <;> (try split) <;> exact hy

theorem stepHeap_live_new (hp : GHeap) (x : HH) (s : Step) (hx : Live hp x) :
    Live (stepHeap hp x s).1 (stepHeap hp x s).2 := by
  cases s with
  | withGroup g =>
    by_cases hg : g = ""
    · simpa [stepHeap, hg] using hx
    · simp [stepHeap, hg, withGroupHeap, Live]
  | withAttrs as =>
    simp only [stepHeap]
    split
    · exact hx
    · split
      · exact Or.inl rfl
      · exact hx

theorem runProgHeap_abs (ps : List PStep) : ∀ (hp : GHeap) (xs : List HH), (∀ x ∈ xs, Live hp x) →
    (runProgHeap (hp, xs) ps).2.map (absH (runProgHeap (hp, xs) ps).1) = runProg (xs.map (absH hp)) ps := by
  induction ps with
  | nil => intro hp xs _; simp [runProgHeap, runProg]
  | cons p ps ih =>
    intro hp xs hl
    simp only [runProgHeap, runProg, List.getElem?_map]
    cases hx : xs[p.on]? with
    | none => simpa using ih hp xs hl
    | some x =>
      have hxm : x ∈ xs := List.mem_of_getElem? hx
      simp only [Option.map_some]
      have hl' : ∀ y ∈ xs ++ [(stepHeap hp x p.s).2], Live (stepHeap hp x p.s).1 y := by
        intro y hy
        rcases List.mem_append.mp hy with hy | hy
        · exact stepHeap_live_old hp x y p.s (hl y hy)
        · have : y = (stepHeap hp x p.s).2 := by simpa using hy
          rw [this]; exact stepHeap_live_new hp x p.s (hl x hxm)
      have := ih (stepHeap hp x p.s).1 (xs ++ [(stepHeap hp x p.s).2]) hl'
      have hm : (xs ++ [(stepHeap hp x p.s).2]).map (absH (stepHeap hp x p.s).1)
          = xs.map (absH hp) ++ [step (absH hp x) p.s] := by
        simp only [List.map_append, List.map_cons, List.map_nil, stepHeap_abs]
        congr 1
        apply List.map_congr_left
        intro y hy
        exact stepHeap_frame hp x y p.s (hl y hy)
      rw [hm] at this
      exact this

theorem lookup_mem {α β} [BEq α] [LawfulBEq α] (l : List (α × β)) (a : α) (b : β)
    (h : l.lookup a = some b) : (a, b) ∈ l := by
  induction l with
  | nil => simp [List.lookup] at h
  | cons p r ih =>
    obtain ⟨k, v⟩ := p
    simp only [List.lookup] at h
    by_cases hk : a == k
    · simp only [hk] at h
      have : a = k := by simpa using hk
      simp at h; subst this; subst h; simp
    · simp only [hk] at h
      exact List.mem_cons_of_mem _ (ih h)

end ZapVerif.Slog
