import ZapVerif.Model.MapEnc
import ZapVerif.Proofs.Spaced
/-! the map encoder's nesting is the last-wins map of the tree the JSON encoder denotes -/
namespace ZapVerif.MapEnc
open ZapVerif ZapVerif.Json ZapVerif.Enc ZapVerif.Entry

mutual
/-- last-wins map of a (marked) JSON tree: structure made by encoder calls is followed, leaves are opaque -/
def toMapV : T → MV
  | .leaf _ => MV.leaf
  | .arr xs => MV.arr (toMapL xs)
  | .obj kvs => MV.obj (toMapM [] kvs)
def toMapL : List T → List MV
  | [] => []
  | x :: r => toMapV x :: toMapL r
def toMapM (acc : List (Bytes × MV)) : List (Bytes × T) → List (Bytes × MV)
  | [] => acc
  | (k, v) :: r => toMapM (put k (toMapV v) acc) r
end

theorem map_eq : (∀ (calls : List OC) (acc : List (Bytes × MV)), mapFrom esc acc calls = toMapM acc (denTO calls)) ∧
    (∀ (calls : List AC), mapArr esc calls = toMapL (denTA calls)) := by
  apply calls_induct
  · intro acc; simp [mapFrom, denTO, toMapM]
  · intro k v r ih acc; simp only [mapFrom, denTO, toMapM, toMapV, ih]
  · intro k body r ihb ih acc; simp only [mapFrom, denTO, toMapM, toMapV, ihb, ih]
  · intro k body r ihb ih acc; simp only [mapFrom, denTO, toMapM, toMapV, ihb, ih]
  · intro k r ih acc; simp only [mapFrom, denTO, toMapM, toMapV, ih]
  · simp [mapArr, denTA, toMapL]
  · intro v r ih; simp only [mapArr, denTA, toMapL, toMapV, ih]
  · intro body r ihb ih; simp only [mapArr, denTA, toMapL, toMapV, ihb, ih]
  · intro body r ihb ih; simp only [mapArr, denTA, toMapL, toMapV, ihb, ih]

theorem mapFrom_eq : ∀ (calls : List OC) (acc : List (Bytes × MV)),
    mapFrom esc acc calls = toMapM acc (denTO calls) := map_eq.1
theorem mapArr_eq : ∀ (calls : List AC), mapArr esc calls = toMapL (denTA calls) := map_eq.2

end ZapVerif.MapEnc
