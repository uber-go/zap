import ZapVerif.Model.OpenBuild
/-! Facts about the decision models of `Model/OpenBuild.lean`, for Props/C19.lean. -/
namespace ZapVerif.OpenBuild
open ZapVerif

theorem openedIdx_all (i : Nat) (outs : List Bool) (h : outs.all id = true) :
    openedIdx i outs = List.range' i outs.length := by
  induction outs generalizing i with
  | nil => simp [openedIdx]
  | cons b r ih =>
    simp only [List.all_cons, Bool.and_eq_true, id] at h
    obtain ⟨hb, hr⟩ := h
    subst hb
    simp [openedIdx, ih (i + 1) hr, List.range'_succ]

theorem openedIdx_nodup (i : Nat) (outs : List Bool) : (openedIdx i outs).Nodup ∧ ∀ j ∈ openedIdx i outs, i ≤ j := by
  induction outs generalizing i with
  | nil => simp [openedIdx]
  | cons b r ih =>
    obtain ⟨h1, h2⟩ := ih (i + 1)
    cases b
    · simp only [openedIdx]
      exact ⟨h1, fun j hj => Nat.le_of_succ_le (h2 j hj)⟩
    · simp only [openedIdx, List.nodup_cons, List.mem_cons]
      refine ⟨⟨fun hm => ?_, h1⟩, ?_⟩
      · have := h2 i hm; omega
      · rintro j (rfl | hj)
        · exact Nat.le_refl _
        · exact Nat.le_of_succ_le (h2 j hj)

theorem mem_openedIdx (i : Nat) (outs : List Bool) (j : Nat) :
    j ∈ openedIdx i outs ↔ i ≤ j ∧ outs[j - i]? = some true := by
  induction outs generalizing i with
  | nil => simp [openedIdx]
  | cons b r ih =>
    have h : (b :: r)[j - i]? = if j - i = 0 then some b else r[j - (i + 1)]? := by
      rw [List.getElem?_cons, Nat.sub_add_eq]
    by_cases hji : j - i = 0 <;> cases b <;> simp [openedIdx, ih, h, hji] <;>
      by_cases hA : r[j - (i + 1)]? = some true <;> simp [hA] <;> omega

theorem lookup_append_none {α β} [BEq α] (l : List (α × β)) (k a : α) (b : β) (h : l.lookup k = none) :
    (l ++ [(a, b)]).lookup k = if k == a then some b else none := by
  induction l with
  | nil => simp [List.lookup]; split <;> simp_all
  | cons p r ih =>
    obtain ⟨x, y⟩ := p
    simp only [List.lookup, List.cons_append] at h ⊢
    cases hx : k == x
    · simp only [hx] at h; exact ih h
    · simp [hx] at h

theorem lookup_append_some {α β} [BEq α] (l : List (α × β)) (k a : α) (b v : β) (h : l.lookup k = some v) :
    (l ++ [(a, b)]).lookup k = some v := by
  induction l with
  | nil => simp [List.lookup] at h
  | cons p r ih =>
    obtain ⟨x, y⟩ := p
    simp only [List.lookup, List.cons_append] at h ⊢
    cases hx : k == x
    · simp only [hx] at h; exact ih h
    · simpa [hx] using h

theorem all256 (P : UInt8 → Prop) (h : ∀ n : Fin 256, P (UInt8.ofNat n)) : ∀ b, P b := by
  intro b
  have := h ⟨b.toNat, b.toNat_lt⟩
  simpa using this

theorem asciiLower_idem : ∀ c : UInt8, asciiLower (asciiLower c) = asciiLower c := by
  apply all256; decide +kernel

theorem lowerBytes_idem (s : Bytes) : lowerBytes (lowerBytes s) = lowerBytes s := by
  have h := asciiLower_idem
  simp [lowerBytes, List.map_map, Function.comp_def, h]

theorem lower_invariants :
    (∀ c : UInt8, isLetter (asciiLower c) = isLetter c) ∧ (∀ c : UInt8, schemeRest (asciiLower c) = schemeRest c) := by
  constructor <;> (apply all256; decide +kernel)

theorem normalize_lower (s : Bytes) : normalizeScheme (lowerBytes s) = normalizeScheme s := by
  cases s with
  | nil => rfl
  | cons c r =>
    have h := lowerBytes_idem (c :: r)
    simp only [lowerBytes, List.map_cons] at h ⊢
    simp only [normalizeScheme, lower_invariants.1, List.all_map, Function.comp_def, lower_invariants.2]
    simp only [lowerBytes, List.map_cons, h]

end ZapVerif.OpenBuild
