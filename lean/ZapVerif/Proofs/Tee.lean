import ZapVerif.Model.Tee
/-! The coarse machine of Model/Tee.lean (a mutex per branch, whole lines, no pooled buffers, no bufio) with its invariant,
    and the BufferedWriteSyncer at critical-section granularity (`BInv`).  The C04 theorems are about the finer machine of
    Model/TeeBws.lean, whose invariant is proved on its own in Proofs/TeeBws.lean; from this file they use the merge
    predicates (`isMerge_sound`, `isMerge_complete`, `cut_flatten`, `Proper`). -/
namespace ZapVerif.Tee
open ZapVerif

@[simp] theorem upd_same {α} (f : Nat → α) (i : Nat) (v : α) : upd f i v i = v := by simp [upd]
theorem upd_other {α} (f : Nat → α) (i j : Nat) (v : α) (h : j ≠ i) : upd f i v j = f j := by simp [upd, h]

/-- the invariant: per branch, the mutex is what the ghost says, the sink is the concatenation of whole lines in
    acquisition order minus what the holder still has to emit; per goroutine and branch, history ++ remaining work is
    the goroutine's program -/
structure Inv (jobs : Nat → List Job) (s : St) : Prop where
  excl : ∀ t b rest, (s.thr t).cur = some (b, rest) → s.lock b = some t
  free : ∀ b, s.lock b = none → s.sink b = written s b
  held : ∀ b t rest, s.lock b = some t → (s.thr t).cur = some (b, rest) → s.sink b ++ rest = written s b
  holder_cur : ∀ b t, s.lock b = some t → ∃ rest, (s.thr t).cur = some (b, rest)
  projq : ∀ t b, proj t (s.hist b) ++ linesFor b (s.thr t).todo = linesFor b (jobs t)

theorem init_inv (jobs : Nat → List Job) : Inv jobs (init jobs) := by
  refine ⟨?_, ?_, ?_, ?_, ?_⟩ <;> simp [init, written, proj]

theorem proj_append (t : Nat) (h1 h2 : List (Nat × Bytes)) : proj t (h1 ++ h2) = proj t h1 ++ proj t h2 := by
  simp [proj, List.filter_append]

theorem proj_snoc_other {u t : Nat} (hut : u ≠ t) (hist : List (Nat × Bytes)) (l : Bytes) :
    proj u (hist ++ [(t, l)]) = proj u hist := by
  have : (t == u) = false := by simpa using fun e : t = u => hut e.symm
  simp [proj, List.filter_append, this]

theorem proj_snoc_self (t : Nat) (hist : List (Nat × Bytes)) (l : Bytes) :
    proj t (hist ++ [(t, l)]) = proj t hist ++ [l] := by
  simp [proj, List.filter_append]

theorem step_inv (jobs : Nat → List Job) (s s' : St) (t : Nat) (h : Inv jobs s) (hs : step s t = some s') :
    Inv jobs s' := by
  unfold step at hs
  cases hc : (s.thr t).cur with
  | some cur =>
    obtain ⟨b, bytes⟩ := cur
    have hl := h.excl t b bytes hc
    cases bytes with
    | cons x rest =>
      simp [hc] at hs; subst hs
      refine ⟨?_, ?_, ?_, ?_, ?_⟩
      · intro u b' r hu
        by_cases hut : u = t
        · subst hut; simp at hu; obtain ⟨hb, _⟩ := hu; subst hb; exact hl
        · simp [upd_other _ _ _ _ hut] at hu; exact h.excl u b' r hu
      · intro b' hf
        have hb : b' ≠ b := by intro e; subst e; simp [hl] at hf
        simp [written, upd_other _ _ _ _ hb]; exact h.free b' hf
      · intro b' u r hlu hcu
        by_cases hb : b' = b
        · subst hb
          have hut : u = t := by simpa [hl] using hlu.symm
          subst hut
          simp at hcu
          have := h.held b' u (x :: rest) hl hc
          rw [← hcu]
          simpa [written, List.append_assoc] using this
        · have hut : u ≠ t := by
            intro e; subst e; simp at hcu; exact hb hcu.1.symm
          simp [upd_other _ _ _ _ hut] at hcu
          simp [written, upd_other _ _ _ _ hb]
          exact h.held b' u r hlu hcu
      · intro b' u hlu
        by_cases hut : u = t
        · subst hut
          obtain ⟨r', hr'⟩ := h.holder_cur b' u hlu
          rw [hc] at hr'; simp at hr'; obtain ⟨hb, _⟩ := hr'; subst hb
          exact ⟨rest, by simp⟩
        · obtain ⟨r', hr'⟩ := h.holder_cur b' u hlu
          exact ⟨r', by simp [upd_other _ _ _ _ hut, hr']⟩
      · intro u b'
        by_cases hut : u = t
        · subst hut; simpa using h.projq u b'
        · simpa [upd_other _ _ _ _ hut] using h.projq u b'
    | nil =>
      simp [hc] at hs; subst hs
      refine ⟨?_, ?_, ?_, ?_, ?_⟩
      · intro u b' r hu
        by_cases hut : u = t
        · subst hut; simp at hu
        · simp [upd_other _ _ _ _ hut] at hu
          have hlu := h.excl u b' r hu
          have hb : b' ≠ b := by intro e; subst e; rw [hl] at hlu; exact hut (by simpa using hlu.symm)
          simpa [upd_other _ _ _ _ hb] using hlu
      · intro b' hf
        by_cases hb : b' = b
        · subst hb; have := h.held b' t [] hl hc; simpa [written] using this
        · simp [upd_other _ _ _ _ hb] at hf; simpa [written] using h.free b' hf
      · intro b' u r hlu hcu
        by_cases hb : b' = b
        · subst hb; simp at hlu
        · simp [upd_other _ _ _ _ hb] at hlu
          have hut : u ≠ t := by intro e; subst e; simp at hcu
          simp [upd_other _ _ _ _ hut] at hcu
          simpa [written] using h.held b' u r hlu hcu
      · intro b' u hlu
        by_cases hb : b' = b
        · subst hb; simp at hlu
        · simp [upd_other _ _ _ _ hb] at hlu
          obtain ⟨r', hr'⟩ := h.holder_cur b' u hlu
          have hut : u ≠ t := by
            intro e; subst e; rw [hc] at hr'; simp at hr'; exact hb hr'.1.symm
          exact ⟨r', by simp [upd_other _ _ _ _ hut, hr']⟩
      · intro u b'
        by_cases hut : u = t
        · subst hut; simpa using h.projq u b'
        · simpa [upd_other _ _ _ _ hut] using h.projq u b'
  | none =>
    simp [hc] at hs
    cases htd : (s.thr t).todo with
    | nil => simp [htd] at hs
    | cons j js =>
      cases hlk : s.lock j.br with
      | some u => simp [htd, hlk] at hs
      | none =>
        simp [htd, hlk] at hs; subst hs
        have hfree := h.free j.br hlk
        refine ⟨?_, ?_, ?_, ?_, ?_⟩
        · intro u b' r hu
          by_cases hut : u = t
          · subst hut; simp at hu; obtain ⟨hb, _⟩ := hu; subst hb; simp
          · simp [upd_other _ _ _ _ hut] at hu
            have hlu := h.excl u b' r hu
            have hb : b' ≠ j.br := by intro e; subst e; rw [hlk] at hlu; simp at hlu
            simpa [upd_other _ _ _ _ hb] using hlu
        · intro b' hf
          have hb : b' ≠ j.br := by intro e; subst e; simp at hf
          simp [upd_other _ _ _ _ hb] at hf
          simpa [written, upd_other _ _ _ _ hb] using h.free b' hf
        · intro b' u r hlu hcu
          by_cases hb : b' = j.br
          · subst hb
            simp at hlu; subst hlu
            simp at hcu; subst hcu
            simp [written, hfree]
          · simp [upd_other _ _ _ _ hb] at hlu
            have hut : u ≠ t := by
              intro e; subst e; simp at hcu; exact hb hcu.1.symm
            simp [upd_other _ _ _ _ hut] at hcu
            simpa [written, upd_other _ _ _ _ hb] using h.held b' u r hlu hcu
        · intro b' u hlu
          by_cases hb : b' = j.br
          · subst hb; simp at hlu; subst hlu; exact ⟨j.line, by simp⟩
          · simp [upd_other _ _ _ _ hb] at hlu
            obtain ⟨r', hr'⟩ := h.holder_cur b' u hlu
            have hut : u ≠ t := by intro e; subst e; rw [hc] at hr'; simp at hr'
            exact ⟨r', by simp [upd_other _ _ _ _ hut, hr']⟩
        · intro u b'
          have old := h.projq u b'
          by_cases hut : u = t
          · subst hut
            rw [htd] at old
            by_cases hb : b' = j.br
            · subst hb
              simp only [upd_same, proj_snoc_self, List.append_assoc]
              simpa [linesFor] using old
            · have hb' : (j.br == b') = false := by simpa using fun e => hb e.symm
              simp only [upd_same, upd_other _ _ _ _ hb]
              simpa [linesFor, hb'] using old
          · by_cases hb : b' = j.br
            · subst hb
              simp only [upd_same, upd_other _ _ _ _ hut, proj_snoc_other hut]
              exact old
            · simp only [upd_other _ _ _ _ hut, upd_other _ _ _ _ hb]
              exact old

theorem run_inv (jobs : Nat → List Job) (sched : List Nat) : ∀ s, Inv jobs s → Inv jobs (run s sched) := by
  induction sched with
  | nil => intro s h; exact h
  | cons t ts ih =>
    intro s h
    simp only [run]
    cases hs : step s t with
    | none => exact ih s h
    | some s' => exact ih s' (step_inv jobs s s' t h hs)

theorem finished_free (jobs : Nat → List Job) (s : St) (h : Inv jobs s) (hf : Finished s) (b : Nat) :
    s.lock b = none := by
  cases hl : s.lock b with
  | none => rfl
  | some t =>
    obtain ⟨r, hr⟩ := h.holder_cur b t hl
    rw [(hf t).2] at hr; simp at hr

theorem linesFor_nil (b : Nat) : linesFor b [] = [] := rfl

theorem teeCall_filter_ge (l : Bytes) (b : Nat) : ∀ B, B ≤ b → (teeCall B l).filter (·.br == b) = []
  | 0, _ => by simp [teeCall]
  | B + 1, h => by
    have ih := teeCall_filter_ge l b B (by omega)
    have hne : (B == b) = false := by simpa using (by omega : B ≠ b)
    simp only [teeCall, List.range_succ, List.map_append, List.filter_append] at ih ⊢
    simp [ih, hne]

theorem teeCall_filter_lt (l : Bytes) (b : Nat) : ∀ B, b < B → (teeCall B l).filter (·.br == b) = [⟨b, l⟩]
  | 0, h => by omega
  | B + 1, h => by
    simp only [teeCall, List.range_succ, List.map_append, List.filter_append]
    by_cases hb : b = B
    · subst hb
      have := teeCall_filter_ge l b b (Nat.le_refl _)
      simp only [teeCall] at this
      simp [this]
    · have ih := teeCall_filter_lt l b B (by omega)
      have hne : (B == b) = false := by simpa using fun e : B = b => hb e.symm
      simp only [teeCall] at ih
      simp [ih, hne]

theorem linesFor_teeProg (B b : Nat) (hb : b < B) : ∀ ls, linesFor b (teeProg B ls) = ls
  | [] => rfl
  | l :: ls => by
    have ih := linesFor_teeProg B b hb ls
    simp only [teeProg, List.flatMap_cons, linesFor, List.filter_append, List.map_append] at ih ⊢
    rw [teeCall_filter_lt l b B hb, ih]; rfl

theorem getD_all_empty (per : List (List Bytes)) (h : per.all (·.isEmpty) = true) (t : Nat) :
    (per[t]?).getD [] = [] := by
  cases hp : per[t]? with
  | none => rfl
  | some p =>
    have hm : p ∈ per := List.mem_of_getElem? hp
    have := List.all_eq_true.mp h p hm
    simpa using this

theorem proj_cons (t i : Nat) (l : Bytes) (h : List (Nat × Bytes)) :
    proj t ((i, l) :: h) = if i = t then l :: proj t h else proj t h := by
  by_cases e : i = t <;> simp [proj, e]

theorem getD_set (per : List (List Bytes)) (i t : Nat) (v : List Bytes) (hi : i < per.length) :
    (per.set i v).getD t [] = if t = i then v else per.getD t [] := by
  by_cases e : t = i
  · subst e; simp [List.getD_eq_getElem?_getD, hi]
  · have e' : i ≠ t := fun h => e h.symm
    simp [List.getD_eq_getElem?_getD, e, e']

theorem isMerge_sound : ∀ (ls : List Bytes) (per : List (List Bytes)), isMerge per ls = true →
    IsMergeOf (fun t => per.getD t []) ls
  | [], per, h => by
    simp only [isMerge] at h
    exact ⟨[], rfl, fun t => by have := getD_all_empty per h t; simp [proj, this]⟩
  | l :: rest, per, h => by
    simp only [isMerge, List.any_eq_true, List.mem_range] at h
    obtain ⟨i, hi, hm⟩ := h
    cases hp : per[i]? with
    | none => simp [hp] at hm
    | some p =>
      cases p with
      | nil => simp [hp] at hm
      | cons hd tl =>
        simp [hp] at hm
        obtain ⟨rfl, hrest⟩ := hm
        -- goroutine i contributes the head; the rest is a merge of the lists with that head removed
        obtain ⟨hist, hmap, hproj⟩ := isMerge_sound rest (per.set i tl) hrest
        refine ⟨(i, hd) :: hist, by simp [hmap], fun t => ?_⟩
        show proj t ((i, hd) :: hist) = per.getD t []
        rw [proj_cons, show proj t hist = (per.set i tl).getD t [] from hproj t, getD_set per i t tl hi]
        by_cases hti : t = i
        · subst hti; simp [List.getD_eq_getElem?_getD, hp]
        · rw [if_neg hti, if_neg (fun e : i = t => hti e.symm)]

theorem isMerge_complete : ∀ (hist : List (Nat × Bytes)) (per : List (List Bytes)),
    (∀ t, proj t hist = per.getD t []) → isMerge per (hist.map (·.2)) = true
  | [], per, h => by
    simp only [List.map_nil, isMerge, List.all_eq_true]
    intro p hp
    obtain ⟨t, ht, hpt⟩ := List.getElem_of_mem hp
    have := h t
    simp [proj, List.getD_eq_getElem?_getD, List.getElem?_eq_getElem ht, hpt] at this
    simp [← this]
  | (i, l) :: hist, per, h => by
    have hi := h i
    rw [proj_cons, if_pos rfl] at hi
    have hlen : i < per.length := by
      rcases Nat.lt_or_ge i per.length with hlt | hge
      · exact hlt
      · simp [List.getD_eq_getElem?_getD, List.getElem?_eq_none hge] at hi
    have hp : per[i]? = some (l :: proj i hist) := by
      simp [List.getD_eq_getElem?_getD, List.getElem?_eq_getElem hlen] at hi
      simp [List.getElem?_eq_getElem hlen, ← hi]
    simp only [List.map_cons, isMerge, List.any_eq_true, List.mem_range]
    refine ⟨i, hlen, ?_⟩
    simp only [hp, beq_self_eq_true, Bool.true_and]
    -- the head is goroutine i's next line; the tail is a merge of the lists with it removed
    apply isMerge_complete hist (per.set i (proj i hist))
    intro t
    rw [getD_set per i t _ hlen]
    by_cases hti : t = i
    · subst hti; simp
    · have := h t
      rw [proj_cons, if_neg (fun e : i = t => hti e.symm)] at this
      simp [hti, this]

theorem cutAux_sound : ∀ (bs acc : Bytes) (ls : List Bytes), cutAux bs acc = some ls → acc ++ bs = ls.flatten
  | [], [], ls, h => by simp [cutAux] at h; subst h; rfl
  | [], _ :: _, ls, h => by simp [cutAux] at h
  | b :: bs, acc, ls, h => by
    simp only [cutAux] at h
    split at h
    · rename_i hb
      cases hc : cutAux bs [] with
      | none => simp [hc] at h
      | some ls' =>
        simp [hc] at h; subst h
        have := cutAux_sound bs [] ls' hc
        simp at this
        simp [this]
    · have := cutAux_sound bs (acc ++ [b]) ls h
      simpa using this

/-- a proper line: ends with '\n' and contains no other '\n' -/
def Proper (l : Bytes) : Prop := ∃ body, l = body ++ [10] ∧ (10 : UInt8) ∉ body

theorem cutAux_body : ∀ (body rest acc : Bytes), (10 : UInt8) ∉ body →
    cutAux (body ++ 10 :: rest) acc = (cutAux rest []).map ((acc ++ body ++ [10]) :: ·)
  | [], rest, acc, _ => by simp [cutAux]
  | b :: body, rest, acc, h => by
    have hb : b ≠ 10 := by intro e; subst e; simp at h
    have hbody : (10 : UInt8) ∉ body := by intro e; exact h (List.mem_cons_of_mem _ e)
    simp only [List.cons_append, cutAux, hb, if_false]
    rw [cutAux_body body rest (acc ++ [b]) hbody]
    simp [List.append_assoc]

theorem cut_flatten : ∀ ls : List Bytes, (∀ l ∈ ls, Proper l) → cut ls.flatten = some ls
  | [], _ => by simp [cut, cutAux]
  | l :: ls, h => by
    obtain ⟨body, hl, hbody⟩ := h l (by simp)
    have ih := cut_flatten ls (fun x hx => h x (List.mem_cons_of_mem _ hx))
    subst hl
    simp only [cut] at ih ⊢
    simp only [List.flatten_cons, List.append_assoc, List.singleton_append]
    rw [cutAux_body body ls.flatten [] hbody, ih]
    simp

/-- the underlying sink received whole-line groups only; buffered = a whole-line suffix; nothing lost or reordered -/
def BInv (lines : List Bytes) (s : BSt) : Prop :=
  ∃ (groups : List (List Bytes)) (pending : List Bytes),
    s.calls = groups.map List.flatten ∧ s.buf = pending.flatten ∧ groups.flatten ++ pending = lines

theorem bflush_inv (lines : List Bytes) (s : BSt) (h : BInv lines s) :
    BInv lines { buf := [], calls := s.calls ++ [s.buf] } := by
  obtain ⟨groups, pending, h1, h2, h3⟩ := h
  exact ⟨groups ++ [pending], [], by simp [h1, h2], rfl, by simp [← h3]⟩

theorem bstep_sync_inv (size : Nat) (lines : List Bytes) (s : BSt) (h : BInv lines s) :
    BInv lines (bstep size s .sync) := by
  simp only [bstep]
  split
  · exact h
  · exact bflush_inv lines s h

theorem bstep_write_inv (size : Nat) (lines : List Bytes) (s : BSt) (l : Bytes) (h : BInv lines s) :
    BInv (lines ++ [l]) (bstep size s (.write l)) := by
  simp only [bstep]
  have h1 : BInv lines (if l.length > size - s.buf.length ∧ s.buf ≠ [] then
      ({ buf := [], calls := s.calls ++ [s.buf] } : BSt) else s) := by
    split
    · exact bflush_inv lines s h
    · exact h
  generalize (if l.length > size - s.buf.length ∧ s.buf ≠ [] then
      ({ buf := [], calls := s.calls ++ [s.buf] } : BSt) else s) = s1 at h1
  obtain ⟨groups, pending, hc, hb, hl⟩ := h1
  split
  · -- direct write
    by_cases he : s1.buf = []
    · refine ⟨groups ++ [pending ++ [l]], [], ?_, rfl, ?_⟩
      · have : pending.flatten = [] := by rw [← hb]; exact he
        show (if s1.buf = [] then s1.calls else s1.calls ++ [s1.buf]) ++ [l] = _
        rw [if_pos he]
        simp [hc, this]
      · simp [← hl]
    · refine ⟨groups ++ [pending] ++ [[l]], [], ?_, rfl, ?_⟩
      · show (if s1.buf = [] then s1.calls else s1.calls ++ [s1.buf]) ++ [l] = _
        rw [if_neg he]
        simp [hc, hb]
      · simp [← hl]
  · exact ⟨groups, pending ++ [l], hc, by simp [hb], by simp [← hl]⟩

theorem bwritten_append (a b : List (Nat × BOp)) : bwritten (a ++ b) = bwritten a ++ bwritten b := by
  induction a with
  | nil => rfl
  | cons o r ih =>
    obtain ⟨t, op⟩ := o
    cases op <;> simp [bwritten, ih]

theorem brun_inv (size : Nat) (ops : List (Nat × BOp)) : ∀ (lines : List Bytes) (s : BSt), BInv lines s →
    BInv (lines ++ (bwritten ops).map (·.2)) (brun size s ops) := by
  induction ops with
  | nil => intro lines s h; simpa [brun, bwritten] using h
  | cons o r ih =>
    intro lines s h
    obtain ⟨t, op⟩ := o
    cases op with
    | write l =>
      have := ih (lines ++ [l]) (bstep size s (.write l)) (bstep_write_inv size lines s l h)
      simpa [brun, bwritten, List.append_assoc] using this
    | sync =>
      have := ih lines (bstep size s .sync) (bstep_sync_inv size lines s h)
      simpa [brun, bwritten] using this

theorem brun_append (size : Nat) (s : BSt) (a b : List (Nat × BOp)) :
    brun size s (a ++ b) = brun size (brun size s a) b := by
  simp [brun, List.foldl_append]

end ZapVerif.Tee
