import ZapVerif.Proofs.TransJsonEnc
import ZapVerif.Proofs.EncTree
import ZapVerif.Model.Entry
/-! `TransJsonEnc.entryBytes` — what the interpreted `EncodeEntry` computes (Props/C02.lean) — is `Enc.encodeEntry` over
    `Entry.metaCalls` / `Entry.stackCalls`, the function `jsonLine` and the C01/C02 theorems are stated over, whenever
    the parameters (sub-encoders, `addFields`) do on the buffer what the model's call trees say.  Nothing here depends
    on the generated terms. -/
namespace ZapVerif.TransJsonEnc
open ZapVerif ZapVerif.GoMini ZapVerif.Enc ZapVerif.Entry ZapVerif.Json

/-- a configured sub-encoder function does on the buffer what its `SubRes` says: one append (after the separator
    every `Append*` starts with) or nothing.  (`Entry.SubOK`, also in scope here, is something else: the
    well-formedness of a result.) -/
def SubOK (sub : Bool → Bytes → Bytes) : SubRes → Prop
  | .val s => (∀ sp b, sub sp b = sep sp b ++ render (scalarJ s)) ∧ render (scalarJ s) ≠ []
  | _ => ∀ sp b, sub sp b = b

theorem runO_prim1 (sp : Bool) (b : Bytes) (n : Nat) (k : Bytes) (v : J) :
    runO sp ⟨b, n⟩ [OC.prim k v] = ⟨Enc.addKey sp b k ++ render v, n⟩ := by
  simp [runO, sep_addKey]

theorem appendString_eq (sp : Bool) (b s : Bytes) : appendString sp b s = sep sp b ++ render (J.str (esc s)) := by
  simp [appendString, render]

theorem appendString_key (sp : Bool) (b k s : Bytes) :
    appendString sp (Enc.addKey sp b k) s = Enc.addKey sp b k ++ render (J.str (esc s)) := by
  rw [appendString_eq, sep_addKey]

/-- the guarded "key, sub-encoder, string fall-back" frame is the one `OC.prim` member the model emits -/
theorem subOr_eq (sp : Bool) (b k : Bytes) (sub : Bool → Bytes → Bytes) (r : SubRes) (fb : Bytes) (h : SubOK sub r) :
    subOr sp (Enc.addKey sp b k) (sub sp (Enc.addKey sp b k)) fb = Enc.addKey sp b k ++ render (subOrStr r fb) := by
  cases r with
  | val s =>
    obtain ⟨h1, h2⟩ := h
    have hlen : ¬ (Enc.addKey sp b k).length = (Enc.addKey sp b k ++ render (scalarJ s)).length := by
      have : 0 < (render (scalarJ s)).length := List.length_pos_iff.mpr h2
      simp only [List.length_append]; omega
    simp [subOr, h1, sep_addKey, subOrStr, h2]
  | noop => simp [subOr, h sp, appendString_eq, sep_addKey, subOrStr]
  | nilEnc => simp [subOr, h sp, appendString_eq, sep_addKey, subOrStr]

theorem runO_guard (sp : Bool) (b : Bytes) (n : Nat) (g : Bool) (k : Bytes) (v : J) :
    runO sp ⟨b, n⟩ (if g then [OC.prim k v] else []) = ⟨if g then Enc.addKey sp b k ++ render v else b, n⟩ := by
  cases g <;> simp [runO, sep_addKey]

/-- the string members (function, message, stack): `addKey` then `AppendString` -/
theorem runO_str (sp : Bool) (b : Bytes) (n : Nat) (g : Bool) (k s : Bytes) :
    runO sp ⟨b, n⟩ (if !g then [strPrim k s] else []) = ⟨if g then b else appendString sp (Enc.addKey sp b k) s, n⟩ := by
  rw [strPrim, runO_guard, appendString_key]
  cases g <;> rfl

/-- the sub-encoder members (level, name, caller): the `subOr` frame -/
theorem runO_subOr (sp : Bool) (b : Bytes) (n : Nat) (g1 g2 : Bool) (k : Bytes) (sub : Bool → Bytes → Bytes) (r : SubRes)
    (fb : Bytes) (h : SubOK sub r) :
    runO sp ⟨b, n⟩ (if !g1 && !g2 then [OC.prim k (subOrStr r fb)] else []) =
      ⟨if g1 || g2 then b else subOr sp (Enc.addKey sp b k) (sub sp (Enc.addKey sp b k)) fb, n⟩ := by
  rw [runO_guard, subOr_eq sp b k sub r fb h]
  cases g1 <;> cases g2 <;> rfl

/-- how the configuration, the entry and the parameters of the interpreter context correspond to the model's `Cfg`/`Ent` -/
structure EntryLink (P : Par) (c : ECfg) (e : EEnt) (cfg : Cfg) (ent : Ent) : Prop where
  levelKey : c.levelKey = cfg.levelKey
  timeKey : c.timeKey = cfg.timeKey
  nameKey : c.nameKey = cfg.nameKey
  callerKey : c.callerKey = cfg.callerKey
  functionKey : c.functionKey = cfg.functionKey
  messageKey : c.messageKey = cfg.messageKey
  stacktraceKey : c.stacktraceKey = cfg.stacktraceKey
  level : e.level = ent.level
  name : e.name = ent.name
  message : e.message = ent.message
  function : e.function = ent.function
  stack : e.stack = ent.stack
  defined : e.callerDefined = ent.callerDefined
  lvlNil : c.encLevel.isEmpty = isNil ent.lvlRes
  lvlSub : SubOK (P.subLevel c.encLevel (.int e.level)) ent.lvlRes
  lvlStr : P.levelString e.level = Level.stringOf ent.level
  timeZero : P.timeIsZero e.time = ent.time.isNone
  timeSub : ∀ t, ent.time = some t → ∀ sp b k, P.addTime c.encTime sp b k e.time = Enc.addKey sp b k ++ render (subOrNanos t.res t.nanos)
  nameSub : SubOK (fun _ b => P.subName (nameFn c) (.bytes e.name) b) ent.nameRes
  callerNil : c.encCaller.isEmpty = isNil ent.callerRes
  callerSub : SubOK (P.subCaller c.encCaller e.caller) ent.callerRes
  callerStr : P.callerString e.caller = ent.callerStr

theorem isEmpty_not (b : Bytes) : (!b.isEmpty) = !(b.isEmpty) := rfl

theorem metaBytes_eq (P : Par) (c : ECfg) (e : EEnt) (cfg : Cfg) (ent : Ent) (L : EntryLink P c e cfg ent) (sp : Bool)
    (n : Nat) :
    runO sp ⟨[123], n⟩ (metaCalls cfg ent) = ⟨metaBytes P c sp e, n⟩ := by
  have level : ∀ b, runO sp ⟨b, n⟩
      (if !cfg.levelKey.isEmpty && !isNil ent.lvlRes then [OC.prim cfg.levelKey (subOrStr ent.lvlRes (Level.stringOf ent.level))] else []) =
      ⟨levelBlock P c sp e b, n⟩ := by
    intro b
    rw [levelBlock, L.lvlNil, L.levelKey, L.lvlStr]
    exact runO_subOr sp b n _ _ _ _ _ _ L.lvlSub
  have time : ∀ b, runO sp ⟨b, n⟩
      (match ent.time with
       | some t => if !cfg.timeKey.isEmpty then [OC.prim cfg.timeKey (subOrNanos t.res t.nanos)] else []
       | none => []) = ⟨timeBlock P c sp e b, n⟩ := by
    intro b
    rw [timeBlock, L.timeZero, L.timeKey]
    cases ht : ent.time with
    | none => simp [runO]
    | some t => rw [L.timeSub t ht, runO_guard]; cases cfg.timeKey.isEmpty <;> rfl
  have name : ∀ b, runO sp ⟨b, n⟩
      (if !ent.name.isEmpty && !cfg.nameKey.isEmpty then [OC.prim cfg.nameKey (subOrStr ent.nameRes ent.name)] else []) =
      ⟨nameBlock P c sp e b, n⟩ := by
    intro b
    rw [nameBlock, L.nameKey]
    have h := runO_subOr sp b n ent.name.isEmpty cfg.nameKey.isEmpty cfg.nameKey _ _ ent.name L.nameSub
    rw [← L.name] at h ⊢
    exact h
  have caller : ∀ b, runO sp ⟨b, n⟩
      (if ent.callerDefined then
         (if !cfg.callerKey.isEmpty && !isNil ent.callerRes then [OC.prim cfg.callerKey (subOrStr ent.callerRes ent.callerStr)] else []) ++
         (if !cfg.functionKey.isEmpty then [strPrim cfg.functionKey ent.function] else [])
       else []) = ⟨callerBlock P c sp e b, n⟩ := by
    intro b
    rw [callerBlock, L.defined, L.callerNil, L.callerKey, L.functionKey, L.function, L.callerStr]
    cases ent.callerDefined
    · simp [runO]
    · simp only [if_true, runO_append, Bool.not_true, Bool.false_eq_true, if_false]
      rw [runO_subOr sp b n _ _ _ _ _ _ L.callerSub, runO_str]
  have message : ∀ b, runO sp ⟨b, n⟩ (if !cfg.messageKey.isEmpty then [strPrim cfg.messageKey ent.message] else []) =
      ⟨messageBlock c sp e b, n⟩ := by
    intro b
    rw [messageBlock, L.messageKey, L.message, runO_str]
  unfold metaCalls metaBytes
  simp only [runO_append]
  rw [level]
  -- the `match` on the time is rewritten only after the time is known (its motive does not abstract otherwise)
  have h2 := time (levelBlock P c sp e [123])
  cases ht : ent.time <;> rw [ht] at h2 <;> simp only [] at h2 ⊢ <;> rw [h2, name, caller, message]

/-- **entryBytes_is_encodeEntry**: the line the interpreted `EncodeEntry` returns is the model's `encodeEntry` over the
    metadata calls, the context encoder `⟨obuf, ons⟩`, the fields' calls and the stack call -/
theorem entryBytes_is_encodeEntry (P : Par) (c : ECfg) (e : EEnt) (cfg : Cfg) (ent : Ent) (L : EntryLink P c e cfg ent)
    (sp : Bool) (ons : Nat) (obuf : Bytes) (fields : Val) (calls : List OC)
    (hf : ∀ b : Bytes, (P.addFields fields sp ⟨b, ons, [], []⟩).buf = (runO sp ⟨b, ons⟩ calls).buf ∧
      (P.addFields fields sp ⟨b, ons, [], []⟩).ns = ((runO sp ⟨b, ons⟩ calls).openNs : Int)) :
    entryBytes P c sp ons obuf e fields =
      encodeEntry sp (metaCalls cfg ent) ⟨obuf, ons⟩ calls (stackCalls cfg ent) c.lineEnding := by
  unfold entryBytes afterFields encodeEntry
  simp only [metaBytes_eq P c e cfg ent L sp ons]
  have hctx : (if (⟨obuf, ons⟩ : Enc).buf.isEmpty then (⟨metaBytes P c sp e, ons⟩ : Enc)
      else ⟨sep sp (⟨metaBytes P c sp e, ons⟩ : Enc).buf ++ (⟨obuf, ons⟩ : Enc).buf, (⟨metaBytes P c sp e, ons⟩ : Enc).openNs⟩) =
      ⟨ctxBlock sp obuf (metaBytes P c sp e), ons⟩ := by
    unfold ctxBlock; cases obuf <;> simp
  rw [hctx]
  obtain ⟨h1, h2⟩ := hf (ctxBlock sp obuf (metaBytes P c sp e))
  rw [h1, h2]
  unfold stackBlock stackCalls closeNs
  rw [L.stack, L.stacktraceKey, ← Bool.not_or, runO_str]
  simp

end ZapVerif.TransJsonEnc
