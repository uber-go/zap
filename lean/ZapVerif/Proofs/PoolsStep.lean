import ZapVerif.Proofs.PoolsHist
/-! C08: every operation of a history preserves the invariant (`Inv`) and agrees with the pool-free run (`Rel`). -/
namespace ZapVerif.Pools
open ZapVerif ZapVerif.Json ZapVerif.Enc ZapVerif.Entry

theorem owns_drop {h : H} {l1 l2 : List Nat} (ho : Owns h (l1 ++ l2)) : Owns h l2 :=
  Fresh.sublist ho ((List.sublist_append_right l1 l2).append_left _) (Nat.le_refl _)

theorem split_at {α} : ∀ (l : List α) (i : Nat) (b : α), l[i]? = some b →
    ∃ l1 l2, l = l1 ++ b :: l2 ∧ l.eraseIdx i = l1 ++ l2
  | [], i, b, h => by simp at h
  | x :: r, 0, b, h => by
    simp at h; subst h; exact ⟨[], r, rfl, rfl⟩
  | x :: r, i + 1, b, h => by
    obtain ⟨l1, l2, e1, e2⟩ := split_at r i b (by simpa using h)
    exact ⟨x :: l1, l2, by simp [e1], by simp [e2]⟩

theorem map_eraseIdx' {α β} (f : α → β) : ∀ (l : List α) (i : Nat), (l.eraseIdx i).map f = (l.map f).eraseIdx i
  | [], _ => by simp
  | _ :: _, 0 => by simp
  | x :: r, i + 1 => by simp [map_eraseIdx' f r i]

theorem growLen_spec : ∀ (fuel len a : Nat), 1 ≤ len → a < len + fuel →
    ∃ L, growLen (fuel + 1) len a = some L ∧ a < L
  | 0, len, a, _, h => ⟨len, by rw [growLen, if_pos (show a < len from h)], h⟩
  | fuel + 1, len, a, h1, h => by
    rw [growLen]
    by_cases hc : a < len
    · exact ⟨len, if_pos hc, hc⟩
    · rw [if_neg hc]
      exact growLen_spec fuel (2 * len) a (Nat.le_trans h1 (Nat.le_mul_of_pos_left len (by decide))) (by omega)

theorem take_min_one (avail : List Nat) : avail.take (min avail.length 1) = avail.take 1 := by
  cases avail with
  | nil => simp
  | cons x r => simp

theorem callers_length (avail pcs : List Nat) : (callers avail pcs).1.length = pcs.length := by
  simp only [callers, List.length_append, List.length_take, List.length_drop]
  rw [Nat.min_eq_left (Nat.min_le_left ..), Nat.add_sub_cancel' (Nat.min_le_right ..)]

/-- `pcs[:n]` after `n := runtime.Callers(skip, pcs)`: the first `len(pcs)` frames of the stack -/
theorem callers_frames (avail pcs : List Nat) :
    (callers avail pcs).1.take (callers avail pcs).2 = avail.take pcs.length := by
  simp only [callers]
  rw [List.take_append_of_le_length (by rw [List.length_take, Nat.min_eq_left (Nat.min_le_left ..)]; exact Nat.le_refl _),
    List.take_take, Nat.min_self, Nat.min_comm, ← List.take_eq_take_min]

theorem captureFrom_spec (g : StackObj) (avail : List Nat) (full : Bool) (hg : g.PutInv) :
    (captureFrom g avail full).2 = false ∧
    (captureFrom g avail full).1.frames = some (if full then avail else avail.take 1) ∧
    1 ≤ (captureFrom g avail full).1.storage.length := by
  unfold StackObj.PutInv at hg
  unfold captureFrom
  rw [if_neg (Nat.ne_of_gt hg)]
  cases full with
  | false =>
    have hl : (g.storage.take 1).length = 1 := by rw [List.length_take, Nat.min_eq_left hg]
    simp only [Bool.false_eq_true, if_false, callers_frames, List.length_append, callers_length, hl]
    exact ⟨trivial, trivial, Nat.le_add_right ..⟩
  | true =>
    simp only [if_true]
    split
    · -- the storage was filled: grow until the stack fits with room to spare
      have h2 : 0 < 2 * g.storage.length := Nat.mul_pos (by decide) hg
      obtain ⟨L, e, hl⟩ := growLen_spec avail.length (2 * g.storage.length) avail.length h2 (Nat.lt_add_of_pos_left h2)
      simp only [e, callers_frames, callers_length, List.length_replicate]
      exact ⟨trivial, by rw [List.take_of_length_le (Nat.le_of_lt hl)], Nat.lt_of_le_of_lt (Nat.zero_le _) hl⟩
    · next hc =>
      have : avail.length ≤ g.storage.length := Nat.le_of_not_le fun h => hc (Nat.min_eq_right h)
      simp only [callers_frames, callers_length]
      exact ⟨trivial, by rw [List.take_of_length_le this], hg⟩

theorem real_free : Code.real.freeAfterSink = true := rfl

def StepOK (orc : Orc) (h : H) (ps : PS) (op : Op) : Prop :=
  Inv (step Code.real orc h op) ∧ Rel (step Code.real orc h op) (pstep ps op)

/-- the CheckedEntry part of `Inv` -/
def CEOK (e : CEHeap) : Prop := Fresh e.pool e.inHook e.next

/-- what the running hooks will read -/
def ceView (e : CEHeap) : List (Nat × Option Nat) := e.inHook.map fun id => ((e.mem id).ent, (e.mem id).after)

theorem ce_congr {e e' : CEHeap} (he : e' = e) (hi : CEOK e) : CEOK e' := he ▸ hi
theorem view_congr {e e' : CEHeap} {v : List (Nat × Option Nat)} (he : e' = e) (hv : ceView e = v) : ceView e' = v := he ▸ hv

theorem map_frame {h h' : H} {l : List Nat} (hf : ∀ i ∈ l, h'.mem i = h.mem i) : l.map h'.mem = l.map h.mem :=
  List.map_congr_left hf

theorem Inv.pooled {h : H} (hi : Inv h) : Pooled h (h.inflight ++ h.live) := ⟨hi.json, hi.slice, hi.owns, hi.nofault⟩

theorem pooled_ok {h h' : H} {ps : PS} (hi : Inv h) (hr : Rel h ps) (hp : Pooled h' (h.inflight ++ h.live)) (q : Quiet h h')
    (fr : ∀ i ∈ h.inflight ++ h.live, h'.mem i = h.mem i) : Inv h' ∧ Rel h' ps := by
  obtain ⟨r1, r2, r3, r4, r5⟩ := hr
  refine ⟨⟨hp.json, hp.slice, q.stackPool ▸ hi.stack, ce_congr q.ceh hi.ce, fun _ _ => trivial, fun _ _ => trivial, ?_,
    hp.nofault⟩, ?_, ?_, q.out.trans r3, view_congr q.ceh r4, q.liveMeta.trans r5⟩
  · rw [q.inflight, q.live]; exact hp.owns
  · rw [q.inflight, map_frame fun i hi' => fr i (List.mem_append_left _ hi'), r1]
  · rw [q.live, map_frame fun i hi' => fr i (List.mem_append_right _ hi'), r2]

theorem enc_ok {h h' : H} {ps : PS} {b : Nat} (hi : Inv h) (hr : Rel h ps) (hp : Pooled h' (b :: (h.inflight ++ h.live)))
    (q : Quiet h h') (fr : ∀ i ∈ h.inflight ++ h.live, h'.mem i = h.mem i) :
    Inv { h' with inflight := b :: h'.inflight } ∧
    Rel { h' with inflight := b :: h'.inflight } { ps with inflight := h'.mem b :: ps.inflight } := by
  obtain ⟨i', r'⟩ := pooled_ok hi hr ⟨hp.json, hp.slice, owns_drop (l1 := [b]) hp.owns, hp.nofault⟩ q fr
  refine ⟨⟨i'.json, i'.slice, i'.stack, i'.ce, i'.errCore, i'.errZap, ?_, i'.nofault⟩, congrArg _ r'.1, r'.2⟩
  show Owns h' (b :: h'.inflight ++ h'.live)
  rw [q.inflight, q.live]; exact hp.owns

theorem step_encJson (orc : Orc) (h : H) (ps : PS) (p : Parent) (j : Job) (hi : Inv h) (hr : Rel h ps) :
    Inv (stepEncJson Code.real orc h p j) ∧
    Rel (stepEncJson Code.real orc h p j) { ps with inflight := pureJson p j :: ps.inflight } := by
  obtain ⟨b, hs0, run⟩ := clone_run orc h p (h.inflight ++ h.live) hi.pooled
  obtain ⟨e, mb⟩ := encodeBody_spec orc p j hs0
  obtain ⟨hb, p7, q7, fr⟩ := run _ e
  obtain ⟨p8, q8, mem8⟩ := pooled_putJson p7
  simp only [stepEncJson, encodeJson, real_free, if_true, hb, Option.getD_some]
  rw [← mb, ← mem8]
  exact enc_ok hi hr p8 (q7.trans q8) fun i hi' => (congrFun mem8 i).trans (fr i hi')

theorem step_withClone (orc : Orc) (h : H) (ps : PS) (p : Parent) (fields : List RO) (hi : Inv h) (hr : Rel h ps) :
    Inv (stepWith Code.real orc h p fields) ∧ Rel (stepWith Code.real orc h p fields) (pstepWith ps p fields) := by
  obtain ⟨b, hs0, run⟩ := clone_run orc h p (h.inflight ++ h.live) hi.pooled
  obtain ⟨e, mb, nb⟩ := cloneBody_spec orc p fields hs0
  obtain ⟨hb, p7, q7, fr⟩ := run _ e
  simp only [stepWith, pstepWith, hb, Option.getD_some]
  generalize cloneBody orc (cfgCheck (clone Code.real orc h p) p) p fields = sF at *
  -- the clone's buffer joins the live ones; a reflection buffer it may hold is simply never freed
  have o8 : Owns sF.h (h.inflight ++ b :: h.live) :=
    Fresh.perm (owns_drop p7.owns) (List.Perm.append_left _ List.perm_middle) (Nat.le_refl _)
  obtain ⟨i', r1, r2, r3, r4, r5⟩ := pooled_ok hi hr ⟨p7.json, p7.slice, owns_drop (l1 := [b]) (owns_drop p7.owns), p7.nofault⟩ q7 fr
  refine ⟨⟨i'.json, i'.slice, i'.stack, i'.ce, i'.errCore, i'.errZap, ?_, i'.nofault⟩, r1, ?_, ?_, r4, ?_⟩
  · show Owns sF.h (sF.h.inflight ++ b :: sF.h.live)
    rw [q7.inflight, q7.live]; exact o8
  · show sF.h.mem b :: List.map sF.h.mem sF.h.live = _
    rw [mb, r2]
  · show Out.ctx (sF.h.mem b) sF.o.openNs :: sF.h.out = _
    rw [mb, nb, r3]
  · show (⟨p.cfg, p.spaced, sF.o.openNs⟩ : LiveMeta) :: sF.h.liveMeta = _
    rw [nb, r5]

theorem step_deliver (orc : Orc) (h : H) (ps : PS) (i : Nat) (hi : Inv h) (hr : Rel h ps) :
    StepOK orc h ps (.deliver i) := by
  obtain ⟨r1, r2, r3, r4, r5⟩ := hr
  unfold StepOK step pstep
  simp only [real_free, if_true]
  have hmap : ps.inflight[i]? = (h.inflight[i]?).map h.mem := r1 ▸ List.getElem?_map
  cases hb : h.inflight[i]? with
  | none => simp only [hmap, hb, Option.map_none]; exact ⟨hi, r1, r2, r3, r4, r5⟩
  | some b =>
    simp only [hmap, hb, Option.map_some]
    obtain ⟨l1, l2, e1, e2⟩ := split_at h.inflight i b hb
    constructor
    · refine ⟨hi.json, hi.slice, hi.stack, hi.ce, fun _ _ => trivial, fun _ _ => trivial, ?_, hi.nofault⟩
      have o := hi.owns
      rw [e1, List.append_assoc, List.cons_append] at o
      show Owns (bufFree _ b) (h.inflight.eraseIdx i ++ h.live)
      rw [e2, List.append_assoc]
      exact Fresh.put o
    · refine ⟨?_, r2, congrArg _ r3, r4, r5⟩
      show List.map h.mem (h.inflight.eraseIdx i) = ps.inflight.eraseIdx i
      rw [← r1, map_eraseIdx']

theorem out_ok {h : H} {ps : PS} (o : Out) (hi : Inv h) (hr : Rel h ps) :
    Inv { h with out := o :: h.out } ∧ Rel { h with out := o :: h.out } { ps with out := o :: ps.out } :=
  ⟨⟨hi.json, hi.slice, hi.stack, hi.ce, hi.errCore, hi.errZap, hi.owns, hi.nofault⟩, hr.1, hr.2.1, congrArg _ hr.2.2.1,
    hr.2.2.2⟩

theorem step_peek (orc : Orc) (h : H) (ps : PS) (i : Nat) (hi : Inv h) (hr : Rel h ps) :
    StepOK orc h ps (.peek i) := by
  unfold StepOK step pstep
  simp only []
  have hmap : ps.live[i]? = (h.live[i]?).map h.mem := hr.2.1 ▸ List.getElem?_map
  cases hb : h.live[i]? with
  | none => simp only [hmap, hb, Option.map_none]; exact ⟨hi, hr⟩
  | some b => simp only [hmap, hb, Option.map_some]; exact out_ok _ hi hr

theorem updCE_same (m : Nat → CEObj) (i : Nat) (v : CEObj) : updCE m i v i = v := by simp [updCE]
theorem updCE_other (m : Nat → CEObj) (i j : Nat) (v : CEObj) (h : j ≠ i) : updCE m i v j = m j := by simp [updCE, h]

theorem cePick_spec (pick : Option Nat) (e : CEHeap) (hk : CEOK e) :
    Fresh (cePick pick e).2.pool ((cePick pick e).1 :: e.inHook) (cePick pick e).2.next ∧
    (cePick pick e).2.inHook = e.inHook ∧ ∀ x ∈ e.inHook, (cePick pick e).2.mem x = e.mem x := by
  have fresh : Fresh e.pool (e.next :: e.inHook) (e.next + 1) ∧
      ∀ x ∈ e.inHook, updCE e.mem e.next CEObj.fresh x = e.mem x :=
    ⟨hk.alloc, fun x hx => updCE_other _ _ _ _ (Nat.ne_of_lt (hk.2 x (List.mem_append.2 (Or.inr hx))))⟩
  unfold cePick
  cases pick with
  | none => exact ⟨fresh.1, rfl, fresh.2⟩
  | some i =>
    cases hi : e.pool[i]? with
    | none => simp only [hi]; exact ⟨fresh.1, trivial, fresh.2⟩
    | some id => simp only [hi]; exact ⟨hk.take (List.mem_of_getElem? hi), trivial, fun _ _ => trivial⟩

/-- `getCheckedEntry` -/
theorem ceTake_spec (pick : Option Nat) (e : CEHeap) (hk : CEOK e) :
    Fresh (ceTake Code.real pick e).2.pool ((ceTake Code.real pick e).1 :: e.inHook) (ceTake Code.real pick e).2.next ∧
    (ceTake Code.real pick e).2.inHook = e.inHook ∧
    (∀ x ∈ e.inHook, (ceTake Code.real pick e).2.mem x = e.mem x) ∧
    (ceTake Code.real pick e).2.mem (ceTake Code.real pick e).1 = ⟨0, none, false, none, []⟩ := by
  obtain ⟨a1, a2, a3⟩ := cePick_spec pick e hk
  unfold ceTake ceResetAt
  generalize cePick pick e = r at *
  have hid : r.1 ∉ e.inHook := (List.nodup_cons.1 (fresh_iff.1 a1).2.1).1
  exact ⟨a1, a2, fun x hx => (updCE_other _ _ _ _ (fun h : x = r.1 => hid (h ▸ hx))).trans (a3 x hx), updCE_same _ _ _⟩

theorem view_frame {e e' : CEHeap} (hin : e'.inHook = e.inHook) (hm : ∀ x ∈ e.inHook, e'.mem x = e.mem x) :
    ceView e' = ceView e := by
  unfold ceView; rw [hin]
  exact List.map_congr_left fun x hx => by rw [hm x hx]

theorem ceCheck_spec (pick : Option Nat) (e : CEHeap) (ent : Nat) (cores : List Nat) (after errOut : Option Nat) (write : Bool)
    (hk : CEOK e) :
    CEOK (ceCheck Code.real pick e ent cores after errOut write).1 ∧
    (ceCheck Code.real pick e ent cores after errOut write).2 =
      (if write then some (Out.ce ent (cores.map some) after errOut false) else none) ∧
    ceView (ceCheck Code.real pick e ent cores after errOut write).1 =
      (match write, after with
       | true, some a => (ent, some a) :: ceView e
       | _, _ => ceView e) := by
  obtain ⟨t1, t4, t6, t7⟩ := ceTake_spec pick e hk
  unfold ceCheck
  simp only []
  generalize ceTake Code.real pick e = g at *
  have hid : g.1 ∉ e.inHook := (List.nodup_cons.1 (fresh_iff.1 t1).2.1).1
  have frame : ∀ v : CEObj, ∀ x ∈ e.inHook, updCE g.2.mem g.1 v x = e.mem x := fun v x hx =>
    (updCE_other _ _ _ _ (fun h : x = g.1 => hid (h ▸ hx))).trans (t6 x hx)
  cases write with
  | false =>
    -- the entry is dropped: it is in no pool and no hook holds it
    refine ⟨t4 ▸ t1.sublist ((List.sublist_cons_self _ _).append_left _) (Nat.le_refl _), rfl, ?_⟩
    cases after <;> exact view_frame t4 (frame _)
  | true =>
    simp only [if_true, t7]
    cases after with
    | none => exact ⟨t4 ▸ Fresh.put (l1 := []) t1, by cases errOut <;> rfl, view_frame t4 (frame _)⟩
    | some a =>
      refine ⟨t4 ▸ t1, by cases errOut <;> rfl, ?_⟩
      simp only [ceView, Code.real, if_true, List.map_cons, updCE_same, t4]
      exact congrArg _ (List.map_congr_left fun x hx => by rw [frame _ x hx])

theorem ceHookReturn_spec (e : CEHeap) (i : Nat) (hk : CEOK e) :
    CEOK (ceHookReturn Code.real e i).1 ∧
    (ceHookReturn Code.real e i).2 = ((ceView e)[i]?).map (fun v => Out.hook v.1 v.2) ∧
    ceView (ceHookReturn Code.real e i).1 = (ceView e).eraseIdx i := by
  unfold ceHookReturn
  have hv : (ceView e)[i]? = (e.inHook[i]?).map fun id => ((e.mem id).ent, (e.mem id).after) := List.getElem?_map ..
  rw [hv]
  cases hb : e.inHook[i]? with
  | none =>
    exact ⟨hk, rfl, (List.eraseIdx_of_length_le (by simpa [ceView] using hb)).symm⟩
  | some id =>
    obtain ⟨l1, l2, e1, e2⟩ := split_at e.inHook i id hb
    refine ⟨?_, rfl, (map_eraseIdx' _ _ _).symm ▸ rfl⟩
    show Fresh (id :: e.pool) (e.inHook.eraseIdx i) e.next
    rw [e2]
    exact Fresh.put (e1 ▸ hk)

theorem ce_ok {h : H} {ps : PS} (hi : Inv h) (hr : Rel h ps) (e' : CEHeap) (t : Nat) (o : Option Out) (c1 : CEOK e') :
    Inv { h with ceh := e', tick := t, out := pushOut o h.out } ∧
    Rel { h with ceh := e', tick := t, out := pushOut o h.out } { ps with inHook := ceView e', out := pushOut o ps.out } :=
  ⟨⟨hi.json, hi.slice, hi.stack, c1, hi.errCore, hi.errZap, hi.owns, hi.nofault⟩, hr.1, hr.2.1, congrArg (pushOut o) hr.2.2.1, rfl,
    hr.2.2.2.2⟩

theorem step_check (orc : Orc) (h : H) (ps : PS) (ent : Nat) (cores : List Nat) (after errOut : Option Nat) (write : Bool)
    (hi : Inv h) (hr : Rel h ps) : StepOK orc h ps (.check ent cores after errOut write) := by
  obtain ⟨c1, c2, c3⟩ := ceCheck_spec (orc h.tick) h.ceh ent cores after errOut write hi.ce
  have := ce_ok hi hr _ (h.tick + 1) (ceCheck Code.real (orc h.tick) h.ceh ent cores after errOut write).2 c1
  have r4 : ceView h.ceh = ps.inHook := hr.2.2.2.1
  rw [c3, c2, r4] at this
  unfold StepOK step pstep
  simp only [checkWrite, c2]
  cases write <;> cases after <;> exact this

theorem step_hookReturn (orc : Orc) (h : H) (ps : PS) (i : Nat) (hi : Inv h) (hr : Rel h ps) :
    StepOK orc h ps (.hookReturn i) := by
  obtain ⟨c1, c2, c3⟩ := ceHookReturn_spec h.ceh i hi.ce
  have := ce_ok hi hr _ h.tick (ceHookReturn Code.real h.ceh i).2 c1
  have r4 : ceView h.ceh = ps.inHook := hr.2.2.2.1
  rw [c3, c2, r4] at this
  unfold StepOK step pstep
  simp only [hookReturn, c2, r4]
  cases hv : ps.inHook[i]? with
  | none => simp only [hv, Option.map_none] at this ⊢; rwa [List.eraseIdx_of_length_le (List.getElem?_eq_none_iff.mp hv)] at this
  | some v => simp only [hv, Option.map_some] at this ⊢; exact this

theorem step_errElem (orc : Orc) (h : H) (ps : PS) (z : Bool) (e : Nat) (hi : Inv h) (hr : Rel h ps) :
    StepOK orc h ps (.errElem z e) := by
  obtain ⟨r1, r2, r3, r4, r5⟩ := hr
  unfold StepOK step pstep
  simp only [errElem]
  cases z with
  | false =>
    simp only [Bool.false_eq_true, if_false]
    exact ⟨⟨hi.json, hi.slice, hi.stack, hi.ce, fun _ _ => trivial, hi.errZap, hi.owns, hi.nofault⟩, r1, r2, by simp [r3], r4, r5⟩
  | true =>
    simp only [if_true]
    exact ⟨⟨hi.json, hi.slice, hi.stack, hi.ce, hi.errCore, fun _ _ => trivial, hi.owns, hi.nofault⟩, r1, r2, by simp [r3], r4, r5⟩

theorem step_capture (orc : Orc) (h : H) (ps : PS) (avail : List Nat) (full : Bool) (hi : Inv h) (hr : Rel h ps) :
    StepOK orc h ps (.capture avail full) := by
  obtain ⟨r1, r2, r3, r4, r5⟩ := hr
  have hg := takeAt_fst StackObj.fresh h.stackPool (orc h.tick)
  have hg2 := takeAt_snd StackObj.fresh h.stackPool (orc h.tick)
  have hinv : (takeAt StackObj.fresh h.stackPool (orc h.tick)).1.PutInv := by
    rcases hg with e | e
    · rw [e]; simp [StackObj.PutInv, StackObj.fresh]
    · exact hi.stack _ e
  obtain ⟨c1, c2, c3⟩ := captureFrom_spec _ avail full hinv
  unfold StepOK step pstep
  simp only [capture]
  generalize takeAt StackObj.fresh h.stackPool (orc h.tick) = g at *
  generalize captureFrom g.1 avail full = r at *
  refine ⟨⟨hi.json, hi.slice, ?_, hi.ce, hi.errCore, hi.errZap, hi.owns, by simp [hi.nofault, c1]⟩, r1, r2, by simp [c2, r3], r4, r5⟩
  intro st hst
  simp only [List.mem_cons] at hst
  rcases hst with rfl | hst
  · exact c3
  · exact hi.stack _ (hg2 _ hst)

theorem step_scratch (orc : Orc) (h : H) (ps : PS) (s : Bytes) (hi : Inv h) (hr : Rel h ps) :
    StepOK orc h ps (.scratch s) := by
  obtain ⟨p1, q, em, fr⟩ := pooled_bufGet orc hi.pooled
  have hbo : (bufGet orc h).1 ∉ h.inflight ++ h.live := (List.nodup_cons.1 (owns_iff.1 p1.owns).2.1).1
  unfold StepOK step pstep
  simp only [setMem, upd_same, em, List.nil_append]
  generalize (bufGet orc h).1 = b at *
  generalize (bufGet orc h).2 = h1 at *
  obtain ⟨i', r'⟩ := pooled_ok (h' := bufFree { h1 with mem := upd h1.mem b s } b) hi hr
    ⟨p1.json, p1.slice, Fresh.put (l1 := []) p1.owns, p1.nofault⟩ q
    fun i hi' => (upd_other _ _ _ _ (fun e : i = b => hbo (e ▸ hi'))).trans (fr i hi')
  exact out_ok (Out.line s) i' r'

theorem step_gc (orc : Orc) (h : H) (ps : PS) (k : Nat → Bool) (hi : Inv h) (hr : Rel h ps) :
    StepOK orc h ps (.gc k) := by
  unfold StepOK step pstep
  simp only []
  refine ⟨⟨fun o ho => hi.json o ((keepIdx_sublist k 0 _).subset ho), fun o ho => hi.slice o ((keepIdx_sublist k 0 _).subset ho),
    fun o ho => hi.stack o ((keepIdx_sublist k 0 _).subset ho), ?_, fun _ _ => trivial, fun _ _ => trivial,
    Fresh.sublist hi.owns ((keepIdx_sublist k 0 _).append_right _) (Nat.le_refl _), hi.nofault⟩, hr⟩
  exact Fresh.sublist hi.ce ((keepIdx_sublist k 0 _).append_right _) (Nat.le_refl _)

/-- the line after the columns and the message -/
def headLine (j : CJob) : Bytes :=
  match j.msg with
  | some m => Console.sepIf j.sepc (Console.joinSep j.sepc j.cols) ++ m
  | none => Console.joinSep j.sepc j.cols

theorem consoleHead_spec (orc : Orc) (h : H) (j : CJob) (owned : List Nat) (hp : Pooled h owned) :
    Pooled (consoleHead Code.real orc h j).2 ((consoleHead Code.real orc h j).1 :: owned) ∧
    Quiet h (consoleHead Code.real orc h j).2 ∧
    (consoleHead Code.real orc h j).2.mem (consoleHead Code.real orc h j).1 = headLine j ∧
    ∀ i ∈ owned, (consoleHead Code.real orc h j).2.mem i = h.mem i := by
  obtain ⟨p1, q, -, fr⟩ := pooled_bufGet orc hp
  have hbo : (bufGet orc h).1 ∉ owned := (List.nodup_cons.1 (owns_iff.1 p1.owns).2.1).1
  have hg := takeAt_fst SliceObj.fresh (bufGet orc h).2.slicePool (orc (bufGet orc h).2.tick)
  have hg2 := takeAt_snd SliceObj.fresh (bufGet orc h).2.slicePool (orc (bufGet orc h).2.tick)
  unfold consoleHead headLine
  simp only [sliceGet, slicePut, setMem, columnsFrom, Code.real, if_true]
  generalize (bufGet orc h).1 = line at *
  generalize (bufGet orc h).2 = h1 at *
  generalize takeAt SliceObj.fresh h1.slicePool (orc h1.tick) = g at *
  have hel : g.1.elems = [] := hg.elim (fun e => e ▸ rfl) (p1.slice _)
  have frame : ∀ (v : Bytes) (m : Nat → Bytes), (∀ i ∈ owned, m i = h.mem i) → ∀ i ∈ owned, upd m line v i = h.mem i :=
    fun v m hm i hi' => (upd_other _ _ _ _ (fun e : i = line => hbo (e ▸ hi'))).trans (hm i hi')
  have hsl : ∀ a ∈ ({ elems := [] } : SliceObj) :: g.2, a.PutInv := fun a ha =>
    (List.mem_cons.1 ha).elim (fun e => e ▸ rfl) fun ha => p1.slice a (hg2 a ha)
  cases hm : j.msg with
  | none =>
    simp only [hel, List.nil_append, upd_same]
    exact ⟨⟨p1.json, hsl, p1.owns, p1.nofault⟩, q, trivial, frame _ _ fr⟩
  | some m =>
    simp only [hel, List.nil_append, upd_same]
    exact ⟨⟨p1.json, hsl, p1.owns, p1.nofault⟩, q, trivial, frame _ _ (frame _ _ fr)⟩

/-- the context object's members with the namespaces it owes closed -/
def ctxBytes (p : Parent) (j : CJob) : Bytes :=
  (pureCtx p j.fields).buf ++ List.replicate (pureCtx p j.fields).openNs 125

/-- the deferred `context.buf.Free(); putJSONEncoder(context)` of `writeContext` -/
theorem ctxDefer {h h4 : H} {o : JsonObj} {b : Nat} {owned : List Nat} (q : Quiet h h4)
    (hp : Pooled h4 (o.reflectBuf.toList ++ b :: owned)) :
    Pooled (putJson Code.real (bufFree h4 b) o) owned ∧ Quiet h (putJson Code.real (bufFree h4 b) o) ∧
    (putJson Code.real (bufFree h4 b) o).mem = h4.mem := by
  obtain ⟨p8, q8, m8⟩ := pooled_putJson (h := bufFree h4 b) ⟨hp.json, hp.slice, owns_bufFree h4 b _ _ hp.owns, hp.nofault⟩
  exact ⟨p8, q.trans q8, m8⟩

theorem consoleCtx_spec (orc : Orc) (h : H) (line : Nat) (p : Parent) (j : CJob) (owned : List Nat)
    (hp : Pooled h (line :: owned)) :
    Pooled (consoleCtx Code.real orc h line p j) (line :: owned) ∧ Quiet h (consoleCtx Code.real orc h line p j) ∧
    (consoleCtx Code.real orc h line p j).mem line =
      (if (ctxBytes p j).isEmpty then h.mem line
       else Console.sepIf j.sepc (h.mem line) ++ 123 :: (ctxBytes p j ++ [125])) ∧
    ∀ i ∈ owned, (consoleCtx Code.real orc h line p j).mem i = h.mem i := by
  obtain ⟨b, hs0, run⟩ := clone_run orc h p (line :: owned) hp
  obtain ⟨e2, hcb, -⟩ := (cloneBody_spec orc p j.fields hs0).andThen hs0 closeNs_ok
  obtain ⟨hb, p7, q7, fr⟩ := run _ e2
  change _ = ctxBytes p j at hcb
  have hlo : line ∉ owned := (List.nodup_cons.1 (owns_iff.1 hp.owns).2.1).1
  unfold consoleCtx
  simp only [hb, Option.getD_some, hcb]
  generalize closeNs (cloneBody orc (cfgCheck (clone Code.real orc h p) p) p j.fields) = s2 at *
  split
  · obtain ⟨p8, q8, m8⟩ := ctxDefer q7 p7
    exact ⟨p8, q8, m8 ▸ fr line (List.mem_cons_self ..), fun i hi' => m8 ▸ fr i (List.mem_cons_of_mem _ hi')⟩
  · -- the copy into the line changes memory at `line` only
    obtain ⟨p8, q8, m8⟩ := ctxDefer (h4 := setMem s2.h line _) q7 ⟨p7.json, p7.slice, p7.owns, p7.nofault⟩
    refine ⟨p8, q8, ?_, fun i hi' => ?_⟩
    · rw [m8, ← fr line (List.mem_cons_self ..)]; exact upd_same _ _ _
    · rw [m8, ← fr i (List.mem_cons_of_mem _ hi')]
      exact upd_other _ _ _ _ fun e : i = line => hlo (e ▸ hi')

theorem consoleCtxPanic_spec (orc : Orc) (h : H) (p : Parent) (fields : List RO) (owned : List Nat) (hp : Pooled h owned) :
    Pooled (consoleCtxPanic Code.real orc h p fields) owned ∧ Quiet h (consoleCtxPanic Code.real orc h p fields) ∧
    ∀ i ∈ owned, (consoleCtxPanic Code.real orc h p fields).mem i = h.mem i := by
  obtain ⟨b, hs0, run⟩ := clone_run orc h p owned hp
  obtain ⟨hb, p7, q7, fr⟩ := run _ (cloneBody_spec orc p fields hs0).1
  unfold consoleCtxPanic
  simp only [hb, Option.getD_some]
  obtain ⟨p8, q8, m8⟩ := ctxDefer q7 p7
  exact ⟨p8, q8, fun i hi' => m8 ▸ fr i hi'⟩

theorem consoleTail_spec (h : H) (line : Nat) (j : CJob) (owned : List Nat) (hp : Pooled h owned) :
    Pooled (consoleTail h line j) owned ∧ Quiet h (consoleTail h line j) ∧
    (consoleTail h line j).mem line = (match j.stack with | some st => h.mem line ++ 10 :: st | none => h.mem line) ++ j.ending ∧
    ∀ i, i ≠ line → (consoleTail h line j).mem i = h.mem i := by
  unfold consoleTail setMem
  cases j.stack with
  | none =>
    exact ⟨⟨hp.json, hp.slice, hp.owns, hp.nofault⟩, rfl, upd_same _ _ _, fun i hi => upd_other _ _ _ _ hi⟩
  | some st =>
    exact ⟨⟨hp.json, hp.slice, hp.owns, hp.nofault⟩, rfl,
      (upd_same _ _ _).trans (congrArg (· ++ j.ending) (upd_same _ _ _)),
      fun i hi => (upd_other _ _ _ _ hi).trans (upd_other _ _ _ _ hi)⟩

theorem pureConsole_eq (p : Parent) (j : CJob) :
    pureConsole p j =
      (match j.stack with
        | some st => (if (ctxBytes p j).isEmpty then headLine j
                      else Console.sepIf j.sepc (headLine j) ++ 123 :: (ctxBytes p j ++ [125])) ++ 10 :: st
        | none => (if (ctxBytes p j).isEmpty then headLine j
                   else Console.sepIf j.sepc (headLine j) ++ 123 :: (ctxBytes p j ++ [125]))) ++ j.ending := by
  unfold pureConsole headLine ctxBytes pureCtx
  cases j.stack <;> cases j.msg <;> rfl

theorem step_encConsole (orc : Orc) (h : H) (ps : PS) (p : Parent) (j : CJob) (hi : Inv h) (hr : Rel h ps) :
    Inv (stepEncConsole Code.real orc h p j) ∧
    Rel (stepEncConsole Code.real orc h p j) { ps with inflight := pureConsole p j :: ps.inflight } := by
  obtain ⟨p3, q3, m3, f3⟩ := consoleHead_spec orc h j (h.inflight ++ h.live) hi.pooled
  generalize hline : (consoleHead Code.real orc h j).1 = line at *
  generalize hh3 : (consoleHead Code.real orc h j).2 = h3 at *
  obtain ⟨p5, q5, m5, f5⟩ := consoleCtx_spec orc h3 line p j (h.inflight ++ h.live) p3
  generalize hh5 : consoleCtx Code.real orc h3 line p j = h5 at *
  obtain ⟨pF, qF, mF, fF⟩ := consoleTail_spec h5 line j _ p5
  generalize hhF : consoleTail h5 line j = hF at *
  have hlo : line ∉ h.inflight ++ h.live := (List.nodup_cons.1 (owns_iff.1 p3.owns).2.1).1
  simp only [stepEncConsole, encodeConsole, real_free, if_true, hline, hh3, hh5, hhF]
  rw [pureConsole_eq, ← m3, ← m5, ← mF]
  exact enc_ok hi hr pF ((q3.trans q5).trans qF) fun i hi' =>
    (fF i fun e : i = line => hlo (e ▸ hi')).trans ((f5 i hi').trans (f3 i hi'))

theorem step_ctxPanic (orc : Orc) (h : H) (ps : PS) (p : Parent) (j : CJob) (hi : Inv h) (hr : Rel h ps) :
    StepOK orc h ps (.ctxPanic p j) := by
  obtain ⟨p3, q3, -, f3⟩ := consoleHead_spec orc h j (h.inflight ++ h.live) hi.pooled
  obtain ⟨p5, q5, f5⟩ := consoleCtxPanic_spec orc _ p j.fields (h.inflight ++ h.live)
    ⟨p3.json, p3.slice, owns_drop (l1 := [_]) p3.owns, p3.nofault⟩
  exact pooled_ok hi hr p5 (q3.trans q5) fun i hi' => (f5 i hi').trans (f3 i hi')

theorem liveAt_map {α β} (f : α → β) (l : List α) (k : Nat) : liveAt (l.map f) k = (liveAt l k).map f := by
  unfold liveAt
  rw [← List.map_reverse, List.getElem?_map]

theorem parent_eq {h : H} {ps : PS} (hr : Rel h ps) (k : Nat) : parentAt h k = pparentAt ps k := by
  obtain ⟨_, r2, _, _, r5⟩ := hr
  unfold parentAt pparentAt
  rw [← r2, ← r5, liveAt_map]
  cases liveAt h.live k <;> cases liveAt h.liveMeta k <;> rfl

theorem real_ctx : Code.real.contextOnClone = true := rfl

theorem step_ok (orc : Orc) (h : H) (ps : PS) (op : Op) (hi : Inv h) (hr : Rel h ps) : StepOK orc h ps op := by
  cases op with
  | encJson p j => exact step_encJson orc h ps p j hi hr
  | encConsole p j => exact step_encConsole orc h ps p j hi hr
  | encJsonAt k j =>
    have := step_encJson orc h ps (parentAt h k) j hi hr
    rw [parent_eq hr k] at this
    unfold StepOK step pstep; simp only []; rw [parent_eq hr k]; exact this
  | encConsoleAt k j =>
    have := step_encConsole orc h ps (parentAt h k) j hi hr
    unfold StepOK step pstep; simp only [real_ctx, Bool.not_true, Bool.false_and, Bool.false_eq_true, if_false]
    rw [parent_eq hr k] at this ⊢; exact this
  | withAt k f =>
    have := step_withClone orc h ps (parentAt h k) f hi hr
    unfold StepOK step pstep; simp only []
    rw [parent_eq hr k] at this ⊢; exact this
  | deliver i => exact step_deliver orc h ps i hi hr
  | withClone p f => exact step_withClone orc h ps p f hi hr
  | peek i => exact step_peek orc h ps i hi hr
  | check e c a eo w => exact step_check orc h ps e c a eo w hi hr
  | hookReturn i => exact step_hookReturn orc h ps i hi hr
  | errElem z e => exact step_errElem orc h ps z e hi hr
  | capture a f => exact step_capture orc h ps a f hi hr
  | scratch s => exact step_scratch orc h ps s hi hr
  | ctxPanic p j => exact step_ctxPanic orc h ps p j hi hr
  | gc k => exact step_gc orc h ps k hi hr

theorem run_ok (orc : Orc) : ∀ (ops : List Op) (h : H) (ps : PS), Inv h → Rel h ps →
    Inv (run Code.real orc h ops) ∧ Rel (run Code.real orc h ops) (prun ps ops)
  | [], _, _, hi, hr => ⟨hi, hr⟩
  | op :: r, h, ps, hi, hr => by
    obtain ⟨i1, r1⟩ := step_ok orc h ps op hi hr
    exact run_ok orc r _ _ i1 r1

theorem inv_empty : Inv H.empty :=
  ⟨by simp [H.empty], by simp [H.empty], by simp [H.empty], by simp [H.empty], by simp [H.empty], by simp [H.empty],
   by simp [H.empty, Owns], rfl⟩

/-- the pool-free state a heap stands for -/
def psOf (h : H) : PS := ⟨h.inflight.map h.mem, h.live.map h.mem, ceView h.ceh, h.out, h.liveMeta⟩

theorem rel_self (h : H) : Rel h (psOf h) := ⟨rfl, rfl, rfl, rfl, rfl⟩

theorem rel_empty : Rel H.empty PS.empty := ⟨rfl, rfl, rfl, rfl, rfl⟩

theorem pstep_inflight (s : PS) (op : Op) : (pstep s op).inflight =
    (match op with
     | .encJson p j => pureJson p j :: s.inflight
     | .encConsole p j => pureConsole p j :: s.inflight
     | .encJsonAt k j => pureJson (pparentAt s k) j :: s.inflight
     | .encConsoleAt k j => pureConsole (pparentAt s k) j :: s.inflight
     | .deliver i => (match s.inflight[i]? with | some _ => s.inflight.eraseIdx i | none => s.inflight)
     | _ => s.inflight) := by
  cases op with
  | deliver i => unfold pstep; simp only []; cases s.inflight[i]? <;> rfl
  | peek i => unfold pstep; simp only []; cases s.live[i]? <;> rfl
  | check e c a eo w => unfold pstep; simp only []; cases w <;> cases a <;> rfl
  | hookReturn i => unfold pstep; simp only []; cases s.inHook[i]? <;> rfl
  | _ => rfl

theorem pstep_inHook (s : PS) (op : Op) : (pstep s op).inHook =
    (match op with
     | .check e _ (some a) _ true => (e, some a) :: s.inHook
     | .hookReturn i => (match s.inHook[i]? with | some _ => s.inHook.eraseIdx i | none => s.inHook)
     | _ => s.inHook) := by
  cases op with
  | deliver i => unfold pstep; simp only []; cases s.inflight[i]? <;> rfl
  | peek i => unfold pstep; simp only []; cases s.live[i]? <;> rfl
  | check e c a eo w => unfold pstep; simp only []; cases w <;> cases a <;> rfl
  | hookReturn i => unfold pstep; simp only []; cases s.inHook[i]? <;> rfl
  | _ => rfl

theorem erase_prefix {α} (pre : List α) (x : α) (rest : List α) (i : Nat) (hi : i < pre.length) :
    (pre ++ x :: rest)[i]? = some pre[i] ∧ (pre ++ x :: rest).eraseIdx i = pre.eraseIdx i ++ x :: rest ∧
    (pre.eraseIdx i).length = pre.length - 1 := by
  refine ⟨by rw [List.getElem?_append_left hi]; simp, List.eraseIdx_append_of_lt_length hi _, ?_⟩
  rw [List.length_eraseIdx]; simp [hi]

theorem prun_nested : ∀ (mid : List Op) (d : Nat) (s : PS) (pre : List Bytes) (x : Bytes) (rest : List Bytes),
    s.inflight = pre ++ x :: rest → pre.length = d → nested d mid = true → (prun s mid).inflight = x :: rest
  | [], d, s, pre, x, rest, hs, hd, hn => by
    obtain rfl : d = 0 := by simpa [nested] using hn
    obtain rfl := List.length_eq_zero_iff.mp hd
    exact hs
  | op :: r, d, s, pre, x, rest, hs, hd, hn => by
    have hi := pstep_inflight s op
    show (prun (pstep s op) r).inflight = x :: rest
    cases op with
    | deliver i =>
      simp only [nested, Bool.and_eq_true, decide_eq_true_eq] at hn
      obtain ⟨e1, e2, e3⟩ := erase_prefix pre x rest i (hd ▸ hn.1)
      exact prun_nested r (d - 1) _ (pre.eraseIdx i) x rest (by rw [hi]; simp only [hs, e1, e2]) (hd ▸ e3) hn.2
    | encJson | encConsole | encJsonAt | encConsoleAt =>
      exact prun_nested r (d + 1) _ (_ :: pre) x rest (by rw [hi, hs]; rfl) (congrArg (· + 1) hd) hn
    | _ => exact prun_nested r d _ pre x rest (by rw [hi, hs]) hd hn

theorem prun_hnested : ∀ (mid : List Op) (d : Nat) (s : PS) (pre : List (Nat × Option Nat)) (v : Nat × Option Nat)
    (rest : List (Nat × Option Nat)),
    s.inHook = pre ++ v :: rest → pre.length = d → hnested d mid = true → (prun s mid).inHook = v :: rest
  | [], d, s, pre, v, rest, hs, hd, hn => by
    obtain rfl : d = 0 := by simpa [hnested] using hn
    obtain rfl := List.length_eq_zero_iff.mp hd
    exact hs
  | op :: r, d, s, pre, v, rest, hs, hd, hn => by
    have hi := pstep_inHook s op
    show (prun (pstep s op) r).inHook = v :: rest
    cases op with
    | check e c a eo w =>
      cases w with
      | false => exact prun_hnested r d _ pre v rest (by rw [hi]; cases a <;> exact hs) hd (by cases a <;> exact hn)
      | true =>
        cases a with
        | none => exact prun_hnested r d _ pre v rest (by rw [hi, hs]) hd hn
        | some a => exact prun_hnested r (d + 1) _ (_ :: pre) v rest (by rw [hi, hs]; rfl) (congrArg (· + 1) hd) hn
    | hookReturn i =>
      simp only [hnested, Bool.and_eq_true, decide_eq_true_eq] at hn
      obtain ⟨e1, e2, e3⟩ := erase_prefix pre v rest i (hd ▸ hn.1)
      exact prun_hnested r (d - 1) _ (pre.eraseIdx i) v rest (by rw [hi]; simp only [hs, e1, e2]) (hd ▸ e3) hn.2
    | _ => exact prun_hnested r d _ pre v rest (by rw [hi, hs]) hd hn

theorem liveAt_append {α} (pre l : List α) (k : Nat) (v : α) (h : liveAt l k = some v) : liveAt (pre ++ l) k = some v := by
  unfold liveAt at *
  rw [List.reverse_append, List.getElem?_append_left ((List.getElem?_eq_some_iff.1 h).1)]
  exact h

theorem liveAt_new {α} (l : List α) (a : α) : liveAt (a :: l) l.length = some a := by
  unfold liveAt
  rw [List.reverse_cons, List.getElem?_append_right (by simp)]
  simp

/-- the pool-free run never changes an existing core's encoder: an operation only puts new encoders in front -/
theorem pstep_live (s : PS) (op : Op) : ∃ l lm, (pstep s op).live = l ++ s.live ∧
    (pstep s op).liveMeta = lm ++ s.liveMeta ∧ l.length = lm.length := by
  have same : ∀ s' : PS, s'.live = s.live → s'.liveMeta = s.liveMeta →
      ∃ l lm, s'.live = l ++ s.live ∧ s'.liveMeta = lm ++ s.liveMeta ∧ l.length = lm.length :=
    fun s' h1 h2 => ⟨[], [], h1, h2, rfl⟩
  cases op with
  | withClone p f => exact ⟨[_], [_], rfl, rfl, rfl⟩
  | withAt k f => exact ⟨[_], [_], rfl, rfl, rfl⟩
  | deliver i => unfold pstep; simp only []; cases s.inflight[i]? <;> exact same _ rfl rfl
  | peek i => unfold pstep; simp only []; cases s.live[i]? <;> exact same _ rfl rfl
  | check e c a eo w => unfold pstep; simp only []; cases w <;> cases a <;> exact same _ rfl rfl
  | hookReturn i => unfold pstep; simp only []; cases s.inHook[i]? <;> exact same _ rfl rfl
  | _ => exact same _ rfl rfl

theorem prun_live : ∀ (ops : List Op) (s : PS), ∃ l lm, (prun s ops).live = l ++ s.live ∧
    (prun s ops).liveMeta = lm ++ s.liveMeta ∧ l.length = lm.length
  | [], _ => ⟨[], [], rfl, rfl, rfl⟩
  | op :: r, s => by
    obtain ⟨l1, m1, a1, b1, c1⟩ := pstep_live s op
    obtain ⟨l2, m2, a2, b2, c2⟩ := prun_live r (pstep s op)
    exact ⟨l2 ++ l1, m2 ++ m1, by rw [List.append_assoc, ← a1]; exact a2, by rw [List.append_assoc, ← b1]; exact b2,
      by rw [List.length_append, List.length_append, c1, c2]⟩

theorem prun_live_stable (ops : List Op) (s : PS) (k : Nat) (b : Bytes) (m : LiveMeta)
    (hb : liveAt s.live k = some b) (hm : liveAt s.liveMeta k = some m) :
    liveAt (prun s ops).live k = some b ∧ liveAt (prun s ops).liveMeta k = some m := by
  obtain ⟨l, lm, a, b', -⟩ := prun_live ops s
  rw [a, b']
  exact ⟨liveAt_append _ _ _ _ hb, liveAt_append _ _ _ _ hm⟩

theorem prun_len (ops : List Op) (s : PS) (h : s.live.length = s.liveMeta.length) :
    (prun s ops).live.length = (prun s ops).liveMeta.length := by
  obtain ⟨l, lm, a, b, c⟩ := prun_live ops s
  rw [a, b, List.length_append, List.length_append, c, h]

theorem prun_append (s : PS) (a b : List Op) : prun s (a ++ b) = prun (prun s a) b := by
  simp [prun, List.foldl_append]

theorem putJson_mem (c : Code) (h : H) (o : JsonObj) : (putJson c h o).mem = h.mem := by
  unfold putJson; cases o.reflectBuf <;> rfl

theorem pparent_after (s0 : PS) (hl : s0.live.length = s0.liveMeta.length) (p : Parent) (fields : List RO) (mid : List Op) :
    pparentAt (prun (pstepWith s0 p fields) mid) s0.live.length =
      ⟨p.cfg, p.spaced, (pureCtx p fields).buf, (pureCtx p fields).openNs⟩ := by
  have h1 : liveAt (pstepWith s0 p fields).live s0.live.length = some (pureCtx p fields).buf := liveAt_new _ _
  have h2 : liveAt (pstepWith s0 p fields).liveMeta s0.live.length = some ⟨p.cfg, p.spaced, (pureCtx p fields).openNs⟩ := by
    rw [hl]; exact liveAt_new _ _
  obtain ⟨a, b⟩ := prun_live_stable mid _ _ _ _ h1 h2
  unfold pparentAt
  rw [a, b]

end ZapVerif.Pools
