import ZapVerif.Proofs.GoMini
import ZapVerif.Model.TransCEX
import ZapVerif.Model.Deliver
/-! Lookup facts for the `…_matches_source` theorems of Props/C10.lean and Props/C06.lean about Gen/TransCE.lean, and
    the trace `CheckedEntry.Write` must leave (`expected`).  Nothing here depends on the generated terms. -/
namespace ZapVerif.TransCE
open ZapVerif ZapVerif.GoMini ZapVerif.Gen.TransCE

@[simp] theorem X_funs : X.funs = funs := id rfl
@[simp] theorem X_ext : X.ext = ext := id rfl
/-- every call `Write` makes to the outside only leaves its record; a core's `Write` returns the errors scripted in the
    core value -/
@[simp] theorem ext_eq :
    (∀ i errs e f, ext "Core.Write" [.list [i, .list errs], e, f] = some [.list errs]) ∧
    (∀ (c : Nat × List Val) e f, ext "Core.Write" [coreOf c, e, f] = some [.list c.2]) ∧
    (∀ w r, ext "fmt.Fprintf" (w :: r) = some [.int 0, .list []]) ∧
    (∀ w, ext "ErrorOutput.Sync" [w] = some [.list []]) ∧
    (∀ h s f, ext "hook.OnWrite" [h, s, f] = some []) ∧
    (∀ s, ext "putCheckedEntry" [s] = some []) := by
  refine ⟨fun _ _ _ _ => id rfl, fun _ _ _ => id rfl, ?_, ?_, ?_, ?_⟩ <;> intros <;> table_lookup ext ext.match_1

@[simp] theorem ext_coreWrite (i : Val) (errs : List Val) (e f : Val) :
    ext "Core.Write" [.list [i, .list errs], e, f] = some [.list errs] := ext_eq.1 i errs e f

theorem nm_coreWrite : nm "Core.Write" = .bytes [67, 111, 114, 101, 46, 87, 114, 105, 116, 101] :=
  congrArg Val.bytes (by decide +kernel)
theorem nm_fprintf : nm "fmt.Fprintf" = .bytes [102, 109, 116, 46, 70, 112, 114, 105, 110, 116, 102] :=
  congrArg Val.bytes (by decide +kernel)
theorem nm_sync : nm "ErrorOutput.Sync" = .bytes [69, 114, 114, 111, 114, 79, 117, 116, 112, 117, 116, 46, 83, 121, 110, 99] :=
  congrArg Val.bytes (by decide +kernel)
theorem nm_hook : nm "hook.OnWrite" = .bytes [104, 111, 111, 107, 46, 79, 110, 87, 114, 105, 116, 101] :=
  congrArg Val.bytes (by decide +kernel)
theorem nm_put : nm "putCheckedEntry" = .bytes [112, 117, 116, 67, 104, 101, 99, 107, 101, 100, 69, 110, 116, 114, 121] :=
  congrArg Val.bytes (by decide +kernel)
theorem nm_errfmt : nm "%v write error: %v\n" =
    .bytes [37, 118, 32, 119, 114, 105, 116, 101, 32, 101, 114, 114, 111, 114, 58, 32, 37, 118, 10] :=
  congrArg Val.bytes (by decide +kernel)

theorem nm_reusefmt : nm "%v Unsafe CheckedEntry re-use near Entry %+v.\n" =
    .bytes [37, 118, 32, 85, 110, 115, 97, 102, 101, 32, 67, 104, 101, 99, 107, 101, 100, 69, 110, 116, 114, 121, 32, 114,
      101, 45, 117, 115, 101, 32, 110, 101, 97, 114, 32, 69, 110, 116, 114, 121, 32, 37, 43, 118, 46, 10] :=
  congrArg Val.bytes (by decide +kernel)

/-- what `CheckedEntry.Write` must have recorded for cores `cs` (id, errors), in order -/
def expected (cs : List (Nat × List Val)) (eo after : List Val) (time entry self fs : Val) : List Val :=
  cs.map (fun c => evCore (coreOf c) entry fs)
    ++ (if cs.flatMap (·.2) ≠ [] ∧ eo ≠ [] then [evErrLine eo time (cs.flatMap (·.2)), evErrSync eo] else [])
    ++ (if after ≠ [] then [evHook after self fs] else [])
    ++ [evPut self]

end ZapVerif.TransCE
