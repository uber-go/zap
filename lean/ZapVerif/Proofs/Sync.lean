import ZapVerif.Model.Sync
/-! Lemmas about M10: indices, how one event changes the lock / once state, monotonicity of happens-before,
    `lockset_ordered` (vector-clock `know`) and its soundness w.r.t. the inductive happens-before closure. -/
namespace ZapVerif.Sync

theorem evAt_lt {tr : List Ev} {k : Nat} {e : Ev} (h : evAt tr k = some e) : k < tr.length := by
  induction tr with
  | nil => simp [evAt] at h
  | cons a tr ih =>
    unfold evAt at h
    split at h
    · simp; omega
    · have := ih h; simp; omega

theorem evAt_cons_lt {tr : List Ev} {k : Nat} (e : Ev) (h : k < tr.length) :
    evAt (e :: tr) k = evAt tr k := by
  simp [evAt]; omega

theorem evAt_cons_self (e : Ev) (tr : List Ev) : evAt (e :: tr) tr.length = some e := by
  simp [evAt]

theorem evAt_cons_of_some {tr : List Ev} {k : Nat} {a : Ev} (e : Ev) (h : evAt tr k = some a) :
    evAt (e :: tr) k = some a := by
  rw [evAt_cons_lt e (evAt_lt h)]; exact h

theorem evAt_append_of_some {tr : List Ev} {k : Nat} {a : Ev} (post : List Ev) (h : evAt tr k = some a) :
    evAt (post ++ tr) k = some a := by
  induction post with
  | nil => simpa using h
  | cons e post ih => exact evAt_cons_of_some e ih

theorem evAt_append_self (post : List Ev) (e : Ev) (pre : List Ev) :
    evAt (post ++ e :: pre) pre.length = some e :=
  evAt_append_of_some post (evAt_cons_self e pre)

theorem evAt_split {tr : List Ev} {j : Nat} {b : Ev} (h : evAt tr j = some b) :
    ∃ post pre, tr = post ++ b :: pre ∧ pre.length = j := by
  induction tr with
  | nil => simp [evAt] at h
  | cons e tr ih =>
    unfold evAt at h
    split at h
    · rename_i hj
      simp at h; subst h
      exact ⟨[], tr, rfl, hj.symm⟩
    · obtain ⟨post, pre, ht, hl⟩ := ih h
      exact ⟨e :: post, pre, by simp [ht], hl⟩

theorem evAt_mem {tr : List Ev} {k : Nat} {e : Ev} (h : evAt tr k = some e) : e ∈ tr := by
  obtain ⟨post, pre, ht, _⟩ := evAt_split h
  simp [ht]

/-- `P i e` for every event `e` of the trace, `i` its index; decidable, for facts about concrete traces -/
def AllAt (P : Nat → Ev → Prop) : List Ev → Prop
  | [] => True
  | e :: tr => P tr.length e ∧ AllAt P tr

instance AllAt.dec {P : Nat → Ev → Prop} [∀ i e, Decidable (P i e)] : ∀ tr, Decidable (AllAt P tr)
  | [] => isTrue trivial
  | e :: tr =>
    have := AllAt.dec (P := P) tr
    inferInstanceAs (Decidable (P tr.length e ∧ AllAt P tr))

theorem allAt_evAt {P : Nat → Ev → Prop} : ∀ tr, AllAt P tr → ∀ j b, evAt tr j = some b → P j b
  | [], _, j, b, h => by simp [evAt] at h
  | e :: tr, hA, j, b, h => by
    unfold evAt at h
    split at h
    · rename_i hj; simp at h; subst h; subst hj; exact hA.1
    · exact allAt_evAt tr hA.2 j b h

instance WF.dec : ∀ tr, Decidable (WF tr)
  | [] => isTrue trivial
  | e :: tr =>
    have := WF.dec tr
    inferInstanceAs (Decidable (WF tr ∧ okStep e tr = true))

instance Guarded.dec (x : Var) (m : Lock) : ∀ tr, Decidable (Guarded x m tr)
  | [] => isTrue trivial
  | e :: tr =>
    have := Guarded.dec x m tr
    inferInstanceAs (Decidable (Guarded x m tr ∧ (e.touches x = true → holder m tr = some e.tid)))

instance OnceGuarded.dec (x : Var) (o : OnceId) : ∀ tr, Decidable (OnceGuarded x o tr)
  | [] => isTrue trivial
  | e :: tr =>
    have := OnceGuarded.dec x o tr
    inferInstanceAs (Decidable (OnceGuarded x o tr ∧ (e.touches x = true →
      onceSt o tr = .running e.tid ∨ (e.isWrite = false ∧ passed o e.tid tr = true))))

theorem WF_suffix (post tr : List Ev) (h : WF (post ++ tr)) : WF tr := by
  induction post with
  | nil => simpa using h
  | cons e post ih => exact ih h.1

/-- the recursive trace predicates (`Guarded`, `RWGuarded`, `OnceGuarded`, `GenRec`) in split form -/
theorem forall_split_iff {Q : List Ev → Ev → Prop} {R : List Ev → Prop} (hnil : R [])
    (hcons : ∀ e tr, R (e :: tr) ↔ R tr ∧ Q tr e) :
    ∀ tr, R tr ↔ ∀ post e pre, tr = post ++ e :: pre → Q pre e
  | [] => ⟨fun _ post e pre h => by simp at h, fun _ => hnil⟩
  | e :: tr => by
    rw [hcons, forall_split_iff hnil hcons tr]
    constructor
    · rintro ⟨h1, h2⟩ post e' pre hs
      cases post with
      | nil => cases hs; exact h2
      | cons p post => cases hs; exact h1 post e' pre rfl
    · exact fun h => ⟨fun post e' pre hs => h (e :: post) e' pre (by rw [hs]; rfl), h [] e tr rfl⟩

theorem Guarded_suffix (x : Var) (m : Lock) (post tr : List Ev) (h : Guarded x m (post ++ tr)) :
    Guarded x m tr := by
  induction post with
  | nil => simpa using h
  | cons e post ih => exact ih h.1

theorem guarded_iff_split {x : Var} {m : Lock} {tr : List Ev} :
    Guarded x m tr ↔ ∀ post e pre, tr = post ++ e :: pre → e.touches x = true → holder m pre = some e.tid :=
  forall_split_iff (R := Guarded x m) trivial (fun _ _ => Iff.rfl) tr

theorem first_change (P : List Ev → Prop) (tr : List Ev) : ∀ mid, P tr → ¬ P (mid ++ tr) →
    ∃ m2 e m1, mid = m2 ++ e :: m1 ∧ P (m1 ++ tr) ∧ ¬ P (e :: (m1 ++ tr))
  | [], h, hn => absurd h hn
  | e :: mid, h, hn => by
    by_cases hh : P (mid ++ tr)
    · exact ⟨[], e, mid, rfl, hh, hn⟩
    · obtain ⟨m2, e', m1, hs, h1, h2⟩ := first_change P tr mid h hh
      exact ⟨e :: m2, e', m1, by rw [hs]; rfl, h1, h2⟩

theorem first_gain (P : List Ev → Prop) (tr mid : List Ev) (hn : ¬ P tr) (h : P (mid ++ tr)) :
    ∃ m2 e m1, mid = m2 ++ e :: m1 ∧ ¬ P (m1 ++ tr) ∧ P (e :: (m1 ++ tr)) := by
  obtain ⟨m2, e, m1, hs, h1, h2⟩ := first_change (¬ P ·) tr mid hn (fun hc => hc h)
  exact ⟨m2, e, m1, hs, h1, Classical.not_not.mp h2⟩

theorem holder_cases (m : Lock) (e : Ev) (tr : List Ev) :
    ((∀ t, e ≠ .acq t m) ∧ (∀ t, e ≠ .rel t m) ∧ holder m (e :: tr) = holder m tr) ∨
      (∃ t, e = .acq t m ∧ holder m (e :: tr) = some t) ∨ (∃ t, e = .rel t m ∧ holder m (e :: tr) = none) := by
  cases e with
  | acq t m' =>
    by_cases hm : m' = m
    · exact .inr (.inl ⟨t, hm ▸ rfl, if_pos hm⟩)
    · exact .inl ⟨fun _ h => hm (Ev.acq.inj h).2, nofun, if_neg hm⟩
  | rel t m' =>
    by_cases hm : m' = m
    · exact .inr (.inr ⟨t, hm ▸ rfl, if_pos hm⟩)
    · exact .inl ⟨nofun, fun _ h => hm (Ev.rel.inj h).2, if_neg hm⟩
  | _ => exact .inl ⟨nofun, nofun, rfl⟩

theorem readers_cases (m : Lock) (e : Ev) (tr : List Ev) :
    readers m (e :: tr) = readers m tr ∨ (∃ t, e = .racq t m ∧ readers m (e :: tr) = t :: readers m tr) ∨
      (∃ t, e = .rrel t m ∧ readers m (e :: tr) = (readers m tr).erase t) := by
  cases e with
  | racq t m' => by_cases hm : m' = m <;> simp [readers, hm]
  | rrel t m' => by_cases hm : m' = m <;> simp [readers, hm]
  | _ => exact .inl rfl

theorem onceSt_cases (o : OnceId) (e : Ev) (tr : List Ev) :
    onceSt o (e :: tr) = onceSt o tr ∨ (∃ t, e = .onceBegin t o ∧ onceSt o (e :: tr) = .running t) ∨
      (∃ t, e = .onceEnd t o ∧ onceSt o (e :: tr) = .done) := by
  cases e with
  | onceBegin t o' => by_cases ho : o' = o <;> simp [onceSt, ho]
  | onceEnd t o' => by_cases ho : o' = o <;> simp [onceSt, ho]
  | _ => exact .inl rfl

theorem passed_cons (o : OnceId) (t : Tid) (e : Ev) (tr : List Ev) :
    passed o t (e :: tr) = true ↔ (e = .onceEnd t o ∨ e = .onceRet t o) ∨ passed o t tr = true := by
  cases e <;> simp [passed]

theorem passed_iff_mem (o : OnceId) (t : Tid) : ∀ tr : List Ev,
    passed o t tr = true ↔ Ev.onceEnd t o ∈ tr ∨ Ev.onceRet t o ∈ tr
  | [] => by simp [passed]
  | e :: tr => by
    rw [passed_cons, passed_iff_mem o t tr, List.mem_cons, List.mem_cons, eq_comm (a := e), eq_comm (a := e)]
    exact or_or_or_comm

theorem holder_access {x : Var} {a : Ev} (m : Lock) (pre : List Ev) (hax : a.touches x = true) :
    holder m (a :: pre) = holder m pre := by
  cases a <;> simp [Ev.touches] at hax <;> simp [holder]

theorem HB_cons {tr : List Ev} {i j : Nat} (e : Ev) (h : HB tr i j) : HB (e :: tr) i j := by
  induction h with
  | po hlt ha hb ht => exact .po hlt (evAt_cons_of_some e ha) (evAt_cons_of_some e hb) ht
  | sw hlt ha hb hs => exact .sw hlt (evAt_cons_of_some e ha) (evAt_cons_of_some e hb) hs
  | trans _ _ ih1 ih2 => exact .trans ih1 ih2

theorem HB_append {tr : List Ev} {i j : Nat} (post : List Ev) (h : HB tr i j) : HB (post ++ tr) i j := by
  induction post with
  | nil => simpa using h
  | cons e post ih => exact HB_cons e ih

theorem HB_lt {tr : List Ev} {i j : Nat} (h : HB tr i j) : i < j := by
  induction h with
  | po hlt _ _ _ => exact hlt
  | sw hlt _ _ _ => exact hlt
  | trans _ _ ih1 ih2 => omega

theorem HB_last_edge {tr : List Ev} {i j : Nat} (h : HB tr i j) :
    ∃ k a b, k < j ∧ evAt tr k = some a ∧ evAt tr j = some b ∧ (a.tid = b.tid ∨ sw a b = true) := by
  induction h with
  | po hlt ha hb ht => exact ⟨_, _, _, hlt, ha, hb, .inl ht⟩
  | sw hlt ha hb hs => exact ⟨_, _, _, hlt, ha, hb, .inr hs⟩
  | trans _ _ _ ih => exact ih

theorem not_HB_of_no_edge {tr : List Ev} {j : Nat} {b : Ev} (hb : evAt tr j = some b)
    (h : AllAt (fun k a => k < j → a.tid ≠ b.tid ∧ sw a b = false) tr) (i : Nat) : ¬ HB tr i j := by
  intro hh
  obtain ⟨k, a, b', hk, ha, hb', hedge⟩ := HB_last_edge hh
  obtain rfl : b = b' := Option.some.inj (hb.symm.trans hb')
  obtain ⟨hpo, hsw⟩ := allAt_evAt tr h k a ha hk
  rcases hedge with h1 | h1
  · exact hpo h1
  · rw [hsw] at h1; cases h1

theorem know_mono (e : Ev) (tr : List Ev) (t : Tid) (k : Nat) (h : know tr t k = true) :
    know (e :: tr) t k = true := by
  unfold know
  by_cases ht : e.tid = t <;> simp [ht, h]

theorem relKnow_other (e : Ev) (tr : List Ev) (m : Lock) (k : Nat)
    (he : ∀ t, e ≠ .rel t m) : know.relKnow m (e :: tr) k = know.relKnow m tr k := by
  cases e with
  | rel t' m' =>
    by_cases hm : m' = m
    · subst hm; exact absurd rfl (he t')
    · simp [know.relKnow, hm]
  | _ => simp [know.relKnow]

/-- the holder of m knows every earlier access to x; when m is free, the release history of m does -/
def Inv (x : Var) (m : Lock) (tr : List Ev) : Prop :=
  ∀ k e, evAt tr k = some e → e.touches x = true →
    match holder m tr with
    | some t => know tr t k = true
    | none => know.relKnow m tr k = true

theorem inv_step (x : Var) (m : Lock) (e : Ev) (tr : List Ev)
    (hwf : WF (e :: tr)) (hg : Guarded x m (e :: tr)) (ih : Inv x m tr) : Inv x m (e :: tr) := by
  have hok : okStep e tr = true := hwf.2
  intro k e' hk hacc
  unfold evAt at hk
  split at hk
  · -- the new event itself accesses x: its goroutine holds m and knows its own event
    next hkl =>
    cases hk
    rw [holder_access m tr hacc, hg.2 hacc]
    simp [know, hkl]
  · have ihk := ih k e' hk hacc
    rcases holder_cases m e tr with ⟨_, hnrel, h⟩ | ⟨t, rfl, h⟩ | ⟨t, rfl, h⟩
    · -- the holder stays: it keeps what it knew; a free lock keeps its release history
      rw [h]
      cases hq : holder m tr with
      | none => rw [hq] at ihk; exact (relKnow_other e tr m k hnrel).trans ihk
      | some t0 => rw [hq] at ihk; exact know_mono e tr t0 k ihk
    · -- `Lock(m)`: m was free, the new holder learns the release history
      have hfree : holder m tr = none := by simp [okStep] at hok; exact hok.1
      rw [hfree] at ihk
      rw [h]
      simp [know, Ev.tid, ihk]
    · -- `Unlock(m)` by the holder: what it knew goes into the release history
      have hheld : holder m tr = some t := by simpa [okStep] using hok
      rw [hheld] at ihk
      rw [h]
      simp [know.relKnow, ihk]

theorem inv_all (x : Var) (m : Lock) : ∀ tr, WF tr → Guarded x m tr → Inv x m tr
  | [], _, _ => by intro k e h; simp [evAt] at h
  | e :: tr, hwf, hg => inv_step x m e tr hwf hg (inv_all x m tr hwf.1 hg.1)

theorem lockset_ordered (x : Var) (m : Lock) (e : Ev) (tr : List Ev)
    (hwf : WF (e :: tr)) (hg : Guarded x m (e :: tr)) (hacc : e.touches x = true) :
    ∀ k e', evAt tr k = some e' → e'.touches x = true → know tr e.tid k = true := by
  intro k e' hk hacc'
  have hinv := inv_all x m tr hwf.1 hg.1 k e' hk hacc'
  have hh := hg.2 hacc
  simpa [hh] using hinv

/-- k is, or happens-before, an event of goroutine t that is already in tr -/
def KnownBy (tr : List Ev) (t : Tid) (k : Nat) : Prop :=
  ∃ j a, evAt tr j = some a ∧ a.tid = t ∧ (k = j ∨ HB tr k j)

/-- k is, or happens-before, a release of m that is already in tr -/
def KnownByRel (tr : List Ev) (m : Lock) (k : Nat) : Prop :=
  ∃ j t', evAt tr j = some (.rel t' m) ∧ (k = j ∨ HB tr k j)

theorem KnownBy_cons {tr : List Ev} {t : Tid} {k : Nat} (e : Ev) (h : KnownBy tr t k) :
    KnownBy (e :: tr) t k := by
  obtain ⟨j, a, ha, hta, hk⟩ := h
  exact ⟨j, a, evAt_cons_of_some e ha, hta, hk.imp id (HB_cons e)⟩

theorem KnownByRel_cons {tr : List Ev} {m : Lock} {k : Nat} (e : Ev) (h : KnownByRel tr m k) :
    KnownByRel (e :: tr) m k := by
  obtain ⟨j, t', ha, hk⟩ := h
  exact ⟨j, t', evAt_cons_of_some e ha, hk.imp id (HB_cons e)⟩

theorem KnownBy_step {tr : List Ev} {t : Tid} {k : Nat} (e : Ev) (het : e.tid = t)
    (h : KnownBy tr t k) : k = tr.length ∨ HB (e :: tr) k tr.length := by
  obtain ⟨j, a, ha, hta, hk⟩ := h
  have hjl := evAt_lt ha
  have hpo : HB (e :: tr) j tr.length :=
    .po hjl (evAt_cons_of_some e ha) (evAt_cons_self e tr) (by rw [hta, het])
  rcases hk with rfl | hk
  · exact Or.inr hpo
  · exact Or.inr (.trans (HB_cons e hk) hpo)

theorem know_sound_aux : ∀ tr : List Ev,
    (∀ t k, know tr t k = true → KnownBy tr t k) ∧
    (∀ m k, know.relKnow m tr k = true → KnownByRel tr m k)
  | [] => by constructor <;> intro _ _ h <;> simp [know, know.relKnow] at h
  | e :: tr => by
    obtain ⟨ih1, ih2⟩ := know_sound_aux tr
    constructor
    · intro t k h
      unfold know at h
      by_cases het : e.tid = t
      · simp only [het, if_true, Bool.or_eq_true, beq_iff_eq] at h
        rcases h with (hk | hk) | hk
        · exact ⟨tr.length, e, evAt_cons_self e tr, het, Or.inl hk⟩
        · exact KnownBy_cons e (ih1 t k hk)
        · -- an acquire learning what the releases of m knew
          cases e with
          | acq t0 m =>
            obtain ⟨j, t', ha, hkj⟩ := ih2 m k hk
            have hjl := evAt_lt ha
            have hsw : HB (Ev.acq t0 m :: tr) j tr.length :=
              .sw hjl (evAt_cons_of_some _ ha) (evAt_cons_self _ tr) (by simp [sw])
            refine ⟨tr.length, _, evAt_cons_self _ tr, het, Or.inr ?_⟩
            rcases hkj with rfl | hkj
            · exact hsw
            · exact .trans (HB_cons _ hkj) hsw
          | _ => simp at hk
      · simp only [het, if_false] at h
        exact KnownBy_cons e (ih1 t k h)
    · intro m k h
      cases e with
      | rel t' m' =>
        by_cases hm : m' = m
        · subst hm
          simp only [know.relKnow, if_true, Bool.or_eq_true, beq_iff_eq] at h
          rcases h with (hk | hk) | hk
          · exact ⟨tr.length, t', evAt_cons_self _ tr, Or.inl hk⟩
          · have := KnownBy_step (Ev.rel t' m') rfl (ih1 t' k hk)
            exact ⟨tr.length, t', evAt_cons_self _ tr, this⟩
          · exact KnownByRel_cons _ (ih2 m' k hk)
        · simp only [know.relKnow, hm, if_false] at h
          exact KnownByRel_cons _ (ih2 m k h)
      | _ =>
        simp only [know.relKnow] at h
        exact KnownByRel_cons _ (ih2 m k h)

/-- soundness of the vector clock: whatever `know` reports for the goroutine of the next event
    really happens-before that event in the inductive closure -/
theorem know_sound (e : Ev) (tr : List Ev) (k : Nat) (h : know tr e.tid k = true) :
    HB (e :: tr) k tr.length := by
  have hkb := (know_sound_aux tr).1 e.tid k h
  rcases KnownBy_step e rfl hkb with hk | hk
  · -- k = tr.length is impossible: a known index is the index of an event of tr
    obtain ⟨j, a, ha, _, hkj⟩ := hkb
    have hjl := evAt_lt ha
    rcases hkj with rfl | hkj
    · omega
    · have := HB_lt hkj; omega
  · exact hk

end ZapVerif.Sync
