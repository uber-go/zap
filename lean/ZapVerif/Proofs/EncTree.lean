import ZapVerif.Proofs.Enc
/-! From the compositional output to the JSON tree: `outO` (compact) is the rendering of the denotation `denO`,
    and `encodeEntry` is the rendering of one object. -/
namespace ZapVerif.Enc
open ZapVerif ZapVerif.Esc ZapVerif.Json

/-- members with an explicit leading-separator flag -/
def memOut (first : Bool) : List (Bytes × J) → Bytes
  | [] => []
  | (k, v) :: r => comma false first ++ 34 :: (k ++ 34 :: 58 :: (render v ++ memOut false r))

def elemOut (first : Bool) : List J → Bytes
  | [] => []
  | v :: r => comma false first ++ render v ++ elemOut false r

theorem memOut_false_cons (k : Bytes) (v : J) (r : List (Bytes × J)) :
    memOut false ((k, v) :: r) = 44 :: memOut true ((k, v) :: r) := by
  simp [memOut, comma]

theorem renderMembers_eq : ∀ ms : List (Bytes × J), renderMembers ms = memOut true ms
  | [] => by simp [renderMembers, memOut]
  | [(k, v)] => by simp [renderMembers, memOut, comma]
  | (k, v) :: y :: r => by
      have ih := renderMembers_eq (y :: r)
      obtain ⟨k2, v2⟩ := y
      rw [renderMembers, ih]
      simp only [memOut, comma]
      simp

theorem elemOut_false_cons (v : J) (r : List J) : elemOut false (v :: r) = 44 :: elemOut true (v :: r) := by
  simp [elemOut, comma]

theorem renderElems_eq : ∀ xs : List J, renderElems xs = elemOut true xs
  | [] => by simp [renderElems, elemOut]
  | [x] => by simp [renderElems, elemOut, comma]
  | x :: y :: r => by
      have ih := renderElems_eq (y :: r)
      rw [renderElems, ih]
      simp only [elemOut, comma]
      simp

theorem memOut_append (first : Bool) (a b : List (Bytes × J)) :
    memOut first (a ++ b) = memOut first a ++ memOut (first && a.isEmpty) b := by
  induction a generalizing first with
  | nil => simp [memOut]
  | cons x r ih =>
    obtain ⟨k, v⟩ := x
    simp only [List.cons_append, memOut, ih]
    simp [List.append_assoc]

theorem rep_comm (n : Nat) (x : Bytes) :
    (125 :: (List.replicate n 125 ++ x) : Bytes) = List.replicate n 125 ++ 125 :: x := by
  induction n with
  | zero => simp
  | succ m ih => simp only [List.replicate_succ, List.cons_append]; rw [ih]

theorem keyOut_compact (k : Bytes) : keyOut false k = 34 :: (esc k ++ [34, 58]) := by
  simp [keyOut, colon]

/-- compact output plus the closing braces it still owes = the members of the denoted object -/
theorem out_eq_den :
    (∀ (calls : List OC) (first : Bool),
      (outO false first calls).1 ++ List.replicate (outO false first calls).2 125 = memOut first (denO calls)) ∧
    (∀ (calls : List AC) (first : Bool), outA false first calls = elemOut first (denA calls)) := by
  apply calls_induct
  · intro first; simp [outO, denO, memOut]
  · intro k v r ih first
    simp only [outO, denO, memOut, keyOut_compact, List.append_assoc, List.cons_append, List.nil_append, ih false]
  · intro k body r ihb ih first
    simp only [outO, denO, memOut, keyOut_compact, render, renderMembers_eq, ← ihb true, ← ih false]
    simp [List.append_assoc, rep_comm]
  · intro k body r ihb ih first
    simp only [outO, denO, memOut, keyOut_compact, render, renderElems_eq, ← ihb true, ← ih false]
    simp [List.append_assoc]
  · intro k r ih first
    simp only [outO, denO, memOut, keyOut_compact, render, renderMembers_eq, ← ih true]
    simp [List.replicate_succ', List.append_assoc]
  · intro first; simp [outA, denA, elemOut]
  · intro v r ih first; simp only [outA, denA, elemOut, ih false]
  · intro body r ihb ih first
    simp only [outA, denA, elemOut, render, renderMembers_eq, ← ihb true, ih false]
    simp [List.append_assoc, rep_comm]
  · intro body r ihb ih first
    simp only [outA, denA, elemOut, render, renderElems_eq, ihb true, ih false]
    simp [List.append_assoc]

theorem outO_den : ∀ (calls : List OC) (first : Bool),
    (outO false first calls).1 ++ List.replicate (outO false first calls).2 125 = memOut first (denO calls) :=
  out_eq_den.1

theorem outA_den : ∀ (calls : List AC) (first : Bool), outA false first calls = elemOut first (denA calls) :=
  out_eq_den.2

theorem esc_ok (k : Bytes) : runD 0 (esc k) = some 0 := escape_ok k.length k

theorem den_wellformed :
    (∀ calls : List OC, WFo calls → WFm (denO calls)) ∧ (∀ calls : List AC, WFa calls → WFl (denA calls)) := by
  apply calls_induct
  · intro _; simp [denO, WFm]
  · intro k v r ih h
    obtain ⟨hv, hr⟩ := (by simpa [WFo] using h : WFj v ∧ WFo r)
    simp only [denO, WFm]; exact ⟨esc_ok k, hv, ih hr⟩
  · intro k body r ihb ih h
    obtain ⟨hb, hr⟩ := (by simpa [WFo] using h : WFo body ∧ WFo r)
    simp only [denO, WFm, WFj]; exact ⟨esc_ok k, ihb hb, ih hr⟩
  · intro k body r ihb ih h
    obtain ⟨hb, hr⟩ := (by simpa [WFo] using h : WFa body ∧ WFo r)
    simp only [denO, WFm, WFj]; exact ⟨esc_ok k, ihb hb, ih hr⟩
  · intro k r ih h
    have hr : WFo r := by simpa [WFo] using h
    simp only [denO, WFm, WFj]; exact ⟨esc_ok k, ih hr, trivial⟩
  · intro _; simp [denA, WFl]
  · intro v r ih h
    obtain ⟨hv, hr⟩ := (by simpa [WFa] using h : WFj v ∧ WFa r)
    simp only [denA, WFl]; exact ⟨hv, ih hr⟩
  · intro body r ihb ih h
    obtain ⟨hb, hr⟩ := (by simpa [WFa] using h : WFo body ∧ WFa r)
    simp only [denA, WFl, WFj]; exact ⟨ihb hb, ih hr⟩
  · intro body r ihb ih h
    obtain ⟨hb, hr⟩ := (by simpa [WFa] using h : WFa body ∧ WFa r)
    simp only [denA, WFl, WFj]; exact ⟨ihb hb, ih hr⟩

theorem den_wf : ∀ (calls : List OC), WFo calls → WFm (denO calls) := den_wellformed.1

theorem denA_wf : ∀ (calls : List AC), WFa calls → WFl (denA calls) := den_wellformed.2

theorem WFo_append (a b : List OC) (ha : WFo a) (hb : WFo b) : WFo (a ++ b) := by
  induction a with
  | nil => simpa using hb
  | cons c r ih => cases c <;> simp_all [WFo]

theorem memOut_last (first : Bool) : ∀ (ms : List (Bytes × J)), WFm ms → ms ≠ [] →
    ((memOut first ms).getLast?.map skip) = some false
  | [], _, hne => absurd rfl hne
  | [(k, v)], h, _ => by
      have hv : WFj v := by simpa [WFm] using (by simpa [WFm] using h : runD 0 k = some 0 ∧ WFj v ∧ True).2.1
      simp only [memOut, List.append_nil]
      apply last_app; apply last_cons; apply last_app; apply last_cons; apply last_cons
      exact render_last v hv
  | (k, v) :: y :: r, h, _ => by
      have hr : WFm (y :: r) := (by simpa [WFm] using h : runD 0 k = some 0 ∧ WFj v ∧ WFm (y :: r)).2.2
      have ih := memOut_last false (y :: r) hr (by simp)
      rw [memOut]
      apply last_app; apply last_cons; apply last_app; apply last_cons; apply last_cons; apply last_app
      exact ih

theorem st_members (ms : List (Bytes × J)) (hw : WFm ms) : St ([123] ++ memOut true ms) ms.isEmpty := by
  cases ms with
  | nil => exact Or.inr (by decide)
  | cons x r => exact st_app _ _ false (memOut_last true (x :: r) hw (by simp))

theorem runO_append (sp : Bool) (a b : List OC) (e : Enc) : runO sp e (a ++ b) = runO sp (runO sp e a) b := by
  induction a generalizing e with
  | nil => simp [runO]
  | cons c r ih => cases c <;> simp only [List.cons_append, runO, ih]

theorem outO_first (sp : Bool) : ∀ (calls : List OC) (first : Bool), calls ≠ [] →
    (outO sp first calls).1 = comma sp first ++ (outO sp true calls).1 ∧
    (outO sp first calls).2 = (outO sp true calls).2 ∧ (outO sp true calls).1 ≠ []
  | [], _, h => absurd rfl h
  | OC.prim k v :: r, first, _ => by simp [outO, comma, keyOut]
  | OC.ns k :: r, first, _ => by simp [outO, comma, keyOut]
  | OC.obj k body :: r, first, _ => by simp [outO, comma, keyOut]
  | OC.arr k body :: r, first, _ => by simp [outO, comma, keyOut]

/-- the context mechanism: replaying the context calls on the entry's buffer is the same as appending the
    logger's pre-rendered context bytes after a separator (and inheriting its open namespaces) -/
theorem ctx_replay (sp : Bool) (ctxCalls : List OC) (buf : Bytes) (n : Nat) (first : Bool)
    (hs : St buf first) (hw : WFo ctxCalls) :
    let ctx := ctxOf sp ctxCalls
    runO sp ⟨buf, n⟩ ctxCalls =
      (if ctx.buf.isEmpty then ⟨buf, n + ctx.openNs⟩ else ⟨sep sp buf ++ ctx.buf, n + ctx.openNs⟩) := by
  intro ctx
  have hctx : ctx = ⟨(outO sp true ctxCalls).1, (outO sp true ctxCalls).2⟩ := by
    have := runO_eq sp ctxCalls [] 0 true (Or.inl ⟨rfl, rfl⟩) hw
    show ctxOf sp ctxCalls = _
    simpa [ctxOf] using this
  rw [runO_eq sp ctxCalls buf n first hs hw]
  by_cases hc : ctxCalls = []
  · subst hc; simp [hctx, outO]
  · obtain ⟨h1, h2, h3⟩ := outO_first sp ctxCalls first hc
    have hne : ctx.buf.isEmpty = false := by simp [hctx, h3]
    simp only [hne]
    rw [sep_of_state hs, h1, h2, hctx]
    simp [List.append_assoc]

end ZapVerif.Enc
