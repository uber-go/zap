import ZapVerif.Proofs.EncTree
/-! The spaced form (console context): structure emitted by calls carries a blank after `,` and `:`, leaves
    stay compact.  `T` marks which is which; the (blank-tolerant) parser reads the spaced rendering back to the
    same tree `denO` gives the JSON encoder. -/
namespace ZapVerif.Enc
open ZapVerif ZapVerif.Esc ZapVerif.Json

inductive T where
  | leaf (v : J)                       -- a value rendered compactly (scalar, string, reflected JSON)
  | arr (xs : List T)                  -- structure produced by encoder calls: spaced
  | obj (kvs : List (Bytes × T))

mutual
def renderT : T → Bytes
  | .leaf v => render v
  | .arr xs => 91 :: (elemsT true xs ++ [93])
  | .obj kvs => 123 :: (memsT true kvs ++ [125])
def elemsT (first : Bool) : List T → Bytes
  | [] => []
  | x :: r => comma true first ++ renderT x ++ elemsT false r
def memsT (first : Bool) : List (Bytes × T) → Bytes
  | [] => []
  | (k, v) :: r => comma true first ++ 34 :: (k ++ 34 :: 58 :: 32 :: (renderT v ++ memsT false r))
end

mutual
def erase : T → J
  | .leaf v => v
  | .arr xs => J.arr (eraseL xs)
  | .obj kvs => J.obj (eraseM kvs)
def eraseL : List T → List J
  | [] => []
  | x :: r => erase x :: eraseL r
def eraseM : List (Bytes × T) → List (Bytes × J)
  | [] => []
  | (k, v) :: r => (k, erase v) :: eraseM r
end

mutual
def denTO : List OC → List (Bytes × T)
  | [] => []
  | OC.prim k v :: r => (esc k, T.leaf v) :: denTO r
  | OC.obj k body :: r => (esc k, T.obj (denTO body)) :: denTO r
  | OC.arr k body :: r => (esc k, T.arr (denTA body)) :: denTO r
  | OC.ns k :: r => [(esc k, T.obj (denTO r))]
def denTA : List AC → List T
  | [] => []
  | AC.prim v :: r => T.leaf v :: denTA r
  | AC.obj body :: r => T.obj (denTO body) :: denTA r
  | AC.arr body :: r => T.arr (denTA body) :: denTA r
end

theorem erase_den : (∀ calls : List OC, eraseM (denTO calls) = denO calls) ∧
    (∀ calls : List AC, eraseL (denTA calls) = denA calls) := by
  apply calls_induct
  · simp [denTO, denO, eraseM]
  · intro k v r ih; simp [denTO, denO, eraseM, erase, ih]
  · intro k body r ihb ih; simp [denTO, denO, eraseM, erase, ihb, ih]
  · intro k body r ihb ih; simp [denTO, denO, eraseM, erase, ihb, ih]
  · intro k r ih; simp [denTO, denO, eraseM, erase, ih]
  · simp [denTA, denA, eraseL]
  · intro v r ih; simp [denTA, denA, eraseL, erase, ih]
  · intro body r ihb ih; simp [denTA, denA, eraseL, erase, ihb, ih]
  · intro body r ihb ih; simp [denTA, denA, eraseL, erase, ihb, ih]

theorem erase_denTO : ∀ calls : List OC, eraseM (denTO calls) = denO calls := erase_den.1
theorem erase_denTA : ∀ calls : List AC, eraseL (denTA calls) = denA calls := erase_den.2

theorem keyOut_spaced (k : Bytes) : keyOut true k = 34 :: (esc k ++ [34, 58, 32]) := by
  simp [keyOut, colon]

/-- spaced output plus the closing braces it still owes = the spaced members of the marked tree -/
theorem out_denT :
    (∀ (calls : List OC) (first : Bool),
      (outO true first calls).1 ++ List.replicate (outO true first calls).2 125 = memsT first (denTO calls)) ∧
    (∀ (calls : List AC) (first : Bool), outA true first calls = elemsT first (denTA calls)) := by
  apply calls_induct
  · intro first; simp [outO, denTO, memsT]
  · intro k v r ih first
    simp [outO, denTO, memsT, keyOut_spaced, renderT, ← ih false]
  · intro k body r ihb ih first
    simp [outO, denTO, memsT, keyOut_spaced, renderT, ← ih false, ← ihb true, rep_comm]
  · intro k body r ihb ih first
    simp [outO, denTO, memsT, keyOut_spaced, renderT, ← ih false, ihb true]
  · intro k r ih first
    simp [outO, denTO, memsT, keyOut_spaced, renderT, ← ih true, List.replicate_succ']
  · intro first; simp [outA, denTA, elemsT]
  · intro v r ih first
    simp [outA, denTA, elemsT, renderT, ih false]
  · intro body r ihb ih first
    simp [outA, denTA, elemsT, renderT, ih false, ← ihb true, rep_comm]
  · intro body r ihb ih first
    simp [outA, denTA, elemsT, renderT, ihb true, ih false]

theorem outA_denT : ∀ (calls : List AC) (first : Bool), outA true first calls = elemsT first (denTA calls) := out_denT.2

mutual
def WFT : T → Prop
  | .leaf v => WFj v
  | .arr xs => WFTl xs
  | .obj kvs => WFTm kvs
def WFTl : List T → Prop
  | [] => True
  | x :: r => WFT x ∧ WFTl r
def WFTm : List (Bytes × T) → Prop
  | [] => True
  | (k, v) :: r => runD 0 k = some 0 ∧ WFT v ∧ WFTm r
end

mutual
def sizeT : T → Nat
  | .leaf v => size v
  | .arr xs => 2 + sizeTl xs
  | .obj kvs => 2 + sizeTm kvs
def sizeTl : List T → Nat
  | [] => 0
  | x :: r => 1 + sizeT x + sizeTl r
def sizeTm : List (Bytes × T) → Nat
  | [] => 0
  | (_, v) :: r => 1 + sizeT v + sizeTm r
end

theorem renderT_head (t : T) (h : WFT t) : ∃ c r, renderT t = c :: r ∧ c ≠ 93 ∧ c ≠ 125 ∧ c ≠ 32 := by
  cases t with
  | leaf v => exact render_head v h
  | arr xs => exact ⟨91, _, rfl, by decide, by decide, by decide⟩
  | obj kvs => exact ⟨123, _, rfl, by decide, by decide, by decide⟩

theorem elemsT_false_cons (y : T) (r : List T) : elemsT false (y :: r) = 44 :: 32 :: elemsT true (y :: r) := by
  simp [elemsT, comma]

theorem memsT_false_cons (y : Bytes × T) (r : List (Bytes × T)) :
    memsT false (y :: r) = 44 :: 32 :: memsT true (y :: r) := by
  obtain ⟨k, v⟩ := y
  simp [memsT, comma]

theorem skipSp_sp (r : Bytes) : skipSp (32 :: r) = r := rfl

theorem elemsT_true_cons (x : T) (r : List T) : elemsT true (x :: r) = renderT x ++ elemsT false r := by
  simp [elemsT, comma]
theorem memsT_true_cons (k : Bytes) (v : T) (r : List (Bytes × T)) :
    memsT true ((k, v) :: r) = 34 :: (k ++ 34 :: 58 :: 32 :: (renderT v ++ memsT false r)) := by
  simp [memsT, comma]

mutual
theorem parseV_renderT : ∀ (t : T) (fuel : Nat) (rest : Bytes),
    WFT t → sepNext rest → sizeT t ≤ fuel → parseV fuel (renderT t ++ rest) = some (erase t, rest)
  | .leaf v, fuel, rest, hw, hs, hf => parseV_render v fuel rest hw hs hf
  | .arr _, 0, _, _, _, hf => by simp [sizeT] at hf
  | .obj _, 0, _, _, _, hf => by simp [sizeT] at hf
  | .arr [], f + 1, rest, _, _, _ => by simp [renderT, elemsT, parseV, erase, eraseL]
  | .obj [], f + 1, rest, _, _, _ => by simp [renderT, memsT, parseV, erase, eraseM]
  | .arr (x :: r), f + 1, rest, hw, _, hf => by
      have hwl : WFT x ∧ WFTl r := hw
      obtain ⟨c, tl, hr, hc93, _, _⟩ := renderT_head x hwl.1
      have key := parseElems_renderT (x :: r) (by simp) f [] rest hw (by simp [sizeT] at hf; omega)
      simp only [renderT, elemsT_true_cons, hr, List.cons_append, List.append_assoc, List.nil_append] at key ⊢
      rw [parseV_arr f c _ hc93, key]; simp [erase]
  | .obj ((k, v) :: r), f + 1, rest, hw, _, hf => by
      have key := parseMembers_renderT ((k, v) :: r) (by simp) f [] rest hw (by simp [sizeT] at hf; omega)
      simp only [renderT, memsT_true_cons, List.cons_append, List.append_assoc, List.nil_append] at key ⊢
      rw [parseV_obj f 34 _ (by decide), key]; simp [erase]
theorem parseElems_renderT : ∀ (xs : List T) (_ : xs ≠ []) (fuel : Nat) (acc : List J) (rest : Bytes),
    WFTl xs → sizeTl xs ≤ fuel →
    parseElems fuel acc (elemsT true xs ++ 93 :: rest) = some (.arr (acc ++ eraseL xs), rest)
  | [], hne, _, _, _, _, _ => absurd rfl hne
  | _ :: _, _, 0, _, _, _, hf => by simp [sizeTl] at hf
  | [x], _, f + 1, acc, rest, hw, hf => by
      have hv := parseV_renderT x f (93 :: rest) hw.1 (sep93 rest) (by simp [sizeTl] at hf; omega)
      rw [elemsT_true_cons, show elemsT false [] = [] from rfl, List.append_nil, parseElems_last hv]; simp [eraseL]
  | x :: y :: r, _, f + 1, acc, rest, hw, hf => by
      have hw' : WFT x ∧ WFTl (y :: r) := hw
      have hv := parseV_renderT x f (44 :: 32 :: (elemsT true (y :: r) ++ 93 :: rest)) hw'.1 (sep44 _)
        (by simp [sizeTl] at hf ⊢; omega)
      have ih := parseElems_renderT (y :: r) (by simp) f (acc ++ [erase x]) rest hw'.2 (by simp [sizeTl] at hf ⊢; omega)
      rw [elemsT_true_cons, elemsT_false_cons, List.append_assoc, List.cons_append, List.cons_append,
        parseElems_more hv, skipSp_sp, ih]
      simp [eraseL]
theorem parseMembers_renderT : ∀ (kvs : List (Bytes × T)) (_ : kvs ≠ []) (fuel : Nat)
    (acc : List (Bytes × J)) (rest : Bytes),
    WFTm kvs → sizeTm kvs ≤ fuel →
    parseMembers fuel acc (memsT true kvs ++ 125 :: rest) = some (.obj (acc ++ eraseM kvs), rest)
  | [], hne, _, _, _, _, _ => absurd rfl hne
  | _ :: _, _, 0, _, _, _, hf => by simp [sizeTm] at hf
  | [(k, v)], _, f + 1, acc, rest, hw, hf => by
      have hw' : runD 0 k = some 0 ∧ WFT v ∧ True := hw
      have hv := parseV_renderT v f (125 :: rest) hw'.2.1 (sep125 rest) (by simp [sizeTm] at hf; omega)
      rw [memsT_true_cons, show memsT false [] = [] from rfl, List.append_nil]
      simp only [List.cons_append, List.append_assoc]
      rw [parseMembers_last (scanStr_key k _ hw'.1) (by rw [skipSp_sp]; exact hv)]; simp [eraseM]
  | (k, v) :: y :: r, _, f + 1, acc, rest, hw, hf => by
      have hw' : runD 0 k = some 0 ∧ WFT v ∧ WFTm (y :: r) := hw
      have hv := parseV_renderT v f (44 :: 32 :: (memsT true (y :: r) ++ 125 :: rest)) hw'.2.1 (sep44 _)
        (by simp [sizeTm] at hf ⊢; omega)
      have ih := parseMembers_renderT (y :: r) (by simp) f (acc ++ [(k, erase v)]) rest hw'.2.2
        (by simp [sizeTm] at hf ⊢; omega)
      simp only [memsT_true_cons, memsT_false_cons, List.cons_append, List.append_assoc]
      rw [parseMembers_more (scanStr_key k _ hw'.1) (by rw [skipSp_sp]; exact hv), skipSp_sp, ih]
      simp [eraseM]
end
theorem denT_wf : (∀ calls : List OC, WFo calls → WFTm (denTO calls)) ∧
    (∀ calls : List AC, WFa calls → WFTl (denTA calls)) := by
  apply calls_induct
  · simp [denTO, WFTm]
  · intro k v r ih h; simp_all [WFo, denTO, WFTm, WFT, esc_ok]
  · intro k body r ihb ih h; simp_all [WFo, denTO, WFTm, WFT, esc_ok]
  · intro k body r ihb ih h; simp_all [WFo, denTO, WFTm, WFT, esc_ok]
  · intro k r ih h; simp_all [WFo, denTO, WFTm, WFT, esc_ok]
  · simp [denTA, WFTl]
  · intro v r ih h; simp_all [WFa, denTA, WFTl, WFT]
  · intro body r ihb ih h; simp_all [WFa, denTA, WFTl, WFT]
  · intro body r ihb ih h; simp_all [WFa, denTA, WFTl, WFT]

theorem denTA_wf : ∀ (calls : List AC), WFa calls → WFTl (denTA calls) := denT_wf.2

theorem spaced_object_parses (calls : List OC) (hw : WFo calls) :
    let bytes := (outO true true calls).1 ++ List.replicate (outO true true calls).2 125
    parseV (sizeT (T.obj (denTO calls))) (123 :: (bytes ++ [125])) = some (J.obj (denO calls), []) := by
  intro bytes
  have h1 : bytes = memsT true (denTO calls) := out_denT.1 calls true
  have h2 := parseV_renderT (T.obj (denTO calls)) _ [] (denT_wf.1 calls hw) (Or.inl rfl) (Nat.le_refl _)
  simp only [renderT, erase, erase_denTO, List.append_nil] at h2
  rw [h1]; exact h2

end ZapVerif.Enc
