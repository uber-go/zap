import ZapVerif.Proofs.GoMini
import ZapVerif.Model.TransCoresX
/-! Lookup facts for the `…_matches_source` theorems of Props/C05.lean and Props/C10.lean about Gen/TransCores.lean.
    Nothing here depends on the generated terms. -/
namespace ZapVerif.TransCores
open ZapVerif ZapVerif.GoMini ZapVerif.Gen.TransCores

@[simp] theorem X_funs (P : Par) : (X P).funs = funs := id rfl
@[simp] theorem X_ext (P : Par) : (X P).ext = ext P := id rfl

@[simp] theorem unCE_ceV (o : Option (List Val)) : unCE (ceV o) = some o := by cases o <;> rfl

@[simp] theorem lenVal_ceV_none : lenVal (ceV none) = .ok (.int 0) := id rfl
@[simp] theorem lenVal_ceV_some (cs : List Val) : lenVal (ceV (some cs)) = .ok (.int 1) := id rfl
@[simp] theorem indexVal_ceV (cs : List Val) : indexVal (ceV (some cs)) (.int 0) = .ok (.list cs) := id rfl

/-- `Enabled`, `Check`, `AddCore` are pure and given by the parameters; `Write`, `Sync`, `EncodeEntry` and hook functions return
    what the scripted value says.  (The entries whose pattern looks into an argument need that argument's cases.) -/
@[simp] theorem ext_eq (P : Par) :
    (∀ l, ext P "LevelEnabler.Enabled" [.int l] = some [.bool (P.en l)]) ∧
    (∀ v l, ext P "LevelEnabler.Enabled" [v, .int l] = some [.bool (P.en l)]) ∧
    (∀ c l, ext P "Core.Enabled" [c, .int l] = some [.bool (P.cen c l)]) ∧
    (∀ c e o, ext P "Core.Check" [c, e, ceV o] = some [ceV (P.chk c e o)]) ∧
    (∀ e core o, ext P "CE.AddCore" [ceV o, e, core] = some [ceV (addCore o core)]) ∧
    (∀ i s e f werrs, ext P "Core.Write" [.list [i, .list werrs, s], e, f] = some [.list werrs]) ∧
    (∀ i w serrs, ext P "Core.Sync" [.list [i, w, .list serrs]] = some [.list serrs]) ∧
    (∀ out errs e f, ext P "Encoder.EncodeEntry" [encV out errs, e, f] = some [.bytes out, .list errs]) ∧
    (∀ n werrs serrs b, ext P "WriteSyncer.Write" [sinkV n werrs serrs, .bytes b] = some [.int n, .list werrs]) ∧
    (∀ n werrs serrs, ext P "WriteSyncer.Sync" [sinkV n werrs serrs] = some [.list serrs]) ∧
    (∀ i e errs, ext P "HookFn" [.list [i, .list errs], e] = some [.list errs]) := by
  refine ⟨?_, ?_, ?_, ?_, ?_, ?_, ?_, ?_, ?_, ?_, ?_⟩ <;> intros <;> table_lookup ext ext.match_1
  · rename_i v l; cases v <;> rfl
  · rename_i o; cases o <;> rfl
  · rename_i o; cases o <;> rfl
  all_goals rfl

@[simp] theorem builtin_ext (a : List Val) :
    builtin "LevelEnabler.Enabled" a = none ∧ builtin "Core.Enabled" a = none ∧ builtin "Core.Check" a = none ∧
    builtin "CE.AddCore" a = none := by
  simp [builtin]

theorem nm_enc : nm "Encoder.EncodeEntry" = .bytes [69, 110, 99, 111, 100, 101, 114, 46, 69, 110, 99, 111, 100, 101, 69, 110, 116, 114, 121] :=
  congrArg Val.bytes (by decide +kernel)
theorem nm_wwrite : nm "WriteSyncer.Write" = .bytes [87, 114, 105, 116, 101, 83, 121, 110, 99, 101, 114, 46, 87, 114, 105, 116, 101] :=
  congrArg Val.bytes (by decide +kernel)
theorem nm_wsync : nm "WriteSyncer.Sync" = .bytes [87, 114, 105, 116, 101, 83, 121, 110, 99, 101, 114, 46, 83, 121, 110, 99] :=
  congrArg Val.bytes (by decide +kernel)
theorem nm_cwrite : nm "Core.Write" = .bytes [67, 111, 114, 101, 46, 87, 114, 105, 116, 101] :=
  congrArg Val.bytes (by decide +kernel)
theorem nm_csync : nm "Core.Sync" = .bytes [67, 111, 114, 101, 46, 83, 121, 110, 99] :=
  congrArg Val.bytes (by decide +kernel)
theorem nm_fn : nm "HookFn" = .bytes [72, 111, 111, 107, 70, 110] := congrArg Val.bytes (by decide +kernel)

/-- the fields of an `*ioCore` -/
abbrev ioFld (enc out self : Val) (ev : List Val) : Env := [("enc", enc), ("out", out), ("self", self), ("ev", .list ev)]
/-- the fields of a `multiCore` (the slice itself) -/
abbrev mcFld (mc : List Val) (ev : List Val) : Env := [("mc", .list mc), ("ev", .list ev)]
/-- the fields of a `*hooked` -/
abbrev hkFld (core : Val) (funcs : List Val) (self : Val) (ev : List Val) : Env :=
  [("core", core), ("funcs", .list funcs), ("self", self), ("ev", .list ev)]
/-- the fields of a `*levelFilterCore` -/
abbrev lfFld (core level self : Val) (ev : List Val) : Env := [("core", core), ("level", level), ("self", self), ("ev", .list ev)]

end ZapVerif.TransCores
