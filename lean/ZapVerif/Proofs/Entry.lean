import ZapVerif.Proofs.EncTree
import ZapVerif.Model.Entry
/-! `encodeEntry` renders exactly one JSON object: metadata, context, call-site fields (namespaces nest the
    rest), then the stack member at top level. -/
namespace ZapVerif.Enc
open ZapVerif ZapVerif.Esc ZapVerif.Json

theorem st_exists (b : Bytes) : ∃ f, St b f := by
  cases h : b.getLast? with
  | none => exact ⟨true, Or.inl ⟨by simpa [List.getLast?_eq_none_iff] using h, rfl⟩⟩
  | some c => exact ⟨skip c, Or.inr (by simp [h])⟩

theorem entry_run (sp : Bool) (metaCalls ctxCalls fields : List OC)
    (hm : WFo metaCalls) (hc : WFo ctxCalls) :
    let ctx := ctxOf sp ctxCalls
    let e1 := runO sp ⟨[123], ctx.openNs⟩ metaCalls
    let e2 : Enc := if ctx.buf.isEmpty then e1 else ⟨sep sp e1.buf ++ ctx.buf, e1.openNs⟩
    runO sp e2 fields = runO sp ⟨[123], 0⟩ (metaCalls ++ ctxCalls ++ fields) := by
  intro ctx e1 e2
  have h123 : St [123] true := Or.inr (by decide)
  have he1 : e1 = ⟨[123] ++ (outO sp true metaCalls).1, ctx.openNs + (outO sp true metaCalls).2⟩ :=
    runO_eq sp metaCalls [123] ctx.openNs true h123 hm
  have he1' : runO sp ⟨[123], 0⟩ metaCalls = ⟨[123] ++ (outO sp true metaCalls).1, 0 + (outO sp true metaCalls).2⟩ :=
    runO_eq sp metaCalls [123] 0 true h123 hm
  obtain ⟨f, hfst⟩ := st_exists ([123] ++ (outO sp true metaCalls).1)
  have hrep := ctx_replay sp ctxCalls ([123] ++ (outO sp true metaCalls).1) (0 + (outO sp true metaCalls).2) f hfst hc
  simp only [] at hrep
  have he2 : e2 = runO sp (runO sp ⟨[123], 0⟩ metaCalls) ctxCalls := by
    rw [he1', hrep]
    show (if ctx.buf.isEmpty then e1 else ⟨sep sp e1.buf ++ ctx.buf, e1.openNs⟩) = _
    rw [he1]
    by_cases hb : ctx.buf.isEmpty <;> simp [hb, ctx, Nat.add_comm]
  rw [he2, List.append_assoc, runO_append, runO_append]

/-- stack-trace calls: plain members only -/
def NoNs (calls : List OC) : Prop := ∀ sp f, (outO sp f calls).2 = 0

/-- C01/C02 master theorem (JSON encoder): for every metadata/context/field call tree with well-formed leaves,
    the emitted line is the rendering of ONE object — metadata, then context, then call-site fields, each namespace
    nesting everything after it, the stack trace last at top level — followed by the line ending. -/
theorem encodeEntry_eq_render (metaCalls ctxCalls fields stack : List OC) (ending : Bytes)
    (hm : WFo metaCalls) (hc : WFo ctxCalls) (hf : WFo fields) (hs : WFo stack) (hns : NoNs stack) :
    encodeEntry false metaCalls (ctxOf false ctxCalls) fields stack ending =
      render (J.obj (denO (metaCalls ++ ctxCalls ++ fields) ++ denO stack)) ++ ending := by
  have hrun := entry_run false metaCalls ctxCalls fields hm hc
  have hall : WFo (metaCalls ++ ctxCalls ++ fields) := WFo_append _ _ (WFo_append _ _ hm hc) hf
  -- the stack member: no namespace, so its output is just its members
  have hsd : ∀ f, (outO false f stack).1 = memOut f (denO stack) := by
    intro f
    have := outO_den stack f
    rwa [hns false f, List.replicate_zero, List.append_nil] at this
  simp only [] at hrun
  unfold encodeEntry
  simp only []
  rw [hrun, runO_eq false _ [123] 0 true (Or.inr (by decide)) hall]
  simp only [Nat.zero_add]
  rw [List.append_assoc [123], outO_den (metaCalls ++ ctxCalls ++ fields) true,
    runO_eq false stack _ 0 _ (st_members _ (den_wf _ hall)) hs, hsd]
  simp [render, renderMembers_eq, memOut_append, List.append_assoc]

end ZapVerif.Enc
