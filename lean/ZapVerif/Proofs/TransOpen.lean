import ZapVerif.Proofs.GoMini
import ZapVerif.Model.TransOpenX
/-! Lookup facts for the `…_matches_source` theorems of Props/C19.lean about Gen/TransOpen.lean.  Nothing here depends
    on the generated terms. -/

namespace ZapVerif.TransOpen
open ZapVerif ZapVerif.GoMini ZapVerif.Gen.TransOpen

@[simp] theorem X_funs (P : Par) : (X P).funs = funs := id rfl
@[simp] theorem X_ext (P : Par) : (X P).ext = ext P := id rfl

/-- the intrinsics of the table (`Model/TransOpenX.lean`), entry by entry: the registry, the OS opener, `url.Parse`, the
    factory map, `newEncoder`, map keys / lookup / `sort.Strings` and `strings.ToLower` are the parameters `P`; errors,
    options, cores, loggers and syncers are free constructors -/
@[simp] theorem ext_eq (P : Par) :
    (∀ p, ext P "sinkRegistry.newSink" [p] = some [.list (P.newSink p).1, .list (P.newSink p).2]) ∧
    (∀ s, ext P "Sink.Close" [s] = some [.list []]) ∧
    (∀ args, ext P "fmt.Errorf" args = some [errV "fmt.Errorf" args]) ∧
    (∀ args, ext P "errors.New" args = some [errV "errors.New" args]) ∧
    (∀ args, ext P "errSinkNotFound" args = some [errV "errSinkNotFound" args]) ∧
    (∀ w, ext P "zapcore.AddSync" [w] = some [.list [conV "zapcore.AddSync" [w]]]) ∧
    (∀ w, ext P "zapcore.Lock" [w] = some [.list [conV "zapcore.Lock" [w]]]) ∧
    (∀ ws, ext P "zapcore.NewMultiWriteSyncer" [ws] = some [.list [conV "zapcore.NewMultiWriteSyncer" [ws]]]) ∧
    (∀ n c, ext P "newEncoder" [n, c] = some [.list (P.newEncoder n c).1, .list (P.newEncoder n c).2]) ∧
    (∀ c o, ext P "zap.New" [c, o] = some [.list [conV "zap.New" [c, o]]]) ∧
    (∀ e s l, ext P "zapcore.NewCore" [e, s, l] = some [conV "zapcore.NewCore" [e, s, l]]) ∧
    (∀ s, ext P "ErrorOutput" [s] = some [conV "ErrorOutput" [s]]) ∧
    (ext P "Development" [] = some [conV "Development" []]) ∧
    (ext P "AddCaller" [] = some [conV "AddCaller" []]) ∧
    (∀ l, ext P "AddStacktrace" [l] = some [conV "AddStacktrace" [l]]) ∧
    (∀ f, ext P "WrapCore" [f] = some [conV "WrapCore" [f]]) ∧
    (∀ fs, ext P "Fields" [fs] = some [conV "Fields" [fs]]) ∧
    (∀ k v, ext P "Any" [k, v] = some [conV "Any" [k, v]]) ∧
    (∀ m, ext P "InitialFields.keys" [m] = some [.list (P.keys m)]) ∧
    (∀ m k, ext P "InitialFields.get" [m, k] = some [P.mapGet m k]) ∧
    (∀ ks, ext P "sort.Strings" [.list ks] = some [.list (P.sort ks)]) ∧
    (∀ c, ext P "Closure.call" [c] = some []) ∧
    (∀ p a b, ext P "sinkRegistry.openFile" [p, a, b] = some [.list (P.openFile p).1, .list (P.openFile p).2]) ∧
    (∀ u, ext P "URL.Port" [u] = some [.bytes (P.port u)]) ∧
    (∀ u, ext P "URL.Hostname" [u] = some [.bytes (P.hostname u)]) ∧
    (∀ p, ext P "filepath.IsAbs" [p] = some [.bool (P.isAbs p)]) ∧
    (∀ p, ext P "url.Parse" [p] = some [(P.parse p).1, .list (P.parse p).2]) ∧
    (∀ m, ext P "Mutex.Lock" [m] = some []) ∧
    (∀ m, ext P "Mutex.Unlock" [m] = some []) ∧
    (∀ m k, ext P "factories.get" [m, k] = some [(P.lookup m k).1, .bool (P.lookup m k).2]) ∧
    (∀ f u, ext P "SinkFactory.call" [f, u] = some [.list (P.factory f u).1, .list (P.factory f u).2]) ∧
    (∀ l o, ext P "Logger.WithOptions" [l, o] = some [.list [nm "Logger.WithOptions", l, o]]) ∧
    (∀ n, ext P "AddCallerSkip" [n] = some [.list [nm "AddCallerSkip", n]]) ∧
    (∀ lg l, ext P "levelToFunc" [lg, .int l] = some
      (if P.levelOK l then [.list [nm "logFunc", lg, .int l], .list []] else [.list [], errV "levelToFunc" [.int l]])) ∧
    (∀ f, ext P "loggerWriter" [f] = some [.list [nm "loggerWriter", f]]) ∧
    (∀ v, ext P "id" [v] = some [v]) ∧
    (∀ a v, ext P "set" [a, v] = some [v]) ∧
    (∀ s, ext P "strings.ToLower" [.bytes s] = some [.bytes (P.toLower s)]) := by
  unfold ext ext.match_1
  simp only [String.reduceEq, ↓reduceDIte, implies_true, and_true]

/-- none of the table's names (those called inside expressions) is a builtin -/
@[simp] theorem builtin_ext (a : List Val) :
    builtin "fmt.Errorf" a = none ∧ builtin "errors.New" a = none ∧ builtin "errSinkNotFound" a = none ∧
    builtin "URL.Port" a = none ∧ builtin "URL.Hostname" a = none ∧ builtin "filepath.IsAbs" a = none ∧
    builtin "Logger.WithOptions" a = none ∧ builtin "AddCallerSkip" a = none ∧ builtin "loggerWriter" a = none ∧
    builtin "id" a = none ∧ builtin "strings.ToLower" a = none ∧ builtin "zapcore.AddSync" a = none ∧
    builtin "zapcore.Lock" a = none ∧ builtin "zapcore.NewMultiWriteSyncer" a = none ∧ builtin "zap.New" a = none ∧
    builtin "zapcore.NewCore" a = none ∧ builtin "ErrorOutput" a = none ∧ builtin "Development" a = none ∧
    builtin "AddCaller" a = none ∧ builtin "AddStacktrace" a = none ∧ builtin "WrapCore" a = none ∧
    builtin "Fields" a = none ∧ builtin "Any" a = none ∧ builtin "InitialFields.keys" a = none ∧
    builtin "InitialFields.get" a = none := by
  simp [builtin]

theorem lenVal_errV (c : String) (args : List Val) : lenVal (errV c args) = .ok (.int 1) := id rfl

theorem nm_newSink : nm "sinkRegistry.newSink" = .bytes [115, 105, 110, 107, 82, 101, 103, 105, 115, 116, 114, 121, 46, 110, 101, 119, 83, 105, 110, 107] :=
  congrArg Val.bytes (by decide +kernel)
theorem nm_close : nm "Sink.Close" = .bytes [83, 105, 110, 107, 46, 67, 108, 111, 115, 101] := congrArg Val.bytes (by decide +kernel)
theorem nm_newEncoder : nm "newEncoder" = .bytes [110, 101, 119, 69, 110, 99, 111, 100, 101, 114] := congrArg Val.bytes (by decide +kernel)
theorem nm_closure : nm "Closure.call" = .bytes [67, 108, 111, 115, 117, 114, 101, 46, 99, 97, 108, 108] :=
  congrArg Val.bytes (by decide +kernel)
theorem nm_openFile : nm "sinkRegistry.openFile" = .bytes [115, 105, 110, 107, 82, 101, 103, 105, 115, 116, 114, 121, 46, 111, 112, 101, 110, 70, 105, 108, 101] :=
  congrArg Val.bytes (by decide +kernel)
theorem nm_lock : nm "Mutex.Lock" = .bytes [77, 117, 116, 101, 120, 46, 76, 111, 99, 107] := congrArg Val.bytes (by decide +kernel)
theorem nm_unlock : nm "Mutex.Unlock" = .bytes [77, 117, 116, 101, 120, 46, 85, 110, 108, 111, 99, 107] :=
  congrArg Val.bytes (by decide +kernel)
theorem nm_factory : nm "SinkFactory.call" = .bytes [83, 105, 110, 107, 70, 97, 99, 116, 111, 114, 121, 46, 99, 97, 108, 108] :=
  congrArg Val.bytes (by decide +kernel)

end ZapVerif.TransOpen
