import ZapVerif.Proofs.GoMini
import ZapVerif.Model.TransGrpcX
/-! Lookup facts for the `…_matches_source` theorems of Props/C06.lean about Gen/TransGrpc.lean; `sprintln` as a callee and
    the common body of `Infoln` / `Warningln` / `Errorln`. -/
namespace ZapVerif.TransGrpc
open ZapVerif ZapVerif.GoMini ZapVerif.Gen.TransGrpc

@[simp] theorem X_funs (P : Par) : (X P).funs = funs := id rfl
@[simp] theorem X_ext (P : Par) : (X P).ext = ext P := id rfl
/-- `fmt.Sprintln` and `Enabled` are parameters; the delegate's functions and methods return nothing (they are recorded) -/
@[simp] theorem ext_eq (P : Par) :
    (∀ a, ext P "fmt.Sprintln" [.list a] = some [.bytes (P.sprintln a)]) ∧
    (∀ e l, ext P "LevelEnabler.Enabled" [e, .int l] = some [.bool (P.en e l)]) ∧
    (∀ a b, ext P "PrintFn.call" [a, b] = some []) ∧
    (∀ a b c, ext P "PrintfFn.call" [a, b, c] = some []) ∧
    (∀ a b, ext P "Sugar.Info" [a, b] = some []) ∧
    (∀ a b, ext P "Sugar.Warn" [a, b] = some []) ∧
    (∀ a b, ext P "Sugar.Error" [a, b] = some []) := by
  refine ⟨?_, ?_, ?_, ?_, ?_, ?_, ?_⟩ <;> intros <;> table_lookup ext ext.match_1

@[simp] theorem builtin_ext (a : List Val) : builtin "fmt.Sprintln" a = none ∧ builtin "LevelEnabler.Enabled" a = none := by
  simp [builtin]

@[simp] theorem bi_1 (a : List Val) : builtin "LevelEnabler.Enabled" a = none := (builtin_ext a).2

theorem nm_print : nm "PrintFn.call" = .bytes [80, 114, 105, 110, 116, 70, 110, 46, 99, 97, 108, 108] := congrArg Val.bytes (by decide +kernel)
theorem nm_printf : nm "PrintfFn.call" = .bytes [80, 114, 105, 110, 116, 102, 70, 110, 46, 99, 97, 108, 108] := congrArg Val.bytes (by decide +kernel)
theorem nm_info : nm "Sugar.Info" = .bytes [83, 117, 103, 97, 114, 46, 73, 110, 102, 111] := congrArg Val.bytes (by decide +kernel)
theorem nm_warn : nm "Sugar.Warn" = .bytes [83, 117, 103, 97, 114, 46, 87, 97, 114, 110] := congrArg Val.bytes (by decide +kernel)
theorem nm_error : nm "Sugar.Error" = .bytes [83, 117, 103, 97, 114, 46, 69, 114, 114, 111, 114] := congrArg Val.bytes (by decide +kernel)

/-- `s[:len(s)-1]` of a non-empty string (no slice panic, no overflow of `len(s) - 1`) -/
theorem sliceVal_dropLast (s : Bytes) (hne : s ≠ []) (hlen : (s.length : Int) < 9223372036854775808) :
    sliceVal (.bytes s) 0 (wrap .int ((s.length : Int) - 1)) = .ok (.bytes s.dropLast) := by
  have hpos : 0 < s.length := List.length_pos_iff.mpr hne
  have ht : ((s.length : Int) - 1).toNat = s.length - 1 := by omega
  rw [wrap_int_id _ (by omega) (by omega), sliceVal_bytes, if_pos (by omega), List.dropLast_eq_take, ht]
  rfl

/-- `sprintln`: `fmt.Sprintln` without its last byte (never a slice panic: `Sprintln` ends in a newline) -/
theorem sprintln_exec (P : Par) (args : List Val) (fl : Env) (rec : Stmt → State → Out)
    (hne : P.sprintln args ≠ []) (hlen : ((P.sprintln args).length : Int) < 9223372036854775808) :
    (execS (X P) rec sprintln_body ⟨[("p0", .list args)], fl⟩).fin = some ([.bytes (P.sprintln args).dropLast], fl) := by
  simp [-sliceVal_bytes, sprintln_body, sliceVal_dropLast _ hne hlen]

/-- the body `Infoln`, `Warningln` and `Errorln` share: level `k`, the delegate's method `f` recorded under `name` -/
def lnBody (k : Int) (name : Bytes) (f : String) : Stmt :=
  .ite (.call "LevelEnabler.Enabled" [.fld "levelEnabler", .lit (.int k)])
    (.seq (.call [.loc "l0"] "sprintln" [.loc "p0"])
    (.seq (.assign [.fld "ev"] [.call "append" [.fld "ev", .call "tuple" [.lit (.bytes name), .fld "delegate", .loc "l0"]]])
    (.callX [] f [.fld "delegate", .loc "l0"])))
    .skip

theorem lnBody_exec (P : Par) (k : Int) (name : Bytes) (f : String) (hf : ∀ a b, ext P f [a, b] = some [])
    (args ev : List Val) (delegate en : Val) (fuel : Nat)
    (hne : P.sprintln args ≠ []) (hlen : ((P.sprintln args).length : Int) < 9223372036854775808) :
    (execS (X P) (exec (X P) (fuel + 1)) (lnBody k name f) ⟨[("p0", .list args)], lEnv ev delegate en⟩).fin =
      some ([], lEnv (if P.en en k then ev ++ [.list [.bytes name, delegate, .bytes (P.sprintln args).dropLast]] else ev)
        delegate en) := by
  have hcall : ∀ (σ : State) (fl : Env), retK σ [.loc "l0"] "sprintln"
      (exec (X P) (fuel + 1) sprintln_body ⟨[("p0", .list args)], fl⟩) = _ :=
    fun σ fl => retK_of_fin1 σ _ _ _ _ _ (sprintln_exec P args fl _ hne hlen)
  cases hc : P.en en k <;> simp [lnBody, lEnv, hc, hcall, hf]

end ZapVerif.TransGrpc
