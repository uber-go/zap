import ZapVerif.Model.Core
/-! helper lemmas about the core algebra (M7): framing, disabled cores, path products, level scans -/
namespace ZapVerif.Cores

/-- `omega` does not look through the `Level` abbreviation -/
macro "lomega" : tactic => `(tactic| ((try simp only [Level] at *); omega))

/-- `Core` is nested through `List` (`tee`); the recursor of the nested inductive gives the induction principle directly
    (a `mutual` recursion over `Core` / `List Core` would be compiled by well-founded recursion). -/
theorem core_induct {P : Core → Prop} {Q : List Core → Prop}
    (leaf : ∀ i en io ctx, P (.leaf i en io ctx)) (nop : P .nop) (tee : ∀ cs, Q cs → P (.tee cs))
    (incr : ∀ c en, P c → P (.incr c en)) (hooked : ∀ c h, P c → P (.hooked c h))
    (sampler : ∀ c s p, P c → P (.sampler c s p)) (lazy : ∀ cell c pfs, P c → P (.lazy cell c pfs))
    (nil : Q []) (cons : ∀ c cs, P c → Q cs → Q (c :: cs)) : (∀ c, P c) ∧ (∀ cs, Q cs) :=
  ⟨fun c => Core.rec (motive_1 := P) (motive_2 := Q) leaf nop tee incr hooked sampler lazy nil cons c,
   fun cs => Core.rec_1 (motive_1 := P) (motive_2 := Q) leaf nop tee incr hooked sampler lazy nil cons cs⟩

theorem check_frame_both (σ : Store) (sn : Snap) (l : Level) :
    (∀ (c : Core) (pend : List FldP) (ce : List Item), check σ sn l c pend ce = ce ++ check σ sn l c pend []) ∧
    (∀ (cs : List Core) (pend : List FldP) (ce : List Item), checkAll σ sn l cs pend ce = ce ++ checkAll σ sn l cs pend []) := by
  apply core_induct
  · intro i en io ctx pend ce
    simp only [check]; split
    · rfl
    · exact (List.append_nil ce).symm
  · intro pend ce; exact (List.append_nil ce).symm
  · intro cs ih pend ce; simp only [check]; exact ih pend ce
  · intro c en ih pend ce
    simp only [check]; split
    · exact ih pend ce
    · exact (List.append_nil ce).symm
  · intro c h ih pend ce
    -- the hook is added iff the wrapped core added anything, whatever `ce` held
    simp only [check]
    rw [ih pend ce]
    cases hc : check σ sn l c pend [] with
    | nil => simp
    | cons a r => simp
  · intro c s p ih pend ce
    simp only [check]; split
    · exact (List.append_nil ce).symm
    · split
      · exact (List.append_nil ce).symm
      · exact ih pend ce
  · intro cell c pfs ih pend ce
    simp only [check]; split
    · exact (List.append_nil ce).symm
    · exact ih _ ce
  · intro pend ce; exact (List.append_nil ce).symm
  · intro c cs ih ihs pend ce
    simp only [checkAll]
    rw [ihs pend (check σ sn l c pend ce), ihs pend (check σ sn l c pend []), ih pend ce, List.append_assoc]

theorem check_frame (σ : Store) (sn : Snap) (l : Level) : ∀ (c : Core) (pend : List FldP) (ce : List Item),
    check σ sn l c pend ce = ce ++ check σ sn l c pend [] :=
  (check_frame_both σ sn l).1

theorem checkAll_cons (σ : Store) (sn : Snap) (l : Level) (c : Core) (cs : List Core) (pend : List FldP) :
    checkAll σ sn l (c :: cs) pend [] = check σ sn l c pend [] ++ checkAll σ sn l cs pend [] := by
  simp only [checkAll]; rw [(check_frame_both σ sn l).2]

theorem check_disabled_both (σ : Store) (sn : Snap) (l : Level) :
    (∀ (c : Core) (pend : List FldP) (ce : List Item), enabled σ c l = false → check σ sn l c pend ce = ce) ∧
    (∀ (cs : List Core) (pend : List FldP) (ce : List Item), enabledAny σ cs l = false → checkAll σ sn l cs pend ce = ce) := by
  apply core_induct
  · intro i en io ctx pend ce h; simp only [enabled] at h; simp [check, h]
  · intro pend ce _; simp [check]
  · intro cs ih pend ce h; simp only [enabled] at h; simp only [check]; exact ih pend ce h
  · intro c en _ pend ce h; simp only [enabled] at h; simp [check, h]
  · intro c hk ih pend ce h; simp only [enabled] at h; simp [check, ih pend ce h]
  · intro c s p _ pend ce h; simp only [enabled] at h; simp [check, h]
  · intro cell c pfs _ pend ce h; simp only [enabled] at h; simp [check, h]
  · intro pend ce _; simp [checkAll]
  · intro c cs ih ihs pend ce h
    simp only [enabledAny, Bool.or_eq_false_iff] at h
    simp only [checkAll]
    rw [ih pend ce h.1]
    exact ihs pend ce h.2

theorem check_disabled (σ : Store) (sn : Snap) (l : Level) : ∀ (c : Core) (pend : List FldP) (ce : List Item),
    enabled σ c l = false → check σ sn l c pend ce = ce :=
  (check_disabled_both σ sn l).1

theorem checkEv_disabled_both (σ : Store) (μ : Val) (l : Level) :
    (∀ (c : Core) (w : W), enabled σ c l = false → checkEv σ μ l c w = w) ∧
    (∀ (cs : List Core) (w : W), enabledAny σ cs l = false → checkEvAll σ μ l cs w = w) := by
  apply core_induct
  · intro i en io ctx w _; simp [checkEv]
  · intro w _; simp [checkEv]
  · intro cs ih w h; simp only [enabled] at h; simp only [checkEv]; exact ih w h
  · intro c en _ w h; simp only [enabled] at h; simp [checkEv, h]
  · intro c hk ih w h; simp only [enabled] at h; simp only [checkEv]; exact ih w h
  · intro c s p _ w h; simp only [enabled] at h; simp [checkEv, h]
  · intro cell c pfs _ w h; simp only [enabled] at h; simp [checkEv, h]
  · intro w _; simp [checkEvAll]
  · intro c cs ih ihs w h
    simp only [enabledAny, Bool.or_eq_false_iff] at h
    simp only [checkEvAll]
    rw [ih w h.1]
    exact ihs w h.2

theorem checkEv_disabled (σ : Store) (μ : Val) (l : Level) : ∀ (c : Core) (w : W),
    enabled σ c l = false → checkEv σ μ l c w = w :=
  (checkEv_disabled_both σ μ l).1

theorem checkEvAll_disabled (σ : Store) (μ : Val) (l : Level) : ∀ (cs : List Core) (w : W),
    enabledAny σ cs l = false → checkEvAll σ μ l cs w = w :=
  (checkEv_disabled_both σ μ l).2

/-- a level filter met on the way from the root to a leaf -/
inductive Filt where
  | en (e : Enab)
  | samp (pass : Bool)

def Filt.ok (σ : Store) (l : Level) : Filt → Bool
  | .en e => e.on σ l
  | .samp p => !inRange l || p

mutual
/-- every leaf of the tree (left to right) with the filters on its path, outermost first -/
def paths : Core → List (Nat × List Filt)
  | .leaf i en _ _ => [(i, [.en en])]
  | .nop => []
  | .tee cs => pathsAll cs
  | .incr c en => (paths c).map fun p => (p.1, .en en :: p.2)
  | .hooked c _ => paths c
  | .sampler c _ p => (paths c).map fun q => (q.1, .samp p :: q.2)
  | .lazy _ c _ => paths c
def pathsAll : List Core → List (Nat × List Filt)
  | [] => []
  | c :: cs => paths c ++ pathsAll cs
end

def open_ (σ : Store) (l : Level) (p : Nat × List Filt) : Bool := p.2.all (Filt.ok σ l)

def leafIds : List Item → List Nat
  | [] => []
  | .leaf i _ _ :: r => i :: leafIds r
  | .hook _ :: r => leafIds r

theorem leafIds_append (a b : List Item) : leafIds (a ++ b) = leafIds a ++ leafIds b := by
  induction a with
  | nil => rfl
  | cons x r ih => cases x <;> simp [leafIds, ih]

theorem mem_leafIds (i : Nat) : ∀ (xs : List Item), i ∈ leafIds xs ↔ ∃ io ctx, Item.leaf i io ctx ∈ xs
  | [] => by simp [leafIds]
  | .leaf j io ctx :: r => by
      simp only [leafIds, List.mem_cons, mem_leafIds i r]
      constructor
      · rintro (rfl | ⟨io', ctx', h⟩)
        · exact ⟨io, ctx, Or.inl rfl⟩
        · exact ⟨io', ctx', Or.inr h⟩
      · rintro ⟨io', ctx', h | h⟩
        · left; injection h
        · right; exact ⟨io', ctx', h⟩
  | .hook h :: r => by
      simp only [leafIds, mem_leafIds i r, List.mem_cons]
      constructor
      · rintro ⟨io, ctx, h⟩; exact ⟨io, ctx, Or.inr h⟩
      · rintro ⟨io, ctx, h | h⟩
        · cases h
        · exact ⟨io, ctx, h⟩

theorem open_cons (σ : Store) (l : Level) (f : Filt) (ps : List (Nat × List Filt)) :
    ((ps.map fun p => (p.1, f :: p.2)).filter (open_ σ l)).map (·.1) =
      if f.ok σ l then (ps.filter (open_ σ l)).map (·.1) else [] := by
  cases hf : f.ok σ l
  · simp [List.filter_map, open_, hf, Function.comp_def]
  · simp [List.filter_map, open_, hf, Function.comp_def]; rfl

/-- the `Enabled` pre-check of a sampler changes nothing (a disabled core adds nothing anyway): the sampler is the
    filter `samp p` in front of its core -/
theorem check_sampler (σ : Store) (sn : Snap) (l : Level) (c : Core) (s : Nat) (p : Bool) (pend : List FldP) :
    check σ sn l (.sampler c s p) pend [] = if Filt.ok σ l (.samp p) then check σ sn l c pend [] else [] := by
  simp only [check, Filt.ok]
  cases he : enabled σ c l
  · simp [check_disabled σ sn l c pend [] he]
  · by_cases hr : inRange l = true <;> cases p <;> simp [hr]

/-- likewise the pre-check of a lazy core: it checks like its core with the pending fields pushed down -/
theorem check_lazy (σ : Store) (sn : Snap) (l : Level) (cell : Nat) (c : Core) (pfs : List Fld) (pend : List FldP)
    (ce : List Item) :
    check σ sn l (.lazy cell c pfs) pend ce = check σ sn l c (cellPairs sn cell pfs ++ pend) ce := by
  simp only [check]
  cases he : enabled σ c l
  · simp [check_disabled σ sn l c _ ce he]
  · simp

theorem leafIds_check_both (σ : Store) (sn : Snap) (l : Level) :
    (∀ (c : Core) (pend : List FldP), leafIds (check σ sn l c pend []) = ((paths c).filter (open_ σ l)).map (·.1)) ∧
    (∀ (cs : List Core) (pend : List FldP),
      leafIds (checkAll σ sn l cs pend []) = ((pathsAll cs).filter (open_ σ l)).map (·.1)) := by
  apply core_induct
  · intro i en io ctx pend
    simp only [check, paths]
    by_cases h : en.on σ l = true <;> simp [h, leafIds, open_, Filt.ok]
  · intro pend; simp [check, paths, leafIds]
  · intro cs ih pend; simp only [check, paths]; exact ih pend
  · intro c en ih pend
    simp only [check, paths]
    rw [open_cons]
    by_cases h : en.on σ l = true
    · simp only [h, if_true, Filt.ok]; exact ih pend
    · simp [h, Filt.ok, leafIds]
  · intro c h ih pend
    simp only [check, paths]
    split
    · rw [leafIds_append, ih pend]; simp [leafIds]
    · exact ih pend
  · intro c s p ih pend
    rw [check_sampler]
    simp only [paths]
    rw [open_cons]
    cases Filt.ok σ l (.samp p)
    · rfl
    · exact ih pend
  · intro cell c pfs ih pend; rw [check_lazy]; exact ih _
  · intro pend; simp [checkAll, pathsAll, leafIds]
  · intro c cs ih ihs pend
    rw [checkAll_cons, leafIds_append, ih pend, ihs pend]
    simp [pathsAll]

/-- the delivered leaves are exactly the leaves whose whole path is open, in tree order, with multiplicity -/
theorem leafIds_check (σ : Store) (sn : Snap) (l : Level) : ∀ (c : Core) (pend : List FldP),
    leafIds (check σ sn l c pend []) = ((paths c).filter (open_ σ l)).map (·.1) :=
  (leafIds_check_both σ sn l).1

theorem leafIds_checkAll (σ : Store) (sn : Snap) (l : Level) : ∀ (cs : List Core) (pend : List FldP),
    leafIds (checkAll σ sn l cs pend []) = ((pathsAll cs).filter (open_ σ l)).map (·.1) :=
  (leafIds_check_both σ sn l).2

/-- the valid level a reported level stands for: anything above Fatal is "nothing enabled", anything below Debug
    means Debug (an out-of-range AtomicLevel reports its own value) -/
def clampValid (L : Level) : Level := if L > 5 then invalidL else max L (-1)

theorem find_ge (q : Level → Bool) (a d : Level) : ∀ (r : List Level), (∀ x ∈ r, a ≤ x) → a ≤ d →
    a ≤ (r.find? q).getD d
  | [], _, hd => by simpa using hd
  | x :: r, hr, hd => by
      simp only [List.find?]
      split
      · simpa using hr x (by simp)
      · exact find_ge q a d r (fun y hy => hr y (by simp [hy])) hd

theorem scan_or (p q : Level → Bool) (d : Level) : ∀ (L : List Level), L.Pairwise (· < ·) → (∀ x ∈ L, x < d) →
    (L.find? (fun l => p l || q l)).getD d = min ((L.find? p).getD d) ((L.find? q).getD d)
  | [], _, _ => by simp
  | a :: r, hs, hd => by
      have hr : ∀ x ∈ r, a ≤ x := fun x hx => Int.le_of_lt ((List.pairwise_cons.mp hs).1 x hx)
      have had : a ≤ d := Int.le_of_lt (hd a (by simp))
      have ih := scan_or p q d r (List.pairwise_cons.mp hs).2 (fun x hx => hd x (by simp [hx]))
      have gp := find_ge p a d r hr had
      have gq := find_ge q a d r hr had
      cases hp : p a <;> cases hq : q a <;> simp only [List.find?, hp, hq, Bool.or_self, Bool.or_true, Bool.or_false, Option.getD_some]
      · exact ih
      · exact (Int.min_eq_right gp).symm
      · exact (Int.min_eq_left gq).symm
      · exact (Int.min_self a).symm

theorem foldr_ite_find {α β : Type} (p : α → Bool) (f : α → β) (d : β) (ls : List α) :
    ls.foldr (fun a r => if p a then f a else r) d = (ls.find? p).elim d f := by
  induction ls with
  | nil => rfl
  | cons a r ih => cases h : p a <;> simp [List.find?, h, ih]

/-- A counted scan with early exit, unrolled: `F g x` is the loop started with `g` units of fuel at counter value `x`,
    and `c 0, …, c n` are the values the counter takes. -/
theorem scan_unroll {α β : Type} (F : Nat → α → β) (c : Nat → α) (bad : α → Bool) (out : α → β) (n : Nat)
    (step : ∀ g i, i < n → F (g + 1) (c i) = if bad (c i) then out (c i) else F g (c (i + 1))) (fuel : Nat) :
    ∀ m i, i + m = n →
      F (fuel + m) (c i) = ((List.range' i m).map c).foldr (fun a r => if bad a then out a else r) (F fuel (c n))
  | 0, i, h => by rw [show i = n from h]; rfl
  | m + 1, i, h => by
      rw [← Nat.add_assoc, step (fuel + m) i (by omega), scan_unroll F c bad out n step fuel m (i + 1) (by omega)]
      rfl

/-- `scan_unroll` for an integer counter that runs through `ls = a, a + s, …` (`n` values): the scan is `ls.find? bad` -/
theorem scan_find {β : Type} (F : Nat → Int → β) (a s : Int) (bad : Int → Bool) (out : Int → β) (ls : List Int) (n : Nat)
    (hls : (List.range' 0 n).map (fun i : Nat => a + s * i) = ls)
    (step : ∀ g l, l ∈ ls → F (g + 1) l = if bad l then out l else F g (l + s)) (fuel : Nat) :
    F (fuel + n) a = (ls.find? bad).elim (F fuel (a + s * n)) out := by
  have h := scan_unroll F (fun i : Nat => a + s * i) bad out n (fun g i hi => by
    have hm : a + s * (i : Int) ∈ ls := hls ▸ List.mem_map.mpr ⟨i, by simp [List.mem_range']; omega, rfl⟩
    rw [step g _ hm, Int.natCast_succ, Int.mul_add, Int.mul_one, Int.add_assoc]) fuel n 0 (Nat.zero_add n)
  rw [hls, foldr_ite_find, Int.natCast_zero, Int.mul_zero, Int.add_zero] at h
  exact h

theorem validLevels_sorted : validLevels.Pairwise (· < ·) := by decide
theorem validLevels_lt : ∀ x ∈ validLevels, x < invalidL := by decide

theorem leastValid_or (p q : Level → Bool) :
    leastValid (fun l => p l || q l) = min (leastValid p) (leastValid q) :=
  scan_or p q invalidL validLevels validLevels_sorted validLevels_lt

theorem leastValid_range (p : Level → Bool) : -1 ≤ leastValid p ∧ leastValid p ≤ 6 := by
  unfold leastValid
  cases h : validLevels.find? p with
  | none => simp [invalidL]
  | some x =>
    have hm := List.mem_of_find?_eq_some h
    simp only [validLevels, List.mem_cons, List.not_mem_nil, or_false] at hm
    simp only [Option.getD_some]
    lomega

theorem leastValid_spec (p : Level → Bool) :
    (leastValid p = invalidL ∧ ∀ x ∈ validLevels, p x = false) ∨
    (leastValid p ∈ validLevels ∧ p (leastValid p) = true ∧ ∀ x ∈ validLevels, x < leastValid p → p x = false) := by
  unfold leastValid
  cases h : validLevels.find? p with
  | none =>
    left; refine ⟨rfl, ?_⟩
    intro x hx
    have := List.find?_eq_none.mp h x hx
    simpa using this
  | some y =>
    right
    simp only [Option.getD_some]
    refine ⟨List.mem_of_find?_eq_some h, List.find?_some h, ?_⟩
    intro x hx hlt
    -- everything before the first hit is rejected
    obtain ⟨as, bs, hab, hno⟩ := List.find?_eq_some_iff_append.mp h |>.2
    have hsorted := validLevels_sorted
    rw [hab] at hx hsorted
    rcases List.mem_append.mp hx with hxa | hxb
    · simpa using hno x hxa
    · exfalso
      rcases List.mem_cons.mp hxb with rfl | hxb
      · lomega
      · have := (List.pairwise_cons.mp (List.pairwise_append.mp hsorted).2.1).1 x hxb
        lomega

theorem leastValid_none (p : Level → Bool) (h : ∀ l, p l = false) : leastValid p = invalidL := by
  rcases leastValid_spec p with ⟨h1, _⟩ | ⟨_, h2, _⟩
  · exact h1
  · rw [h] at h2; cases h2

theorem mem_validLevels (x : Level) : x ∈ validLevels ↔ -1 ≤ x ∧ x ≤ 5 := by
  simp only [validLevels, List.mem_cons, List.not_mem_nil, or_false, Level]; omega

theorem clampValid_leastValid (p : Level → Bool) : clampValid (leastValid p) = leastValid p := by
  have := leastValid_range p
  unfold clampValid invalidL
  split <;> lomega

theorem clampValid_mono {a b : Level} (h : a ≤ b) : clampValid a ≤ clampValid b := by
  simp only [clampValid, invalidL, Level] at *; omega

theorem clampValid_min (a b : Level) : clampValid (min a b) = min (clampValid a) (clampValid b) := by
  rcases Int.le_total a b with h | h
  · rw [Int.min_eq_left h, Int.min_eq_left (clampValid_mono h)]
  · rw [Int.min_eq_right h, Int.min_eq_right (clampValid_mono h)]

theorem clampValid_atomic (t : Level) : clampValid t = leastValid (fun l => decide (t ≤ l)) := by
  rcases leastValid_spec (fun l => decide (t ≤ l)) with ⟨h, hn⟩ | ⟨hm, hp, hlt⟩
  · have h5 : ¬ t ≤ 5 := of_decide_eq_false (hn 5 (by decide))
    rw [h]; simp only [clampValid, invalidL, Level] at *; omega
  · -- `max t (-1)` passes the test, so it is not below the first hit
    generalize leastValid _ = m at *
    rw [mem_validLevels] at hm
    have hp : t ≤ m := of_decide_eq_true hp
    have hx : ¬ max t (-1) < m := fun hx =>
      absurd (hlt (max t (-1)) ((mem_validLevels _).2 (by lomega)) hx) (by simp only [decide_eq_false_iff_not, Level]; omega)
    simp only [clampValid, invalidL, Level] at *; omega

theorem enab_levelOf (σ : Store) (e : Enab) : clampValid (e.levelOf σ) = leastValid (e.on σ) := by
  cases e with
  | fn f => exact clampValid_leastValid f
  | atomic i => exact clampValid_atomic (σ i)

/-- the reported level is the least valid level that is enabled (Invalid when none is) -/
theorem levelOf_clamp (σ : Store) :
    (∀ c : Core, clampValid (levelOf σ c) = leastValid (enabled σ c)) ∧
    (∀ cs : List Core, clampValid (levelOfAll σ cs) = leastValid (enabledAny σ cs)) := by
  apply core_induct
  · intro i en io ctx; simpa [levelOf, enabled] using enab_levelOf σ en
  · rw [leastValid_none (enabled σ .nop) (fun l => by simp [enabled])]; rfl
  · intro cs ih; simpa [levelOf, enabled] using ih
  · intro c en _; simpa [levelOf, enabled] using enab_levelOf σ en
  · intro c h ih; simpa [levelOf, enabled] using ih
  · intro c s p ih; simpa [levelOf, enabled] using ih
  · intro cell c pfs _
    simp only [levelOf]
    have : enabled σ (.lazy cell c pfs) = enabled σ c := by funext l; simp [enabled]
    rw [this]; exact clampValid_leastValid _
  · rw [leastValid_none (enabledAny σ []) (fun l => by simp [enabledAny])]; rfl
  · intro c cs ih ihs
    simp only [levelOfAll]
    rw [clampValid_min, ih, ihs, ← leastValid_or]
    congr 1

theorem levelOfAll_clamp (σ : Store) : ∀ (cs : List Core), clampValid (levelOfAll σ cs) = leastValid (enabledAny σ cs) :=
  (levelOf_clamp σ).2

theorem Enab.levelOf_none (σ : Store) (e : Enab) (h : ∀ l, e.on σ l = false) : e.levelOf σ = invalidL := by
  cases e with
  | fn f => exact leastValid_none f h
  | atomic j => have := h (σ j); simp [Enab.on] at this

theorem levelOf_none (σ : Store) :
    (∀ c : Core, (∀ l, enabled σ c l = false) → levelOf σ c = invalidL) ∧
    (∀ cs : List Core, (∀ l, enabledAny σ cs l = false) → levelOfAll σ cs = invalidL) := by
  apply core_induct
  · intro i en io ctx h; exact Enab.levelOf_none σ en (fun l => by simpa [enabled] using h l)
  · intro _; rfl
  · intro cs ih h; simp only [levelOf]; exact ih (fun l => by simpa [enabled] using h l)
  · intro c en _ h; exact Enab.levelOf_none σ en (fun l => by simpa [enabled] using h l)
  · intro c hk ih h; simp only [levelOf]; exact ih (fun l => by simpa [enabled] using h l)
  · intro c s p ih h; simp only [levelOf]; exact ih (fun l => by simpa [enabled] using h l)
  · intro cell c pfs _ h; simp only [levelOf]; exact leastValid_none _ (fun l => by simpa [enabled] using h l)
  · intro _; rfl
  · intro c cs ih ihs h
    have h1 : ∀ l, enabled σ c l = false := fun l => by
      have := h l; simp only [enabledAny, Bool.or_eq_false_iff] at this; exact this.1
    have h2 : ∀ l, enabledAny σ cs l = false := fun l => by
      have := h l; simp only [enabledAny, Bool.or_eq_false_iff] at this; exact this.2
    simp [levelOfAll, ih h1, ihs h2]

theorem levelOfAll_none (σ : Store) : ∀ (cs : List Core), (∀ l, enabledAny σ cs l = false) → levelOfAll σ cs = invalidL :=
  (levelOf_none σ).2

theorem levelOfAll_le (σ : Store) : ∀ cs : List Core, levelOfAll σ cs ≤ 6
  | [] => Int.le_refl _
  | _ :: cs => Int.le_trans (Int.min_le_right _ _) (levelOfAll_le σ cs)

/-- the running minimum of `multiCore.Level`'s loop, from any start below `InvalidLevel` -/
theorem foldl_min_levelOfAll (σ : Store) : ∀ (cs : List Core) (m : Int), m ≤ 6 →
    cs.foldl (fun m c => min m (levelOf σ c)) m = min m (levelOfAll σ cs)
  | [], m, h => (Int.min_eq_left h).symm
  | c :: cs, m, h => by
      simp only [List.foldl_cons, levelOfAll]
      rw [foldl_min_levelOfAll σ cs _ (Int.le_trans (Int.min_le_left _ _) h), Int.min_assoc]

theorem pushFAll_map (sn : Snap) (fs : List FldP) : ∀ cs, pushFAll sn cs fs = cs.map fun c => pushF sn c fs
  | [] => rfl
  | c :: cs => by simp [pushFAll, pushFAll_map sn fs cs]

theorem paths_pushF (sn : Snap) :
    (∀ (c : Core) (fs : List FldP), paths (pushF sn c fs) = paths c) ∧
    (∀ (cs : List Core) (fs : List FldP), pathsAll (pushFAll sn cs fs) = pathsAll cs) := by
  apply core_induct
  · intro i en io ctx fs; simp [pushF, paths]
  · intro fs; simp [pushF, paths]
  · intro cs ih fs; simp only [pushF, paths]; exact ih fs
  · intro c en ih fs; simp only [pushF, paths]; rw [ih fs]
  · intro c h ih fs; simp only [pushF, paths]; exact ih fs
  · intro c s p ih fs; simp only [pushF, paths]; rw [ih fs]
  · intro cell c pfs ih fs; simp only [pushF, paths]; exact ih _
  · intro fs; simp [pushFAll, pathsAll]
  · intro c cs ih ihs fs; simp only [pushFAll, pathsAll]; rw [ih fs, ihs fs]

theorem pathsAll_pushF (sn : Snap) : ∀ (cs : List Core) (fs : List FldP), pathsAll (pushFAll sn cs fs) = pathsAll cs :=
  (paths_pushF sn).2

theorem enabled_pushF_both (σ : Store) (sn : Snap) (l : Level) :
    (∀ (c : Core) (fs : List FldP), enabled σ (pushF sn c fs) l = enabled σ c l) ∧
    (∀ (cs : List Core) (fs : List FldP), enabledAny σ (pushFAll sn cs fs) l = enabledAny σ cs l) := by
  apply core_induct
  · intro i en io ctx fs; simp [pushF, enabled]
  · intro fs; simp [pushF, enabled]
  · intro cs ih fs; simp only [pushF, enabled]; exact ih fs
  · intro c en _ fs; simp [pushF, enabled]
  · intro c h ih fs; simp only [pushF, enabled]; exact ih fs
  · intro c s p ih fs; simp only [pushF, enabled]; exact ih fs
  · intro cell c pfs ih fs; simp only [pushF, enabled]; exact ih _
  · intro fs; simp [pushFAll, enabledAny]
  · intro c cs ih ihs fs; simp only [pushFAll, enabledAny]; rw [ih fs, ihs fs]

theorem enabled_pushF (σ : Store) (sn : Snap) (l : Level) : ∀ (c : Core) (fs : List FldP),
    enabled σ (pushF sn c fs) l = enabled σ c l :=
  (enabled_pushF_both σ sn l).1

theorem enabledAny_pushF (σ : Store) (sn : Snap) (l : Level) : ∀ (cs : List Core) (fs : List FldP),
    enabledAny σ (pushFAll sn cs fs) l = enabledAny σ cs l :=
  (enabled_pushF_both σ sn l).2

mutual
/-- every IncreaseLevel wrapper passes the validation of `NewIncreaseLevelCore` under the store `σ` -/
def wellBuilt (σ : Store) : Core → Bool
  | .leaf _ _ _ _ => true
  | .nop => true
  | .tee cs => wellBuiltAll σ cs
  | .incr c en => incrValid σ c en && wellBuilt σ c
  | .hooked c _ => wellBuilt σ c
  | .sampler c _ _ => wellBuilt σ c
  | .lazy _ c _ => wellBuilt σ c
def wellBuiltAll (σ : Store) : List Core → Bool
  | [] => true
  | c :: cs => wellBuilt σ c && wellBuiltAll σ cs
end

mutual
/-- no sampler on the tree drops at level `l` -/
def noDrop (l : Level) : Core → Bool
  | .leaf _ _ _ _ => true
  | .nop => true
  | .tee cs => noDropAll l cs
  | .incr c _ => noDrop l c
  | .hooked c _ => noDrop l c
  | .sampler c _ p => (!inRange l || p) && noDrop l c
  | .lazy _ c _ => noDrop l c
def noDropAll (l : Level) : List Core → Bool
  | [] => true
  | c :: cs => noDrop l c && noDropAll l cs
end

theorem enabled_delivers (σ : Store) (sn : Snap) (l : Level) (hl : l ∈ validLevels) :
    (∀ (c : Core) (pend : List FldP),
      wellBuilt σ c = true → noDrop l c = true → enabled σ c l = true → check σ sn l c pend [] ≠ []) ∧
    (∀ (cs : List Core) (pend : List FldP),
      wellBuiltAll σ cs = true → noDropAll l cs = true → enabledAny σ cs l = true → checkAll σ sn l cs pend [] ≠ []) := by
  apply core_induct
  · intro i en io ctx pend _ _ he; simp only [enabled] at he; simp [check, he]
  · intro pend _ _ he; simp [enabled] at he
  · intro cs ih pend hw hn he
    simp only [wellBuilt] at hw; simp only [noDrop] at hn; simp only [enabled] at he
    simp only [check]; exact ih pend hw hn he
  · intro c en ih pend hw hn he
    simp only [wellBuilt, incrValid, Bool.and_eq_true, List.all_eq_true] at hw
    simp only [noDrop] at hn; simp only [enabled] at he
    -- validation at construction: what the new enabler allows, the core allows
    have hc : enabled σ c l = true := by
      have := hw.1 l hl; simpa [he] using this
    simp only [check, he, if_true]
    exact ih pend hw.2 hn hc
  · intro c h ih pend hw hn he
    simp only [wellBuilt] at hw; simp only [noDrop] at hn; simp only [enabled] at he
    have := ih pend hw hn he
    simp only [check]
    split
    · simp
    · exact this
  · intro c s p ih pend hw hn he
    simp only [wellBuilt] at hw; simp only [noDrop, Bool.and_eq_true] at hn; simp only [enabled] at he
    rw [check_sampler, show Filt.ok σ l (.samp p) = true from hn.1, if_pos rfl]
    exact ih pend hw hn.2 he
  · intro cell c pfs ih pend hw hn he
    simp only [wellBuilt] at hw; simp only [noDrop] at hn; simp only [enabled] at he
    rw [check_lazy]
    exact ih _ hw hn he
  · intro pend _ _ he; simp [enabledAny] at he
  · intro c cs ih ihs pend hw hn he
    simp only [wellBuiltAll, Bool.and_eq_true] at hw
    simp only [noDropAll, Bool.and_eq_true] at hn
    simp only [enabledAny, Bool.or_eq_true] at he
    rw [checkAll_cons]
    rcases he with he | he
    · have := ih pend hw.1 hn.1 he
      simp [this]
    · have := ihs pend hw.2 hn.2 he
      simp [this]

theorem enabledAny_delivers (σ : Store) (sn : Snap) (l : Level) (hl : l ∈ validLevels) : ∀ (cs : List Core) (pend : List FldP),
    wellBuiltAll σ cs = true → noDropAll l cs = true → enabledAny σ cs l = true → checkAll σ sn l cs pend [] ≠ [] :=
  (enabled_delivers σ sn l hl).2

theorem W.emit_nil (w : W) : w.emit [] = w := by simp [W.emit]

theorem log_eq_checked (σ : Store) (μ : Val) (lg : Logger) (l : Level) (fs : List Fld) (w : W) :
    lg.log σ μ l fs w =
      if (decide (l < dpanicL) && !enabled σ lg.core l) = true then w else lg.checked σ μ l fs w := by
  by_cases hg : (decide (l < dpanicL) && !enabled σ lg.core l) = true
  · simp [Logger.log, Logger.check, hg]
  · by_cases h0 : check σ (checkEv σ μ l lg.core w).snap l lg.core [] [] = [] ∧ lg.terminal l = none
    · simp only [Logger.log, Logger.check, Logger.checked, hg, h0, and_self, if_true, Bool.false_eq_true, if_false]
      simp [CE.write, W.emit, termEvs]
    · simp only [Logger.log, Logger.check, Logger.checked, hg, h0, Bool.false_eq_true, if_false]

def FrontEnd.lts (fe : FrontEnd) : List Bool :=
  match fe.level with
  | some k => [decide (k < dpanicL)]
  | none => [true, false]

/-- the guards on the chain, taken together, say exactly "skip iff below DPanic and disabled" -/
def FrontEnd.exact (fe : FrontEnd) : Bool :=
  fe.lts.all fun lt => [true, false].all fun en => fe.guards.all (Guard.pass lt en) == !(lt && !en)

/-- the same, except that nothing is said about disabled entries from DPanic upwards -/
def FrontEnd.sound (fe : FrontEnd) : Bool :=
  fe.lts.all fun lt => [true, false].all fun en => !(lt || en) || (fe.guards.all (Guard.pass lt en) == !(lt && !en))

theorem FrontEnd.lt_mem (fe : FrontEnd) (l : Level) (ha : fe.takes l = true) : decide (l < dpanicL) ∈ fe.lts := by
  unfold FrontEnd.takes at ha
  unfold FrontEnd.lts
  cases hlv : fe.level with
  | none => cases decide (l < dpanicL) <;> simp
  | some k =>
    simp only [hlv] at ha
    have hk : k = l := by simpa using ha
    subst hk; simp

theorem guards_of_exact (fe : FrontEnd) (hx : fe.exact = true) (l : Level) (ha : fe.takes l = true) (en : Bool) :
    fe.guards.all (Guard.pass (decide (l < dpanicL)) en) = !(decide (l < dpanicL) && !en) := by
  unfold FrontEnd.exact at hx
  have h1 := List.all_eq_true.mp hx _ (fe.lt_mem l ha)
  have h2 := List.all_eq_true.mp h1 en (by cases en <;> simp)
  simpa using h2

theorem guards_of_sound (fe : FrontEnd) (hx : fe.sound = true) (l : Level) (ha : fe.takes l = true) (en : Bool)
    (h : l < dpanicL ∨ en = true) :
    fe.guards.all (Guard.pass (decide (l < dpanicL)) en) = !(decide (l < dpanicL) && !en) := by
  unfold FrontEnd.sound at hx
  have h1 := List.all_eq_true.mp hx _ (fe.lt_mem l ha)
  have h2 := List.all_eq_true.mp h1 en (by cases en <;> simp)
  have h3 : (decide (l < dpanicL) || en) = true := by
    rcases h with h | h
    · simp [h]
    · simp [h]
  simp only [h3, Bool.not_true, Bool.false_or] at h2
  simpa using h2

end ZapVerif.Cores
