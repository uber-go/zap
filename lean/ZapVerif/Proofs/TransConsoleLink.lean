import ZapVerif.Proofs.TransConsole
import ZapVerif.Model.Console
/-! `TransConsole.consoleBytes` — what the interpreted console `EncodeEntry` computes (Props/C16.lean) — is
    `Console.consoleLine`, the function the C16 theorems are stated over, whenever the sub-encoders append to the slice
    encoder what the model's `Cols` say and `addFields` does on the scratch encoder what the model's call trees say.
    Nothing here depends on the generated terms. -/
namespace ZapVerif.TransConsole
open ZapVerif ZapVerif.GoMini ZapVerif.Enc ZapVerif.Entry ZapVerif.Console
open ZapVerif.TransJsonEnc (St closeNs ECfg EEnt)

def colsV (l : List Bytes) : List Val := l.map Val.bytes

theorem ite_append_left {α} (p : Prop) [Decidable p] (l a : List α) :
    (if p then l ++ a else l) = l ++ if p then a else [] := by
  split <;> simp
theorem ite_append_right {α} (p : Prop) [Decidable p] (l a : List α) :
    (if p then l else l ++ a) = l ++ if p then [] else a := by
  split <;> simp
theorem sepIf_append (sepc line t : Bytes) :
    Console.sepIf sepc line ++ t = line ++ ((if line.isEmpty then [] else sepc) ++ t) := by
  unfold Console.sepIf; split <;> simp

theorem joinCols_succ (P : Par) (ht : ∀ t : Bytes, P.text (.bytes t) = t) (sepc : Bytes) :
    ∀ (xs : List Bytes) (i : Nat) (line : Bytes),
      joinCols P sepc line ((colsV xs).zipIdx (i + 1)) = line ++ (xs.map (sepc ++ ·)).flatten
  | [], _, line => by simp [joinCols, colsV]
  | x :: xs, i, line => by
    have := joinCols_succ P ht sepc xs (i + 1) (line ++ sepc ++ x)
    simp only [colsV, List.map_cons, List.zipIdx_cons, joinCols, List.foldl_cons] at this ⊢
    simp only [ht, gt_iff_lt, if_true, Nat.zero_lt_succ]
    rw [this]; simp [List.append_assoc]

theorem joinSep_eq (sepc : Bytes) : ∀ (x : Bytes) (xs : List Bytes), joinSep sepc (x :: xs) = x ++ (xs.map (sepc ++ ·)).flatten
  | x, [] => by simp [joinSep]
  | x, y :: r => by simp [joinSep, joinSep_eq sepc y r, List.append_assoc]

theorem joinCols_eq (P : Par) (ht : ∀ t : Bytes, P.text (.bytes t) = t) (sepc : Bytes) (xs : List Bytes) :
    joinCols P sepc [] ((colsV xs).zipIdx) = joinSep sepc xs := by
  cases xs with
  | nil => simp [joinCols, colsV, joinSep]
  | cons x r =>
    have h := joinCols_succ P ht sepc r 0 x
    simp only [colsV, List.map_cons, List.zipIdx_cons, joinCols, List.foldl_cons] at h ⊢
    simp only [ht, gt_iff_lt, Nat.lt_irrefl, if_false, List.nil_append, Nat.zero_add]
    rw [h, joinSep_eq]

/-- how configuration, entry and parameters correspond to the model's `Cfg` / `Ent` / `Cols` -/
structure ConsoleLink (P : Par) (c : ECfg) (e : EEnt) (cfg : Cfg) (ent : Ent) (k : Cols) : Prop where
  timeKey : c.timeKey = cfg.timeKey
  levelKey : c.levelKey = cfg.levelKey
  nameKey : c.nameKey = cfg.nameKey
  callerKey : c.callerKey = cfg.callerKey
  functionKey : c.functionKey = cfg.functionKey
  messageKey : c.messageKey = cfg.messageKey
  stacktraceKey : c.stacktraceKey = cfg.stacktraceKey
  lineEnding : c.lineEnding = cfg.ending
  name : e.name = ent.name
  message : e.message = ent.message
  function : e.function = ent.function
  stack : e.stack = ent.stack
  defined : e.callerDefined = ent.callerDefined
  text : ∀ t : Bytes, P.text (.bytes t) = t
  timeZero : P.timeIsZero e.time = ent.time.isNone
  timeNil : c.encTime.isEmpty → k.time = none
  timeCol : ∀ es, P.colTime c.encTime e.time es = es ++ colsV (optL k.time)
  levelNil : c.encLevel.isEmpty → k.level = none
  levelCol : ∀ es, P.colLevel c.encLevel (.int e.level) es = es ++ colsV (optL k.level)
  nameCol : ∀ es, P.colName (TransJsonEnc.nameFn c) (.bytes e.name) es = es ++ colsV (optL k.name)
  callerNil : c.encCaller.isEmpty → k.caller = none
  callerCol : ∀ es, P.colCaller c.encCaller e.caller es = es ++ colsV (optL k.caller)

/-- one optional column: skipped by the guard (`skip`), or its encoder is nil and then the model has no text for it -/
theorem col_eq (skip isNil : Bool) (o : Option Bytes) (hn : isNil = true → o = none) (es col : List Val)
    (hc : col = es ++ colsV (optL o)) :
    (if skip || isNil then es else col) = es ++ colsV (if !skip then optL o else []) := by
  subst hc
  cases skip <;> cases isNil <;> simp_all [colsV, optL]

theorem elems_eq (P : Par) (c : ECfg) (e : EEnt) (cfg : Cfg) (ent : Ent) (k : Cols) (L : ConsoleLink P c e cfg ent k) :
    elems P c e = colsV (columns cfg ent k) := by
  have h1 : ∀ es, timeCol P c e es = es ++ colsV (if !cfg.timeKey.isEmpty && ent.time.isSome then optL k.time else []) := by
    intro es
    have := col_eq (cfg.timeKey.isEmpty || ent.time.isNone) c.encTime.isEmpty k.time L.timeNil es _ (L.timeCol es)
    simpa [TransConsole.timeCol, L.timeKey, L.timeZero, Bool.or_right_comm] using this
  have h2 : ∀ es, levelCol P c e es = es ++ colsV (if !cfg.levelKey.isEmpty then optL k.level else []) := by
    intro es
    simpa [TransConsole.levelCol, L.levelKey] using col_eq cfg.levelKey.isEmpty c.encLevel.isEmpty k.level L.levelNil es _ (L.levelCol es)
  have h3 : ∀ es, nameCol P c e es = es ++ colsV (if !ent.name.isEmpty && !cfg.nameKey.isEmpty then optL k.name else []) := by
    intro es
    simpa [TransConsole.nameCol, L.nameKey, L.name] using
      col_eq (ent.name.isEmpty || cfg.nameKey.isEmpty) false k.name (by simp) es _ (L.nameCol es)
  have h4 : ∀ es, callerCol P c e es = es ++ colsV (if ent.callerDefined then
      (if !cfg.callerKey.isEmpty then optL k.caller else []) ++ (if !cfg.functionKey.isEmpty then [ent.function] else [])
      else []) := by
    intro es
    have := col_eq cfg.callerKey.isEmpty c.encCaller.isEmpty k.caller L.callerNil es _ (L.callerCol es)
    unfold TransConsole.callerCol
    rw [L.defined, L.callerKey, L.functionKey, L.function, this]
    cases ent.callerDefined <;> cases cfg.functionKey.isEmpty <;> simp [colsV]
  rw [elems, h4, h3, h2, h1, columns]
  simp [colsV, List.map_append, List.append_assoc]
theorem consoleBytes_is_consoleLine (P : Par) (c : ECfg) (e : EEnt) (cfg : Cfg) (ent : Ent) (k : Cols)
    (L : ConsoleLink P c e cfg ent k) (sepRaw : Bytes) (ctx : List (List Field)) (fields : List Field) (fv : Val)
    (hf : ∀ (b : Bytes) (n : Nat), (P.addFields fv true ⟨b, n, [], []⟩).buf = (runO true ⟨b, n⟩ (addFields fields)).buf ∧
      (P.addFields fv true ⟨b, n, [], []⟩).ns = ((runO true ⟨b, n⟩ (addFields fields)).openNs : Int)) :
    consoleBytes P c (if sepRaw.isEmpty then [9] else sepRaw) (ctxEnc true ctx).buf true (ctxEnc true ctx).openNs e fv =
      consoleLine cfg sepRaw ent k ctx fields := by
  unfold consoleBytes consoleLine
  have hcb : ctxBytes P (ctxEnc true ctx).buf true (ctxEnc true ctx).openNs fv = contextBytes ctx fields := by
    unfold ctxBytes ctxSt contextBytes closeNs
    obtain ⟨h1, h2⟩ := hf (ctxEnc true ctx).buf (ctxEnc true ctx).openNs
    rw [h1, h2]; simp
  simp only [elems_eq P c e cfg ent k L, joinCols_eq P L.text]
  unfold writeContextSpec messageLine stackLine
  rw [hcb, L.messageKey, L.message, L.stack, L.stacktraceKey, L.lineEnding]
  -- what is left is the polarity of the guards: `if k.isEmpty then l else …` here, `if !k.isEmpty then … else l` there
  have hs : TransConsole.sepIf = Console.sepIf := rfl
  simp only [hs, Bool.not_eq_true', ← Bool.not_or]
  simp only [← Bool.not_eq_true, ite_not]

end ZapVerif.TransConsole
