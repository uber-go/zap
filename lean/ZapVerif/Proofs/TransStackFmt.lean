import ZapVerif.Proofs.GoMini
import ZapVerif.Model.TransStackFmtX
/-! Lookup facts for the `…_matches_source` theorems of Props/C15.lean about Gen/TransStackFmt.lean. -/
namespace ZapVerif.TransStackFmt
open ZapVerif ZapVerif.GoMini ZapVerif.Gen.TransStackFmt

@[simp] theorem X_funs : X.funs = funs := id rfl
@[simp] theorem X_ext : X.ext = ext := id rfl
@[simp] theorem ext_eq :
    (∀ b n, ext "Buffer.AppendInt" [.bytes b, .int n] = some [.bytes (b ++ Callers.itoa n.toNat)]) ∧
    ext "Frames.Next" [.list []] = some [.list [], zeroFrame, .bool false] ∧
    (∀ f r, ext "Frames.Next" [.list (f :: r)] = some [.list r, f, .bool (!r.isEmpty)]) := by
  unfold ext ext.match_1
  simp only [String.reduceEq, ↓reduceDIte, implies_true, and_true]
@[simp] theorem bi_0 (a : List Val) : builtin "Buffer.AppendInt" a = none := builtin_none _ _ (by simp)

end ZapVerif.TransStackFmt
