import ZapVerif.Model.Field
import ZapVerif.Gen.Fields
import ZapVerif.Gen.AddTo
import ZapVerif.Gen.Any
import ZapVerif.Gen.Equals
/-! Specification predicates of C03, stated over the regenerated definitions (`Gen.addTo`, `Gen.ctors`, `Gen.equalsArm`,
`Gen.anySwitch`) — what "the encoder receives exactly the value the constructor was given" means per signature kind —
and the small lemmas/tactics the proofs in `Props/C03.lean` use.  Core-only. -/
namespace ZapVerif.Field
open ZapVerif

/-- what the encoder receives from `f.AddTo(enc)` when no encoder method returns an error -/
def delivered (f : Fld) : Except String (List Call) := Gen.addTo f none

/-- the value arrives through a method of its own type, unchanged, under the same key, and nothing else is added -/
def NumOk (t : GoT) (g : Bytes → Int → Fld) : Prop :=
  ∀ key v, t.inRange v → ∃ m ∈ t.accepts, delivered (g key v) = .ok [⟨m, key, .int v⟩]

def BoolOk (g : Bytes → Bool → Fld) : Prop :=
  ∀ key v, delivered (g key v) = .ok [⟨.AddBool, key, .bool v⟩]

def StrOk (g : Bytes → Bytes → Fld) : Prop :=
  ∀ key v, delivered (g key v) = .ok [⟨.AddString, key, .str v⟩]

/-- same instant, same location — for every instant, on both sides of the int64-nanosecond range -/
def TimeOk (g : Bytes → Time → Fld) : Prop :=
  ∀ key t, delivered (g key t) = .ok [⟨.AddTime, key, .time t⟩]

/-- `q` is the value `p`, possibly under a named slice type (`dictObject(val)`): same identity, text, elements -/
def SameValue : Payload → Payload → Prop
  | .box a, .box b => a.id = b.id ∧ a.tok = b.tok ∧ a.text = b.text ∧ a.elems = b.elems ∧ a.refl = b.refl
  | p, q => q = p

@[simp] theorem sameValue_refl (p : Payload) : SameValue p p := by
  cases p <;> simp [SameValue]

/-- how an opaque value must arrive: as itself (`false`) or as its `String()`/`Error()` text (`true`) -/
def BoxVal (astext : Bool) (p : Payload) (cv : CVal) : Prop :=
  if astext then cv = .str (textOf p) else ∃ q, cv = .pay q ∧ SameValue p q

def boxSpec' : String → Option (List Meth × Bool)
  | "[]Field" => some ([.AddObject], false)
  | "...Field" => some ([.AddObject], false)
  | t => boxSpec t

/-- an opaque value of static type `ptype` (non-nil) arrives as itself through a method for that type -/
def BoxOk (ptype : String) (g : Bytes → Payload → Fld) : Prop :=
  match boxSpec' ptype with
  | none => False        -- a parameter type the specification does not know (extend `boxSpec`)
  | some (ms, astext) =>
    ∀ key p, p.hasType ptype → ∃ m ∈ ms, ∃ cv, delivered (g key p) = .ok [⟨m, key, cv⟩] ∧ BoxVal astext p cv

def ValOk (ptype : String) : (k : VK) → (Bytes → k.T → Fld) → Prop
  | .num t, g => NumOk t g
  | .bool, g => BoolOk g
  | .str, g => StrOk g
  | .time, g => TimeOk g
  | .box, g => BoxOk ptype g

/-- constructors without a key parameter (`Inline`, `Error`): same, under the field's own (fixed) key -/
def V1Ok (ptype : String) : (k : VK) → (k.T → Fld) → Prop
  | .box, g =>
    match boxSpec' ptype with
    | none => False
    | some (ms, astext) =>
      (∀ p, p.hasType ptype → ∃ m ∈ ms, ∃ cv, delivered (g p) = .ok [⟨m, (g p).key, cv⟩] ∧ BoxVal astext p cv) ∧
      (∀ p q, p.hasType ptype → q.hasType ptype → (g p).key = (g q).key)
  | _, _ => False

/-- a nil pointer is an explicit null: `AddReflected(key, nil)` -/
def NilOk (g : Bytes → Fld) : Prop :=
  ∀ key, delivered (g key) = .ok [⟨.AddReflected, key, .pay .nil⟩]

def NamespaceOk (g : Bytes → Fld) : Prop :=
  ∀ key, delivered (g key) = .ok [⟨.OpenNamespace, key, .none⟩]

/-- element methods for opaque element types: (methods, delivered as text, nil elements skipped) -/
def boxSpecA' : String → Option (List AM × Bool × Bool)
  | "error" => some ([.AppendObject], false, true)
  | t => (boxSpecA t).map fun (ms, tx) => (ms, tx, false)

/-- the marshaler emits exactly one call per element, in order, each carrying the element unchanged -/
def ElemsOk (etype : String) : (k : VK) → List k.T → List ACall → Prop
  | .num t, xs, cs => ∃ m ∈ t.acceptsA, cs = xs.map fun x => ⟨m, .int x⟩
  | .bool, xs, cs => cs = xs.map fun x => ⟨.AppendBool, .bool x⟩
  | .str, xs, cs => cs = xs.map fun x => ⟨.AppendString, .str x⟩
  | .time, xs, cs => cs = xs.map fun x => ⟨.AppendTime, .time x⟩
  | .box, xs, cs =>
    match boxSpecA' etype with
    | none => False
    | some (ms, astext, skipNil) =>
      ∃ m ∈ ms, cs = ((if skipNil then xs.filter (fun x => x != Payload.nil) else xs).map fun x =>
        ⟨m, if astext then .str (textOf x) else .tok x.id⟩)

/-- a slice constructor delivers one `AddArray(key, m)` whose marshaler emits the elements -/
def SliceOk (etype : String) (k : VK) (g : Bytes → List k.T → Fld) : Prop :=
  ∀ key xs, ∃ b, delivered (g key xs) = .ok [⟨.AddArray, key, .pay (.box b)⟩] ∧ ElemsOk etype k xs b.elems

/-- the obligation of one row of `Gen.ctors` -/
def Ctor.Ok (c : Ctor) : Prop :=
  match c.fn with
  | .k0 f => delivered f = .ok []
  | .k1 g => NamespaceOk g ∨ NilOk g
  | .v1 k g => V1Ok c.ptype k g
  | .kv k g => ValOk c.ptype k g
  | .kp k g => NilOk (fun key => g key none) ∧ ValOk c.etype k (fun key v => g key (some v))
  | .ks k g => SliceOk c.etype k g
  | .opaque => c.name = "Stack" ∨ c.name = "StackSkip"

/-- a nil value of an interface-typed parameter never makes `AddTo` panic (nil errors: nothing is added at all) -/
def Ctor.NilSafe (c : Ctor) : Prop :=
  if c.ptype ∈ ifaceTypes ∨ c.ptype = "any" then
    match c.fn with
    | .kv .box g => ∀ key, ∃ cs, delivered (g key .nil) = .ok cs ∧ (c.ptype = "error" → cs = [])
    | .v1 .box g => ∃ cs, delivered (g .nil) = .ok cs ∧ (c.ptype = "error" → cs = [])
    | _ => True
  else True

def equals (f g : Fld) : EqR := equalsWith Gen.equalsArm f g

/-- the dynamic type of the payload supports `==` -/
def Payload.comparable : Payload → Prop
  | .box b => b.cmp = true
  | _ => True

/-- the builtin comparable payload types (`complex128`, `complex64`) are comparable -/
def Payload.wf : Payload → Prop
  | .box b => (b.dyn = "complex128" ∨ b.dyn = "complex64") → b.cmp = true
  | _ => True

/-- the discipline a field must obey for `Equals` not to panic: what `==` sees is comparable, what `bytes.Equal` sees is
a `[]byte` -/
def EqSafe (f : Fld) : Prop :=
  (Gen.equalsArm f.ty = .structEq → f.iface.comparable) ∧
  (Gen.equalsArm f.ty = .bytesEqual → f.iface.hasType "[]byte")

/-- a well-typed argument of static type `ptype`: a value of that type, or nil when `ptype` is an interface type -/
def argOK (ptype : String) (p : Payload) : Prop :=
  p.hasType ptype ∨ (p = .nil ∧ (ptype ∈ ifaceTypes ∨ ptype = "any"))

/-- every field a constructor can return (from well-typed, well-formed arguments) is `EqSafe` -/
def Ctor.EqSafe (c : Ctor) : Prop :=
  match c.fn with
  | .k0 f => Field.EqSafe f
  | .k1 g => ∀ key, Field.EqSafe (g key)
  | .v1 .box g => ∀ p, p.wf → argOK c.ptype p → Field.EqSafe (g p)
  | .kv .box g => ∀ key p, p.wf → argOK c.ptype p → Field.EqSafe (g key p)
  | .kp .box g => ∀ key p, (∀ q, p = some q → q.wf ∧ q.hasType c.etype) → Field.EqSafe (g key p)
  | .ks .box g => ∀ key xs, Field.EqSafe (g key xs)
  | .v1 _ g => ∀ v, Field.EqSafe (g v)
  | .kv _ g => ∀ key v, Field.EqSafe (g key v)
  | .kp _ g => ∀ key v, Field.EqSafe (g key v)
  | .ks _ g => ∀ key xs, Field.EqSafe (g key xs)
  | .opaque => True

/-- two payloads agree on whether their (common) dynamic type is comparable -/
def Coherent : Payload → Payload → Prop
  | .box a, .box b => a.dyn = b.dyn → a.cmp = b.cmp
  | _, _ => True

/-- the payload equals itself under `==` and `reflect.DeepEqual` (no NaN, no func inside) -/
def Payload.reflexive : Payload → Prop
  | .box b => b.refl = true
  | _ => True

/-- parameter type of the function `name` of package zap -/
def ctorParam (name : String) : Option String :=
  (Gen.ctors.find? fun c => c.pkg == "zap" && c.name == name).map (·.ptype)

/-- the constructors of package zap taking `(key string, val T)` for a given `T` (what `Any` could dispatch `T` to) -/
def candidates (t : String) : List String :=
  (Gen.ctors.filter fun c => c.pkg == "zap" && c.ptype == t && (match c.fn with | .kv .. | .kp .. | .ks .. => true | _ => false)).map (·.name)

/-- where two constructors share a parameter type, the one `Any` must pick (`[]byte` is binary data, not a UTF-8 string) -/
def anyTieBreak : List (String × String) := [("[]byte", "Binary")]

/-- parameter types of exported constructors that `Any` is not expected to list: `[]uint8` *is* `[]byte`; `[][]byte`,
generic element types and variadic parameters cannot be (or are deliberately not) dispatched on; `any` is the default -/
def anyExempt : List String :=
  ["[]uint8", "[][]byte", "...Field", "any", "[]T:zapcore.ObjectMarshaler", "[]T:any", "[]T:fmt.Stringer"]

/-- concrete case types that implement `fmt.Stringer` (so the `fmt.Stringer` case must come after them) -/
def stringerImpls : List String := ["time.Time", "*time.Time", "time.Duration", "*time.Duration"]

def caseIndex (t : String) : Option Nat := (Gen.anySwitch.map (·.1)).findIdx? (· == t)

/-- both types are cases of `Any`, and `a`'s case comes first -/
def caseBefore (a b : String) : Bool :=
  match caseIndex a, caseIndex b with
  | some i, some j => decide (i < j)
  | _, _ => false

theorem all_nil {α : Type} (P : α → Prop) : ∀ c ∈ ([] : List α), P c := by intro c h; cases h

theorem all_cons {α : Type} (P : α → Prop) {a : α} {l : List α} (h : P a) (t : ∀ c ∈ l, P c) : ∀ c ∈ a :: l, P c := by
  intro c hc
  rcases List.mem_cons.mp hc with rfl | h'
  · exact h
  · exact t c h'

/-- one goal `P rᵢ` per row of the (regenerated) table; only the tail is split on (tried on `P rᵢ`, `all_cons` unfolds it) -/
macro "per_row" : tactic => `(tactic| ((repeat (refine all_cons _ ?_ ?_; rotate_left)); exact all_nil _))

theorem two_pow_dvd {m n : Nat} (h : m ≤ n) : (2 : Int) ^ m ∣ 2 ^ n := by
  obtain ⟨k, rfl⟩ := Nat.exists_eq_add_of_le h
  exact ⟨2 ^ k, Int.pow_add ..⟩

theorem wrapS_emod {m n : Nat} (h : m ≤ n) (x : Int) : wrapS n x % 2 ^ m = x % 2 ^ m := by
  rw [wrapS, Int.sub_emod, Int.emod_emod_of_dvd _ (two_pow_dvd h), ← Int.sub_emod, Int.add_sub_cancel]

theorem wrapU_emod {m n : Nat} (h : m ≤ n) (x : Int) : wrapU n x % 2 ^ m = x % 2 ^ m :=
  Int.emod_emod_of_dvd _ (two_pow_dvd h)

/-- `wrapS m` reads its argument modulo `2^m` only: a detour through a wider type is not seen -/
theorem wrapS_congr {m : Nat} {x y : Int} (h : x % 2 ^ m = y % 2 ^ m) : wrapS m x = wrapS m y := by
  rw [wrapS, wrapS, ← Int.emod_add_emod, h, Int.emod_add_emod]

theorem wrapS_wrapS {m n : Nat} (h : m ≤ n) (x : Int) : wrapS m (wrapS n x) = wrapS m x := wrapS_congr (wrapS_emod h x)
theorem wrapS_wrapU {m n : Nat} (h : m ≤ n) (x : Int) : wrapS m (wrapU n x) = wrapS m x := wrapS_congr (wrapU_emod h x)
theorem wrapU_wrapS {m n : Nat} (h : m ≤ n) (x : Int) : wrapU m (wrapS n x) = wrapU m x := wrapS_emod h x
theorem wrapU_wrapU {m n : Nat} (h : m ≤ n) (x : Int) : wrapU m (wrapU n x) = wrapU m x := wrapU_emod h x

theorem wrapS_of_inRange {n : Nat} {x : Int} (hn : 0 < n) (h1 : -2 ^ (n - 1) ≤ x) (h2 : x < 2 ^ (n - 1)) : wrapS n x = x := by
  obtain ⟨k, rfl⟩ : ∃ k, n = k + 1 := ⟨n - 1, by omega⟩
  rw [Nat.add_sub_cancel] at h1 h2
  rw [wrapS, Nat.add_sub_cancel, Int.emod_eq_of_lt (by omega) (by rw [Int.pow_succ]; omega)]
  omega

theorem wrapU_of_inRange {n : Nat} {x : Int} (h1 : 0 ≤ x) (h2 : x < 2 ^ n) : wrapU n x = x := Int.emod_eq_of_lt h1 h2

/-- the Go conversion `T(x)` to a numeric type (floats: of the bit pattern) -/
def GoT.conv : GoT → Int → Int
  | .int8 => wrapS 8 | .int16 => wrapS 16 | .int32 => wrapS 32 | .int | .int64 | .duration => wrapS 64
  | .uint8 => wrapU 8 | .uint16 => wrapU 16 | .uint32 | .float32 => wrapU 32
  | .uint | .uint64 | .uintptr | .float64 => wrapU 64

theorem GoT.conv_of_inRange {t : GoT} {v : Int} (h : t.inRange v) : t.conv v = v := by
  cases t
  case int8 | int16 | int32 | int | int64 | duration => exact wrapS_of_inRange (by decide) h.1 h.2
  all_goals exact wrapU_of_inRange h.1 h.2

theorem assertT_of_hasType {t : String} {p : Payload} (h : p.hasType t) : assertT t p = .ok p := by
  cases p <;> simp_all [Payload.hasType, assertT]

theorem ne_nil_of_hasType {t : String} {p : Payload} (h : p.hasType t) : p ≠ .nil := by
  rintro rfl; exact h

@[simp] theorem convNamed_eq_nil {d : String} {i : List String} {p : Payload} : convNamed d i p = .nil ↔ p = .nil := by
  cases p <;> simp [convNamed]

@[simp] theorem sameValue_convNamed (d : String) (i : List String) (p : Payload) : SameValue p (convNamed d i p) := by
  cases p <;> simp [convNamed, SameValue]

-- one hypothesis: `simp` discharges the conjunction, not three separate side conditions
theorem assertT_convNamed {t d i : String} {impl : List String} {p : Payload} (hp : p.hasType t)
    (h : (t ≠ tyLocation ∧ t ≠ tyTime) ∧ i ∈ ifaceTypes ∧ i ∈ impl) :
    assertT i (convNamed d impl p) = .ok (convNamed d impl p) := by
  apply assertT_of_hasType
  cases p <;> simp_all [Payload.hasType, convNamed, Box.isA]

theorem boxVal_pay {p q : Payload} (h : SameValue p q) : BoxVal false p (.pay q) := ⟨q, rfl, h⟩

theorem boxVal_text (p : Payload) : BoxVal true p (.str (textOf p)) := rfl

theorem numOk_row {ms : List Meth} {m : Meth} {key : Bytes} {w v : Int} {r : Except String (List Call)}
    (hr : r = .ok [⟨m, key, .int w⟩]) (hm : m ∈ ms) (hw : w = v) : ∃ m ∈ ms, r = .ok [⟨m, key, .int v⟩] :=
  ⟨m, hm, hw ▸ hr⟩

theorem boxOk_row {ms : List Meth} {astext : Bool} {p : Payload} {key : Bytes} {r : Except String (List Call)} {c : Call}
    (hr : r = .ok [c]) (hk : c.key = key) (hm : c.m ∈ ms) (hv : BoxVal astext p c.v) :
    ∃ m ∈ ms, ∃ cv, r = .ok [⟨m, key, cv⟩] ∧ BoxVal astext p cv := by
  subst hr hk; exact ⟨c.m, hm, c.v, rfl, hv⟩

theorem delivered_array_box (key : Bytes) {b : Box} (h : "zapcore.ArrayMarshaler" ∈ b.impl) :
    delivered { key := key, ty := .arrayMarshaler, iface := .box b } = .ok [⟨.AddArray, key, .pay (.box b)⟩] := by
  have hb : Payload.hasType "zapcore.ArrayMarshaler" (.box b) := by simp [Payload.hasType, Box.isA, ifaceTypes, h]
  simp [delivered, assertT_of_hasType hb]

theorem delivered_ite {c : Prop} [Decidable c] {a b : Fld} {r : Except String (List Call)}
    (ha : c → delivered a = r) (hb : ¬c → delivered b = r) : delivered (if c then a else b) = r := by
  split
  · exact ha ‹_›
  · exact hb ‹_›

/-- within `math.MinInt64 … math.MaxInt64` ns, `UnixNano` is exact and `time.Unix(0, n).In(loc)` is the same time -/
theorem delivered_time_nano (key : Bytes) (t : Time)
    (h : ¬(timeBefore t (-9223372036854775808) ∨ timeAfter t 9223372036854775807)) :
    delivered { key := key, ty := .time, integer := unixNano t, iface := location t } = .ok [⟨.AddTime, key, .time t⟩] := by
  have hw : wrapS 64 t.ns = t.ns := by
    simp only [timeBefore, timeAfter] at h
    exact wrapS_of_inRange (by decide) (by omega) (by omega)
  simp [delivered, unixNano, location, timeIn, timeUnix0, assertT, tyLocation, hw]

theorem Ctor.ok_kp_iff {n pk : String} {e : Bool} {pt et : String} {k : VK} {g : Bytes → Option k.T → Fld} :
    Ctor.Ok ⟨n, pk, e, pt, et, .kp k g⟩ ↔ NilOk (fun key => g key none) ∧ ValOk et k (fun key v => g key (some v)) := Iff.rfl

theorem Ctor.Ok.kv {c : Ctor} {k : VK} {g : Bytes → k.T → Fld} (hc : c.Ok) (h : c.fn = .kv k g) : ValOk c.ptype k g := by
  simp only [Ctor.Ok, h] at hc; exact hc

theorem Ctor.Ok.kp {c : Ctor} {k : VK} {g : Bytes → Option k.T → Fld} (hc : c.Ok) (h : c.fn = .kp k g) :
    NilOk (fun key => g key none) ∧ ValOk c.etype k (fun key v => g key (some v)) := by
  simp only [Ctor.Ok, h] at hc; exact hc

theorem Ctor.Ok.ks {c : Ctor} {k : VK} {g : Bytes → List k.T → Fld} (hc : c.Ok) (h : c.fn = .ks k g) : SliceOk c.etype k g := by
  simp only [Ctor.Ok, h] at hc; exact hc

/-! `boxSpec'` / `boxSpecA'` match on strings: each lookup that occurs is evaluated once, here -/

@[simp] theorem boxSpec'_fields : boxSpec' "[]Field" = some ([.AddObject], false) := by decide +kernel
@[simp] theorem boxSpec'_variadic : boxSpec' "...Field" = some ([.AddObject], false) := by decide +kernel
@[simp] theorem boxSpec'_bytes : boxSpec' "[]byte" = some ([.AddBinary, .AddByteString], false) := by decide +kernel
@[simp] theorem boxSpec'_complex128 : boxSpec' "complex128" = some ([.AddComplex128], false) := by decide +kernel
@[simp] theorem boxSpec'_complex64 : boxSpec' "complex64" = some ([.AddComplex64], false) := by decide +kernel
@[simp] theorem boxSpec'_object : boxSpec' "zapcore.ObjectMarshaler" = some ([.AddObject, .InlineObject], false) := by
  decide +kernel
@[simp] theorem boxSpec'_array : boxSpec' "zapcore.ArrayMarshaler" = some ([.AddArray], false) := by decide +kernel
@[simp] theorem boxSpec'_any : boxSpec' "any" = some ([.AddReflected], false) := by decide +kernel
@[simp] theorem boxSpec'_stringer : boxSpec' "fmt.Stringer" = some ([.AddString], true) := by decide +kernel
@[simp] theorem boxSpec'_error : boxSpec' "error" = some ([.AddString], true) := by decide +kernel

@[simp] theorem boxSpecA'_bytes : boxSpecA' "[]byte" = some ([.AppendByteString], false, false) := by decide +kernel
@[simp] theorem boxSpecA'_complex128 : boxSpecA' "complex128" = some ([.AppendComplex128], false, false) := by decide +kernel
@[simp] theorem boxSpecA'_complex64 : boxSpecA' "complex64" = some ([.AppendComplex64], false, false) := by decide +kernel
@[simp] theorem boxSpecA'_object : boxSpecA' "T:zapcore.ObjectMarshaler" = some ([.AppendObject], false, false) := by
  decide +kernel
@[simp] theorem boxSpecA'_any : boxSpecA' "T:any" = some ([.AppendObject], false, false) := by decide +kernel
@[simp] theorem boxSpecA'_stringer : boxSpecA' "T:fmt.Stringer" = some ([.AppendString], true, false) := by decide +kernel
@[simp] theorem boxSpecA'_error : boxSpecA' "error" = some ([.AppendObject], false, true) := by decide +kernel

theorem ofBool_ne_panic (b : Bool) : EqR.ofBool b ≠ .panic := by cases b <;> simp [EqR.ofBool]

theorem ifaceEq_ne_panic (p q : Payload) (h : p.comparable) : ifaceEq p q ≠ .panic := by
  cases p <;> cases q <;> simp [ifaceEq, ofBool_ne_panic]
  rename_i a b
  simp [Payload.comparable] at h
  by_cases hd : a.dyn = b.dyn <;> simp [hd, h, ofBool_ne_panic]

theorem bytesEq_ne_panic (p q : Payload) (hp : p.hasType "[]byte") (hq : q.hasType "[]byte") : bytesEq p q ≠ .panic := by
  cases p <;> cases q <;> simp_all [Payload.hasType, bytesEq, assertT, tyLocation, tyTime, ofBool_ne_panic]

theorem arm_err (ty : FT) (key : Bytes) (i : Int) (s : Bytes) (p : Payload) (e : Bytes) :
    Gen.addToArm key i s p (some e) ty = Gen.addToArm key i s p none ty ∨
    ∃ cs, Gen.addToArm key i s p none ty = .ok (cs, none) ∧ Gen.addToArm key i s p (some e) ty = .ok (cs, some e) := by
  cases ty <;> first
    | exact .inl rfl
    | exact .inr ⟨_, rfl, rfl⟩
    | (simp only [Gen.addToArm]; cases assertT _ p <;> simp)

theorem addTo_def (f : Fld) (r : Option Bytes) : Gen.addTo f r =
    bindE (Gen.addToArm f.key f.integer f.str f.iface r f.ty) (fun ce => .ok (ce.1 ++ Gen.errTail f.key ce.2)) := rfl

theorem same_comm (a b : Box) : a.same b = b.same a := by
  simp only [Box.same]
  rw [BEq.comm (a := a.dyn), BEq.comm (a := a.tok), BEq.comm (a := a.elems)]

theorem and3_comm (x y z : Bool) : (x && y && z) = (x && z && y) := by cases x <;> cases y <;> cases z <;> rfl

theorem deepEq_comm (p q : Payload) : deepEq p q = deepEq q p := by
  cases p <;> cases q <;> simp only [deepEq]
  · rename_i a b; rw [same_comm, and3_comm]
  · rename_i a b; exact BEq.comm
  · rename_i a b; exact BEq.comm

theorem bytesEq_comm (p q : Payload) : bytesEq p q = bytesEq q p := by
  unfold bytesEq
  rcases assertT "[]byte" p with _ | (_ | a | _ | _) <;> rcases assertT "[]byte" q with _ | (_ | b | _ | _) <;>
    first | rfl | exact congrArg EqR.ofBool (BEq.comm (a := a.tok))

theorem ifaceEq_comm (p q : Payload) (hc : Coherent p q) : ifaceEq p q = ifaceEq q p := by
  cases p <;> cases q <;> simp only [ifaceEq]
  · rename_i a b
    by_cases hd : a.dyn = b.dyn
    · have hcm : a.cmp = b.cmp := hc hd
      have hd' : b.dyn = a.dyn := hd.symm
      simp only [hd, ne_eq, not_true_eq_false, if_false, hcm, same_comm a b, and3_comm]
    · have hd' : ¬ b.dyn = a.dyn := fun h => hd h.symm
      simp [hd, hd']
  · rename_i a b; rw [BEq.comm]
  · rename_i a b; rw [BEq.comm]

theorem same_self (a : Box) : a.same a = true := by simp [Box.same]

theorem bytesEq_self {p : Payload} (h : p.hasType "[]byte") : bytesEq p p = .tt := by
  cases p <;> simp_all [Payload.hasType, bytesEq, assertT, tyLocation, tyTime, EqR.ofBool]

theorem deepEq_self {p : Payload} (h : p.reflexive) : deepEq p p = true := by
  cases p <;> simp_all [deepEq, same_self, Payload.reflexive]

theorem ifaceEq_self {p : Payload} (hc : p.comparable) (hr : p.reflexive) : ifaceEq p p = .tt := by
  cases p <;> simp_all [ifaceEq, same_self, EqR.ofBool, Payload.comparable, Payload.reflexive]

theorem eqSafe_mk (key : Bytes) (ty : FT) (i : Int) (s : Bytes) (p : Payload) :
    EqSafe ⟨key, ty, i, s, p⟩ ↔
      (Gen.equalsArm ty = .structEq → p.comparable) ∧ (Gen.equalsArm ty = .bytesEqual → p.hasType "[]byte") := Iff.rfl

theorem eqSafe_ite (c : Prop) [Decidable c] (a b : Fld) : EqSafe (if c then a else b) ↔ (c → EqSafe a) ∧ (¬c → EqSafe b) := by
  split <;> simp [*]

@[simp] theorem comparable_nil : Payload.nil.comparable := trivial
@[simp] theorem comparable_loc (l : Nat) : (Payload.loc l).comparable := trivial
@[simp] theorem comparable_time (t : Time) : (Payload.time t).comparable := trivial

theorem comparable_of_wf {p : Payload} {t : String} (ht : t = "complex128" ∨ t = "complex64")
    (hp : p.hasType t) (hw : p.wf) : p.comparable := by
  cases p with
  | box b =>
    have hd : b.dyn = t := by
      rcases ht with rfl | rfl <;> simpa [Payload.hasType, Box.isA, ifaceTypes] using hp
    exact hw (hd ▸ ht)
  | _ => trivial

end ZapVerif.Field
