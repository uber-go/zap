import ZapVerif.Proofs.GoMini
import ZapVerif.Model.TransMessageX
/-! Lookup facts for the `…_matches_source` theorems of Props/C14.lean about Gen/TransMessage.lean.  Nothing here depends on
    the generated terms. -/
namespace ZapVerif.TransMessage
open ZapVerif ZapVerif.GoMini ZapVerif.Gen.TransMessage

@[simp] theorem X_funs (P : Par) : (X P).funs = funs := id rfl
@[simp] theorem X_ext (P : Par) : (X P).ext = ext P := id rfl
/-- the `.(string)` assertion is stated whatever it answers (zero value and `false`, or the string and `true`) -/
@[simp] theorem ext_eq (P : Par) :
    (∀ a, ext P "fmt.Sprint" [.list a] = some [.bytes (P.sprint a)]) ∧
    (∀ t a, ext P "fmt.Sprintf" [.bytes t, .list a] = some [.bytes (P.sprintf t a)]) ∧
    (∀ a, ext P "fmt.Sprintln" [.list a] = some [.bytes (P.sprintln a)]) ∧
    (∀ a, ext P "assert.string" [a] = some [.bytes ((P.asStr a).getD []), .bool (P.asStr a).isSome]) ∧
    (∀ l, ext P "Core.Enabled" [.int l] = some [.bool (P.cen l)]) ∧
    (∀ b l m, ext P "Logger.Check" [b, .int l, .bytes m] = some [.list (P.check b l m)]) ∧
    (∀ c k, ext P "Sugar.sweetenFields" [.list c, k] = some [.list (P.sweeten c)]) ∧
    (∀ a b, ext P "CE.Write" [a, b] = some []) := by
  unfold ext ext.match_3
  simp only [String.reduceEq, ↓reduceDIte, implies_true, true_and, and_true]
  intro a
  show some (match P.asStr a with | some s => [Val.bytes s, Val.bool true] | none => _) = _
  cases P.asStr a <;> rfl
@[simp] theorem builtin_ext (a : List Val) :
    builtin "fmt.Sprint" a = none ∧ builtin "fmt.Sprintf" a = none ∧ builtin "fmt.Sprintln" a = none ∧
    builtin "Core.Enabled" a = none := by
  simp [builtin]
theorem nm_check : nm "Logger.Check" = .bytes [76, 111, 103, 103, 101, 114, 46, 67, 104, 101, 99, 107] := congrArg Val.bytes (by decide +kernel)
theorem nm_sweeten : nm "Sugar.sweetenFields" = .bytes [83, 117, 103, 97, 114, 46, 115, 119, 101, 101, 116, 101, 110, 70, 105, 101, 108, 100, 115] :=
  congrArg Val.bytes (by decide +kernel)
theorem nm_ceWrite : nm "CE.Write" = .bytes [67, 69, 46, 87, 114, 105, 116, 101] := congrArg Val.bytes (by decide +kernel)

end ZapVerif.TransMessage
