import ZapVerif.Model.BwsConcBytes
import ZapVerif.Proofs.Bws
import ZapVerif.Proofs.BwsConc
/-! Histories of critical sections (`lrun`); sequential histories as their special case (`expand_cons`); the thread machine
    with bytes and its invariant `J`. -/
namespace ZapVerif.BwsCB
open ZapVerif ZapVerif.Bws

theorem mark_sink (s : Bws.St) : (mark s).sink = s.sink := by unfold mark; split <;> rfl
theorem mark_buf (s : Bws.St) : (mark s).buf = s.buf := by unfold mark; split <;> rfl
theorem mark_err (s : Bws.St) : (mark s).err = s.err := by unfold mark; split <;> rfl
theorem mark_size (s : Bws.St) : (mark s).size = s.size := by unfold mark; split <;> rfl
theorem mark_init (s : Bws.St) : (mark s).init = s.init := by unfold mark; split <;> rfl
theorem mark_wscript (s : Bws.St) : (mark s).wscript = s.wscript := by unfold mark; split <;> rfl
theorem mark_content (s : Bws.St) : content (mark s) = content s := by simp [content, mark_sink, mark_buf]

theorem mark_stopped (s : Bws.St) : (mark s).stopped = (s.stopped || s.init) := by
  unfold mark
  cases hi : s.init <;> cases hs : s.stopped <;> simp [hs]

theorem wf_mark (s : Bws.St) (h : Wf s) : Wf (mark s) := by
  refine ⟨by rw [mark_buf, mark_size]; exact h.bound, fun hi => ?_⟩
  rw [mark_init] at hi
  obtain ⟨h1, h2, h3⟩ := h.fresh hi
  exact ⟨by rw [mark_buf]; exact h1, by rw [mark_stopped, h2, hi]; rfl, by rw [mark_err]; exact h3⟩

theorem rinv_mark {ws : List Bytes} {s : Bws.St} (h : RInv ws s) : RInv ws (mark s) :=
  ⟨wf_mark s h.wf, ⟨by rw [mark_wscript]; exact h.rel.1, by rw [mark_err]; exact h.rel.2⟩,
   by rw [mark_sink, mark_buf]; exact h.aligned, by rw [mark_sink]; exact h.full⟩

theorem wf_lstep (s : Bws.St) (o : LOp) (h : Wf s) : Wf (lstep s o).1 := by
  cases o with
  | write bs => exact wf_write s bs h
  | sync => exact wf_sync s h
  | mark => exact wf_mark s h

theorem wf_lrun (os : List LOp) : ∀ s, Wf s → Wf (lrun s os) := by
  induction os with
  | nil => intro s h; exact h
  | cons o os ih => intro s h; exact ih _ (wf_lstep s o h)

theorem lrun_append (a b : List LOp) : ∀ s, lrun s (a ++ b) = lrun (lrun s a) b := by
  induction a with
  | nil => intro s; rfl
  | cons o os ih => intro s; simp only [List.cons_append, lrun]; exact ih _

theorem lrets_append (a b : List LOp) : ∀ s, lrets s (a ++ b) = lrets s a ++ lrets (lrun s a) b := by
  induction a with
  | nil => intro s; rfl
  | cons o os ih => intro s; simp only [List.cons_append, lrets, lrun, ih, List.cons_append]

theorem laccepted_append (a b : List LOp) : ∀ s, laccepted s (a ++ b) = laccepted s a ++ laccepted (lrun s a) b := by
  induction a with
  | nil => intro s; simp [laccepted, lrun]
  | cons o os ih =>
    intro s
    cases o <;> simp only [List.cons_append, laccepted, lrun, lstep, ih, List.append_assoc]

theorem lwritesOf_append (a b : List LOp) : lwritesOf (a ++ b) = lwritesOf a ++ lwritesOf b := by
  induction a with
  | nil => rfl
  | cons o os ih => cases o <;> simp [lwritesOf, ih]

theorem content_lrun (os : List LOp) : ∀ s, Wf s → content (lrun s os) = content s ++ laccepted s os := by
  induction os with
  | nil => intro s _; simp [lrun, laccepted]
  | cons o os ih =>
    intro s h
    cases o with
    | write bs =>
      have W := write_spec s bs h.bound
      simp only [lrun, lstep, laccepted]
      rw [ih _ (wf_write s bs h), W.content, List.append_assoc]
    | sync =>
      simp only [lrun, lstep, laccepted]
      rw [ih _ (wf_sync s h), (sync_spec s).content]
    | mark =>
      simp only [lrun, lstep, laccepted]
      rw [ih _ (wf_mark s h), mark_content]

theorem lstep_sink_prefix (s : Bws.St) (o : LOp) : s.sink <+: (lstep s o).1.sink := by
  cases o with
  | write bs => exact write_sink_prefix s bs
  | sync => exact sync_sink_prefix s
  | mark => simp only [lstep, mark_sink]; exact List.prefix_refl _

theorem lrun_sink_prefix (os : List LOp) : ∀ s, s.sink <+: (lrun s os).sink := by
  induction os with
  | nil => intro s; exact List.prefix_refl _
  | cons o os ih => intro s; exact (lstep_sink_prefix s o).trans (ih _)

theorem lstep_size (s : Bws.St) (o : LOp) (h : Wf s) : (lstep s o).1.size = s.size := by
  cases o with
  | write bs => exact (write_spec s bs h.bound).size
  | sync => exact (sync_spec s).size
  | mark => exact mark_size s

theorem lrun_size (os : List LOp) : ∀ s, Wf s → (lrun s os).size = s.size := by
  induction os with
  | nil => intro s _; rfl
  | cons o os ih => intro s h; simp only [lrun]; rw [ih _ (wf_lstep s o h), lstep_size s o h]

theorem rinv_lstep {ws : List Bytes} {s : Bws.St} (o : LOp) (h : RInv ws s) : RInv (ws ++ lwritesOf [o]) (lstep s o).1 := by
  cases o with
  | write bs => exact rinv_write bs h
  | sync => simpa [lwritesOf, lstep] using rinv_sync h
  | mark => simpa [lwritesOf, lstep] using rinv_mark h

theorem rinv_lrun (os : List LOp) : ∀ ws s, RInv ws s → RInv (ws ++ lwritesOf os) (lrun s os) := by
  induction os with
  | nil => intro ws s h; simpa [lwritesOf, lrun] using h
  | cons o os ih =>
    intro ws s h
    have := ih _ _ (rinv_lstep o h)
    have e : lwritesOf (o :: os) = lwritesOf [o] ++ lwritesOf os := lwritesOf_append [o] os
    rw [e, ← List.append_assoc]
    exact this

theorem laccepted_reliable (os : List LOp) : ∀ ws s, RInv ws s → laccepted s os = (lwritesOf os).flatten := by
  induction os with
  | nil => intro _ _ _; rfl
  | cons o os ih =>
    intro ws s h
    cases o with
    | write bs =>
      have R := write_reliable s bs h.rel
      simp only [laccepted, lwritesOf, List.flatten_cons]
      rw [ih _ _ (rinv_write bs h), R.n, List.take_length]
    | sync => simp only [laccepted, lwritesOf]; exact ih _ _ (rinv_sync h)
    | mark => simp only [laccepted, lwritesOf]; exact ih _ _ (rinv_mark h)

theorem sync_section_flushes (s : Bws.St) (hw : Wf s) (he : (Bws.sync s).1.err = none) :
    (Bws.sync s).1.buf = [] ∧ (s.init = true → (Bws.sync s).1.sink.getLast? = some .sync) :=
  ⟨flushop_empty s .sync hw (Or.inl rfl) he, fun hi => flushop_synced s .sync (Or.inl rfl) hi⟩

/-- one operation of the sequential model is a short linearized history: a `Write` or `Sync` is its section, a tick the
    flush goroutine's `Sync` while it exists, `Stop` its first section followed, when it shuts down, by the final `Sync` -/
theorem expand_cons (s : Bws.St) (o : Bws.Op) (os : List Bws.Op) :
    ∃ pre, expand s (o :: os) = pre ++ expand (Bws.step s o).1 os ∧ lrun s pre = (Bws.step s o).1 ∧
      laccepted s pre = accepted s [o] ∧ lwritesOf pre = writesOf [o] := by
  cases o with
  | write bs => exact ⟨[.write bs], rfl, rfl, rfl, rfl⟩
  | sync => exact ⟨[.sync], rfl, rfl, rfl, rfl⟩
  | tick =>
    refine ⟨if s.init && !s.stopped then [.sync] else [], rfl, ?_, ?_, ?_⟩
    · simp only [Bws.step, Bws.tick]; split <;> rfl
    · split <;> rfl
    · split <;> rfl
  | stop =>
    refine ⟨if !s.init || s.stopped then [.mark] else [.mark, .sync], rfl, ?_, ?_, ?_⟩
    · simp only [Bws.step, Bws.stop]
      split <;> rename_i hc <;> simp [lrun, lstep, mark, hc]
    · split <;> rfl
    · split <;> rfl

theorem lrun_expand (os : List Bws.Op) : ∀ s, lrun s (expand s os) = Bws.run s os := by
  induction os with
  | nil => intro s; rfl
  | cons o os ih =>
    intro s
    obtain ⟨pre, he, hr, _, _⟩ := expand_cons s o os
    rw [he, lrun_append, hr, ih]; rfl

theorem laccepted_expand (os : List Bws.Op) : ∀ s, laccepted s (expand s os) = accepted s os := by
  induction os with
  | nil => intro s; rfl
  | cons o os ih =>
    intro s
    obtain ⟨pre, he, hr, ha, _⟩ := expand_cons s o os
    rw [he, laccepted_append, hr, ih, ha]
    exact (accepted_append [o] os s).symm

theorem lwritesOf_expand (os : List Bws.Op) : ∀ s, lwritesOf (expand s os) = writesOf os := by
  induction os with
  | nil => intro s; rfl
  | cons o os ih =>
    intro s
    obtain ⟨pre, he, _, _, hw⟩ := expand_cons s o os
    rw [he, lwritesOf_append, ih, hw]
    exact (writesOf_append [o] os).symm

end ZapVerif.BwsCB

namespace ZapVerif.Bws
open ZapVerif

theorem wf_run (ops : List Op) : ∀ s, Wf s → Wf (run s ops) := by
  intro s h; rw [← BwsCB.lrun_expand]; exact BwsCB.wf_lrun _ s h

theorem run_size (ops : List Op) : ∀ s, Wf s → (run s ops).size = s.size := by
  intro s h; rw [← BwsCB.lrun_expand]; exact BwsCB.lrun_size _ s h

theorem content_run (ops : List Op) : ∀ s, Wf s → content (run s ops) = content s ++ accepted s ops := by
  intro s h; rw [← BwsCB.lrun_expand, ← BwsCB.laccepted_expand]; exact BwsCB.content_lrun _ s h

theorem rinv_run (ops : List Op) : ∀ ws s, RInv ws s → RInv (ws ++ writesOf ops) (run s ops) := by
  intro ws s h; rw [← BwsCB.lrun_expand, ← BwsCB.lwritesOf_expand ops s]; exact BwsCB.rinv_lrun _ ws s h

theorem accepted_reliable (ops : List Op) : ∀ ws s, RInv ws s → accepted s ops = (writesOf ops).flatten := by
  intro ws s h; rw [← BwsCB.laccepted_expand, ← BwsCB.lwritesOf_expand ops s]; exact BwsCB.laccepted_reliable _ ws s h

theorem run_sink_prefix (ops : List Op) : ∀ s, s.sink <+: (run s ops).sink := by
  intro s; rw [← BwsCB.lrun_expand]; exact BwsCB.lrun_sink_prefix _ s

end ZapVerif.Bws

namespace ZapVerif.BwsCB
open ZapVerif ZapVerif.Bws

theorem ops_snoc (h : List (Who × LOp)) (w : Who) (o : LOp) : ops (h ++ [(w, o)]) = ops h ++ [o] := by
  simp [ops]

theorem lrun_snoc (s : Bws.St) (a : List LOp) (o : LOp) : lrun s (a ++ [o]) = (lstep (lrun s a) o).1 := by
  rw [lrun_append]; rfl

theorem lrets_snoc (s : Bws.St) (a : List LOp) (o : LOp) : lrets s (a ++ [o]) = lrets s a ++ [(lstep (lrun s a) o).2] := by
  rw [lrets_append]; rfl

/-- what the ghost record of the final flush says: the syncer is stopped, and `sF` is the byte state after the first `fl`
    completed sections, the last of which is a `Sync` that came after the `ml` sections up to the shutdown signal -/
def Final (d0 : Bws.St) (stopped : Bool) (hist : List (Who × LOp)) (ml fl : Nat) (sF : Bws.St) : Prop :=
  stopped = true ∧ fl ≤ hist.length ∧ ml < fl ∧ sF = lrun d0 (ops (hist.take fl)) ∧ (ops (hist.take fl)).getLast? = some .sync

/-- control state in which the final flush of the shutdown cannot have completed yet -/
def NoFinal (c : BwsConc.St) : Prop := c.flushedClosed = false ∧ ∀ k, c.cl k ≠ .closeF

/-- the invariant that makes the thread machine a refinement of the sequential model -/
structure J (cfg : BwsConc.Cfg) (d0 : Bws.St) (s : St) : Prop where
  ctl : BwsConc.Inv cfg s.c
  wf : Wf s.d
  data : s.d = lrun d0 (ops s.hist)
  rets : s.rets = lrets d0 (ops s.hist)
  lin : s.acqs = s.hist ++ inflight s
  init_eq : s.c.init = s.d.init
  stopped_eq : s.c.stopped = s.d.stopped
  mlen : s.markLen ≤ s.hist.length
  fin_some : ∀ sF, s.finalSt = some sF → Final d0 s.d.stopped s.hist s.markLen s.finalLen sF
  fin_none : s.finalSt = none → NoFinal s.c

/-- a syncer nobody has used yet -/
def Fresh (d0 : Bws.St) : Prop := Wf d0 ∧ d0.init = false ∧ d0.stopped = false

theorem fresh_mk (size : Int) (wo : List WOut) (so : List Bool) : Fresh (Bws.mk size wo so) :=
  ⟨wf_mk size wo so, rfl, rfl⟩

theorem J_init (cfg : BwsConc.Cfg) (d0 : Bws.St) (h0 : Fresh d0) : J cfg d0 (init d0) := by
  refine ⟨BwsConc.inv_init cfg, h0.1, rfl, rfl, rfl, h0.2.1.symm, h0.2.2.symm, Nat.le_refl _, ?_, ?_⟩
  · intro sF h; cases h
  · intro _; exact ⟨rfl, fun k => by simp [init, BwsConc.init]⟩

theorem holder_ne {cfg : BwsConc.Cfg} {c : BwsConc.St} {i j : Nat} (I : BwsConc.Inv cfg c) (hj : c.mu = .client j)
    (hi : BwsConc.inCS (c.cl i) = false) : j ≠ i := by
  intro h; subst h
  have := (I.mu_cl j).1 hj
  rw [hi] at this; cases this

theorem J_keep {cfg : BwsConc.Cfg} {d0 : Bws.St} {s : St} (hJ : J cfg d0 s) (c' : BwsConc.St) (arg' : Nat → Bytes)
    (hI : BwsConc.Inv cfg c') (hmu : c'.mu = s.c.mu)
    (hcl : ∀ j, s.c.mu = .client j → c'.cl j = s.c.cl j ∧ arg' j = s.arg j)
    (hi : c'.init = s.c.init) (hs : c'.stopped = s.c.stopped)
    (hf : s.finalSt = none → NoFinal c') :
    J cfg d0 { s with c := c', arg := arg' } := by
  refine ⟨hI, hJ.wf, hJ.data, hJ.rets, ?_, by rw [hi]; exact hJ.init_eq, by rw [hs]; exact hJ.stopped_eq, hJ.mlen, hJ.fin_some, hf⟩
  have : inflight { s with c := c', arg := arg' } = inflight s := by
    unfold inflight
    simp only [hmu]
    cases hm : s.c.mu with
    | free => rfl
    | loop => rfl
    | client j =>
      obtain ⟨a, b⟩ := hcl j hm
      simp only [a, b]
  rw [this]; exact hJ.lin

theorem J_acq {cfg : BwsConc.Cfg} {d0 : Bws.St} {s : St} (hJ : J cfg d0 s) (c' : BwsConc.St) (w : Who) (o : LOp)
    (hI : BwsConc.Inv cfg c') (hfree : s.c.mu = .free) (hin : inflight (acq s c' w o) = [(w, o)])
    (hi : c'.init = s.c.init) (hs : c'.stopped = s.c.stopped)
    (hf : s.finalSt = none → NoFinal c') :
    J cfg d0 (acq s c' w o) := by
  have h0 : inflight s = [] := by simp [inflight, hfree]
  refine ⟨hI, hJ.wf, hJ.data, hJ.rets, ?_, by show c'.init = _; rw [hi]; exact hJ.init_eq,
    by show c'.stopped = _; rw [hs]; exact hJ.stopped_eq, hJ.mlen, hJ.fin_some, hf⟩
  rw [hin]
  show s.acqs ++ [(w, o)] = s.hist ++ [(w, o)]
  rw [hJ.lin, h0, List.append_nil]

/-- a critical section ends: the byte-level effect of its operation -/
theorem J_fin {cfg : BwsConc.Cfg} {d0 : Bws.St} {s : St} (hJ : J cfg d0 s) (c' : BwsConc.St) (w : Who) (o : LOp)
    (ml : Nat) (fs : Option Bws.St) (fl : Nat)
    (hI : BwsConc.Inv cfg c') (hin : inflight s = [(w, o)]) (hfree : c'.mu = .free)
    (hi : c'.init = (lstep s.d o).1.init) (hs : c'.stopped = (lstep s.d o).1.stopped)
    (hml : ml ≤ s.hist.length + 1)
    (hfs : ∀ sF, fs = some sF → Final d0 (lstep s.d o).1.stopped (s.hist ++ [(w, o)]) ml fl sF)
    (hf : fs = none → NoFinal c') :
    J cfg d0 { fin s c' w o with markLen := ml, finalSt := fs, finalLen := fl } := by
  refine ⟨hI, wf_lstep s.d o hJ.wf, ?_, ?_, ?_, hi, hs, by simpa [fin] using hml, hfs, hf⟩
  · show (lstep s.d o).1 = lrun d0 (ops (s.hist ++ [(w, o)]))
    rw [ops_snoc, lrun_snoc, ← hJ.data]
  · show s.rets ++ [(lstep s.d o).2] = lrets d0 (ops (s.hist ++ [(w, o)]))
    rw [ops_snoc, lrets_snoc, ← hJ.data, ← hJ.rets]
  · have : inflight { fin s c' w o with markLen := ml, finalSt := fs, finalLen := fl } = [] := by
      simp [inflight, fin, hfree]
    rw [this, List.append_nil]
    show s.acqs = s.hist ++ [(w, o)]
    rw [hJ.lin, hin]

theorem fin_some_grow {cfg : BwsConc.Cfg} {d0 : Bws.St} {s : St} (hJ : J cfg d0 s) (w : Who) (o : LOp) (sF : Bws.St)
    (h : s.finalSt = some sF) : Final d0 (lstep s.d o).1.stopped (s.hist ++ [(w, o)]) s.markLen s.finalLen sF := by
  obtain ⟨a, b, c, d, e⟩ := hJ.fin_some sF h
  have ht : (s.hist ++ [(w, o)]).take s.finalLen = s.hist.take s.finalLen := by
    rw [List.take_append_of_le_length b]
  refine ⟨?_, by rw [List.length_append]; exact Nat.le_add_right_of_le b, c, by rw [ht]; exact d, by rw [ht]; exact e⟩
  cases o with
  | write bs =>
    simp only [lstep]; rw [(write_spec s.d bs hJ.wf.bound).stopped]; exact a
  | sync => simp only [lstep]; rw [(sync_spec s.d).stopped]; exact a
  | mark => simp only [lstep, mark_stopped, a, Bool.true_or]

theorem not_closeF_upd {f : Nat → BwsConc.CPc} {i : Nat} {v : BwsConc.CPc} (h : ∀ k, f k ≠ .closeF) (hv : v ≠ .closeF) :
    ∀ k, BwsConc.upd f i v k ≠ .closeF :=
  BwsConc.forall_upd (P := fun _ pc => pc ≠ .closeF) h hv

theorem J_client_keep {cfg : BwsConc.Cfg} {d0 : Bws.St} {s : St} (hJ : J cfg d0 s) (i : Nat) (c' : BwsConc.St)
    (hI : BwsConc.Inv cfg c') (hnc : BwsConc.inCS (s.c.cl i) = false) (v : BwsConc.CPc)
    (hcl : c'.cl = BwsConc.upd s.c.cl i v) (hmu : c'.mu = s.c.mu) (hi : c'.init = s.c.init) (hs : c'.stopped = s.c.stopped)
    (hf : s.finalSt = none → NoFinal c') :
    J cfg d0 { s with c := c' } := by
  exact J_keep hJ c' s.arg hI hmu (fun j hj => ⟨by rw [hcl, BwsConc.upd_other _ _ (holder_ne hJ.ctl hj hnc)], rfl⟩) hi hs hf

theorem J_step (cfg : BwsConc.Cfg) (hlw : cfg.lockedWait = false) (d0 : Bws.St) (s s' : St) (a : Act) (hJ : J cfg d0 s)
    (h : step cfg s a = some s') : J cfg d0 s' := by
  unfold step at h
  cases hc' : BwsConc.step cfg s.c a.ctl with
  | none => rw [hc'] at h; cases h
  | some c' =>
    rw [hc'] at h; cases h
    have Ic' := BwsConc.inv_step cfg hlw s.c c' a.ctl hJ.ctl hc'
    have hfn := hJ.fin_none
    have hstart : ∀ (i : Nat) (pc : BwsConc.CPc) (arg' : Nat → Bytes), BwsConc.start cfg s.c i pc = some c' →
        pc ≠ .closeF → (∀ j, j ≠ i → arg' j = s.arg j) → J cfg d0 { s with c := c', arg := arg' } := by
      intro i pc arg' hst hpc harg
      obtain ⟨hidle, _, rfl⟩ := BwsConc.start_some hst
      have hnc : BwsConc.inCS (s.c.cl i) = false := by rw [hidle]; rfl
      refine J_keep hJ _ arg' Ic' rfl (fun j hj => ?_) rfl rfl (fun hn => ⟨(hfn hn).1, not_closeF_upd (hfn hn).2 hpc⟩)
      have hne := holder_ne hJ.ctl hj hnc
      exact ⟨BwsConc.upd_other _ _ hne, harg j hne⟩
    -- a `Sync` section of `w` ends without being the final one of `Stop`
    have syncEnds : ∀ (w : Who) (c'' : BwsConc.St), BwsConc.Inv cfg c'' → inflight s = [(w, .sync)] → c''.mu = .free →
        c''.init = s.c.init → c''.stopped = s.c.stopped → (s.finalSt = none → NoFinal c'') →
        J cfg d0 (fin s c'' w .sync) := by
      intro w c'' I hin hfree hi hs hf
      have S := sync_spec s.d
      exact J_fin hJ c'' w .sync s.markLen s.finalSt s.finalLen I hin hfree
        (by rw [hi, hJ.init_eq]; exact S.init.symm) (by rw [hs, hJ.stopped_eq]; exact S.stopped.symm)
        (Nat.le_succ_of_le hJ.mlen) (fun sF hs => fin_some_grow hJ w .sync sF hs) hf
    cases a with
    | write i bs => exact hstart i _ _ hc' (by simp) (fun j hj => by simp [hj])
    | sync i => exact hstart i _ s.arg hc' (by simp) (fun _ _ => rfl)
    | stop i => exact hstart i _ s.arg hc' (by simp) (fun _ _ => rfl)
    | tick =>
      simp only [Act.ctl, BwsConc.step] at hc'
      split at hc'
      · cases hc'
        exact J_keep hJ _ s.arg Ic' rfl (fun j _ => ⟨rfl, rfl⟩) rfl rfl hfn
      · cases hc'
    | loop =>
      revert Ic'
      apply BwsConc.lstep_elim (show BwsConc.lstep s.c = some c' from hc')
      case ret =>
        intro hl _ Ic'
        simp only [effect, hl]
        exact J_keep hJ _ s.arg Ic' rfl (fun j _ => ⟨rfl, rfl⟩) rfl rfl hfn
      case lock =>
        intro hl hfree Ic'
        simp only [effect, hl]
        exact J_acq hJ _ .loop .sync Ic' hfree (by simp [inflight, acq]) rfl rfl hfn
      case sync =>
        intro hl Ic'
        simp only [effect, hl]
        exact syncEnds .loop _ Ic' (by simp [inflight, hJ.ctl.mu_loop.2 hl]) rfl rfl rfl hfn
    | client i =>
      -- the moved pc is not `closeF`, `flushed` stays as it is: `fin_none` is kept
      have fn : ∀ (c'' : BwsConc.St) (v : BwsConc.CPc), c''.flushedClosed = s.c.flushedClosed →
          c''.cl = BwsConc.upd s.c.cl i v → v ≠ .closeF →
          s.finalSt = none → NoFinal c'' := by
        intro c'' v h1 h2 hv hn
        exact ⟨by rw [h1]; exact (hfn hn).1, by rw [h2]; exact not_closeF_upd (hfn hn).2 hv⟩
      -- the section in flight is the one `i` is in
      have hin : ∀ {pc : BwsConc.CPc}, s.c.cl i = pc → BwsConc.inCS pc = true → inflight s = [(.client i, opOf pc (s.arg i))] := by
        intro pc hpc hcs
        have hmu := (hJ.ctl.mu_cl i).2 (by rw [hpc]; exact hcs)
        simp only [inflight, hmu, hpc]
      have acquires : ∀ (v : BwsConc.CPc) (o : LOp), s.c.mu = .free → BwsConc.inCS v = true → opOf v (s.arg i) = o → v ≠ .closeF →
          BwsConc.Inv cfg { s.c with cl := BwsConc.upd s.c.cl i v, mu := .client i } →
          J cfg d0 (acq s { s.c with cl := BwsConc.upd s.c.cl i v, mu := .client i } (.client i) o) := by
        intro v o hfree _ ho hv I
        exact J_acq hJ _ (.client i) o I hfree (by simp [inflight, acq, ho]) rfl rfl (fn _ v rfl rfl hv)
      -- `Stop`'s first section: `mark`
      have stopSection : ∀ (c'' : BwsConc.St) (v : BwsConc.CPc), s.c.cl i = .inT → BwsConc.Inv cfg c'' → c''.mu = .free →
          c''.init = s.c.init → c''.stopped = (s.c.stopped || s.c.init) → c''.flushedClosed = s.c.flushedClosed →
          c''.cl = BwsConc.upd s.c.cl i v → v ≠ .closeF →
          J cfg d0 { fin s c'' (.client i) .mark with
            markLen := if !s.d.init || s.d.stopped then s.markLen else s.hist.length + 1 } := by
        intro c'' v hpc I hfree hi hs hfc hcl hv
        refine J_fin hJ c'' (.client i) .mark _ s.finalSt s.finalLen I (hin hpc rfl) hfree
          (by rw [hi, hJ.init_eq]; exact (mark_init s.d).symm)
          (by rw [hs, hJ.init_eq, hJ.stopped_eq]; exact (mark_stopped s.d).symm) ?_ ?_ (fn c'' v hfc hcl hv)
        · split
          · exact Nat.le_succ_of_le hJ.mlen
          · exact Nat.le_refl _
        · intro sF hs
          obtain ⟨a, b, c, d, e⟩ := fin_some_grow hJ (.client i) .mark sF hs
          have hst := (hJ.fin_some sF hs).1
          exact ⟨a, b, by simp [hst]; exact c, d, e⟩
      have keeps : ∀ (v : BwsConc.CPc), BwsConc.inCS (s.c.cl i) = false → v ≠ .closeF →
          BwsConc.Inv cfg { s.c with cl := BwsConc.upd s.c.cl i v } →
          J cfg d0 { s with c := { s.c with cl := BwsConc.upd s.c.cl i v } } :=
        fun v hnc hv I => J_client_keep hJ i _ I hnc v rfl rfl rfl rfl (fn _ v rfl rfl hv)
      revert Ic'
      apply BwsConc.cstep_elim (show BwsConc.cstep cfg s.c i = some c' from hc')
      case lockW | lockS | lockT | lockF =>
        intro hpc hfree I; simp only [effect, hpc]; exact acquires _ _ hfree rfl rfl nofun I
      case write =>
        intro hpc I
        simp only [effect, hpc]
        have W := write_spec s.d (s.arg i) hJ.wf.bound
        exact J_fin hJ _ (.client i) (.write (s.arg i)) s.markLen s.finalSt s.finalLen I (hin hpc rfl) rfl
          W.init.symm (by show s.c.stopped = _; rw [hJ.stopped_eq]; exact W.stopped.symm)
          (Nat.le_succ_of_le hJ.mlen) (fun sF hs => fin_some_grow hJ _ _ sF hs) (fn _ .idle rfl rfl nofun)
      case sync =>
        intro hpc I
        simp only [effect, hpc]
        exact syncEnds (.client i) _ I (hin hpc rfl) rfl rfl rfl (fn _ .idle rfl rfl nofun)
      case stopUninit =>
        intro hpc hi I
        simp only [effect, hpc]
        exact stopSection _ .retT hpc I rfl rfl (by show s.c.stopped = _; rw [hi, Bool.or_false]) rfl rfl nofun
      case stopAgain =>
        intro hpc _ hst I
        simp only [effect, hpc]
        exact stopSection _ _ hpc I rfl rfl (by show s.c.stopped = _; rw [hst, Bool.true_or]) rfl rfl
          (by cases cfg.waitFlushed <;> simp)
      case stop =>
        intro hpc hi _ _ I
        simp only [effect, hpc]
        exact stopSection _ .waitDone hpc I rfl rfl (by show true = _; rw [hi, Bool.or_true]) rfl rfl nofun
      case stopHeld => exact fun _ _ _ hl => by rw [hlw] at hl; cases hl
      case recvDoneHeld => exact fun hpc => absurd hpc (hJ.ctl.no_bug i)
      case recvFlushed | recvDone =>
        intro hpc _ I; simp only [effect, hpc]; exact keeps _ (by rw [hpc]; rfl) nofun I
      case ret => intro hpc I; simp only [effect, hpc]; exact keeps .idle (by rw [hpc]; rfl) nofun I
      case closeFlushed =>
        intro hpc I
        simp only [effect, hpc]
        exact J_client_keep hJ i _ I (by rw [hpc]; rfl) .retT rfl rfl rfl rfl fun hn => absurd hpc ((hfn hn).2 i)
      case finalSync =>
        -- the final `Sync` of the shutting-down `Stop`: recorded in `finalSt`, `finalLen`
        intro hpc I
        simp only [effect, hpc]
        have S := sync_spec s.d
        have hst : s.c.stopped = true := hJ.ctl.waiting i (Or.inl (by rw [hpc]; rfl))
        refine J_fin hJ _ (.client i) .sync s.markLen (some (Bws.sync s.d).1) (s.hist.length + 1) I (hin hpc rfl) rfl
          (by show s.c.init = _; rw [hJ.init_eq]; exact S.init.symm)
          (by show s.c.stopped = _; rw [hJ.stopped_eq]; exact S.stopped.symm)
          (Nat.le_succ_of_le hJ.mlen) ?_ (fun h => by cases h)
        intro sF hs
        cases hs
        have ht : (s.hist ++ [(Who.client i, LOp.sync)]).take (s.hist.length + 1) = s.hist ++ [(Who.client i, LOp.sync)] := by
          apply List.take_of_length_le; simp
        refine ⟨?_, by simp, Nat.lt_succ_of_le hJ.mlen, ?_, ?_⟩
        · show (Bws.sync s.d).1.stopped = true
          rw [S.stopped, ← hJ.stopped_eq]; exact hst
        · rw [ht, ops_snoc, lrun_snoc, ← hJ.data]; rfl
        · rw [ht, ops_snoc]; simp

theorem runActs_induct {cfg : BwsConc.Cfg} {P : St → Prop} (hstep : ∀ s a s', P s → step cfg s a = some s' → P s')
    (acts : List Act) : ∀ s s', P s → runActs cfg s acts = some s' → P s' :=
  BwsConc.run_induct (run := runActs cfg) (fun _ => rfl) (fun s a as => by rw [runActs]; cases step cfg s a <;> rfl) hstep acts

theorem J_reach (cfg : BwsConc.Cfg) (hlw : cfg.lockedWait = false) (d0 : Bws.St) (h0 : Fresh d0) (s : St)
    (h : Reach cfg d0 s) : J cfg d0 s := by
  obtain ⟨acts, ha⟩ := h
  exact runActs_induct (fun s a s' => J_step cfg hlw d0 s s' a) acts _ _ (J_init cfg d0 h0) ha

/-- every step is outside all critical sections, begins one (the mutex was free) or ends one -/
theorem step_cases (cfg : BwsConc.Cfg) (s s' : St) (a : Act) (h : step cfg s a = some s') :
    (s'.acqs = s.acqs ∧ s'.hist = s.hist) ∨
    (∃ w o, s.c.mu = .free ∧ s'.acqs = s.acqs ++ [(w, o)] ∧ s'.hist = s.hist) ∨
    (∃ w o, s'.acqs = s.acqs ∧ s'.hist = s.hist ++ [(w, o)]) := by
  unfold step at h
  cases hc : BwsConc.step cfg s.c a.ctl with
  | none => rw [hc] at h; cases h
  | some c' =>
    rw [hc] at h; cases h
    cases a with
    | write i bs => exact .inl ⟨rfl, rfl⟩
    | sync i => exact .inl ⟨rfl, rfl⟩
    | stop i => exact .inl ⟨rfl, rfl⟩
    | tick => exact .inl ⟨rfl, rfl⟩
    | client i =>
      generalize ht : effect s c' (.client i) = t
      simp only [effect] at ht
      revert ht
      apply BwsConc.cstep_elim (show BwsConc.cstep cfg s.c i = some c' from hc)
      case lockW | lockS | lockT | lockF =>
        intro hpc hfree ht; rw [hpc] at ht; subst ht; exact .inr (.inl ⟨_, _, hfree, rfl, rfl⟩)
      case write | sync | stopUninit | finalSync | stopAgain | stopHeld | stop =>
        intro hpc; intros; rename_i ht; rw [hpc] at ht; subst ht; exact .inr (.inr ⟨_, _, rfl, rfl⟩)
      case recvFlushed | recvDone | recvDoneHeld | closeFlushed | ret =>
        intro hpc; intros; rename_i ht; rw [hpc] at ht; subst ht; exact .inl ⟨rfl, rfl⟩
    | loop =>
      generalize ht : effect s c' .loop = t
      simp only [effect] at ht
      revert ht
      apply BwsConc.lstep_elim (show BwsConc.lstep s.c = some c' from hc)
      case ret => intro hl _ ht; rw [hl] at ht; subst ht; exact .inl ⟨rfl, rfl⟩
      case lock => intro hl hfree ht; rw [hl] at ht; subst ht; exact .inr (.inl ⟨_, _, hfree, rfl, rfl⟩)
      case sync => intro hl ht; rw [hl] at ht; subst ht; exact .inr (.inr ⟨_, _, rfl, rfl⟩)

theorem step_ctl (cfg : BwsConc.Cfg) (s s' : St) (a : Act) (h : step cfg s a = some s') :
    BwsConc.step cfg s.c a.ctl = some s'.c := by
  unfold step at h
  cases hc : BwsConc.step cfg s.c a.ctl with
  | none => rw [hc] at h; cases h
  | some c' =>
    rw [hc] at h; injection h with h; subst h
    congr 1
    cases a with
    | write i bs => rfl
    | sync i => rfl
    | stop i => rfl
    | tick => rfl
    | client i => simp only [effect]; split <;> rfl
    | loop => simp only [effect]; split <;> rfl

theorem runActs_ctl (cfg : BwsConc.Cfg) (acts : List Act) : ∀ s s', runActs cfg s acts = some s' →
    BwsConc.runActs cfg s.c (acts.map Act.ctl) = some s'.c := by
  induction acts with
  | nil => intro s s' h; simp only [runActs] at h; injection h with h; subst h; rfl
  | cons a as ih =>
    intro s s' h
    simp only [runActs] at h
    cases hs : step cfg s a with
    | none => rw [hs] at h; cases h
    | some t =>
      rw [hs] at h
      simp only [List.map_cons, BwsConc.runActs, step_ctl cfg s t a hs]
      exact ih t s' h

theorem reach_ctl (cfg : BwsConc.Cfg) (d0 : Bws.St) (s : St) (h : Reach cfg d0 s) : BwsConc.Reach cfg s.c := by
  obtain ⟨acts, ha⟩ := h
  exact ⟨acts.map Act.ctl, runActs_ctl cfg acts _ _ ha⟩

theorem step_isSome (cfg : BwsConc.Cfg) (s : St) (a : Act) :
    (step cfg s a).isSome = (BwsConc.step cfg s.c a.ctl).isSome := by
  unfold step; cases BwsConc.step cfg s.c a.ctl <;> rfl

theorem reach_step (cfg : BwsConc.Cfg) (d0 : Bws.St) (s s' : St) (a : Act) (h : Reach cfg d0 s)
    (hs : step cfg s a = some s') : Reach cfg d0 s' := by
  obtain ⟨acts, ha⟩ := h
  refine ⟨acts ++ [a], ?_⟩
  rw [BwsConc.run_append (step := step cfg) (run := runActs cfg) (fun _ => rfl)
    (fun s a as => by rw [runActs]; cases step cfg s a <;> rfl) acts [a] _ _ ha]
  simp only [runActs, hs]

end ZapVerif.BwsCB
