import ZapVerif.Proofs.Sync
/-! Data-race freedom over M10 for the lock disciplines.  Each discipline has a pairwise lemma: two conflicting
    accesses `a` (earlier) and `b` of a trace `post ++ b :: (mid ++ a :: pre)` that both satisfy the per-event
    condition of the discipline are ordered by happens-before; `drf_of_pairs` turns it into `DRF`. -/
namespace ZapVerif.Sync

theorem evAt_append_lt {tr : List Ev} {k : Nat} (post : List Ev) (h : k < tr.length) :
    evAt (post ++ tr) k = evAt tr k := by
  induction post with
  | nil => simp
  | cons e post ih =>
    have : k < (post ++ tr).length := by simp; omega
    rw [List.cons_append, evAt_cons_lt e this, ih]

theorem evAt_of_eq {tr A B : List Ev} {e : Ev} (h : tr = A ++ e :: B) : evAt tr B.length = some e := by
  subst h; exact evAt_append_self A e B

theorem conflict_parts {x : Var} {a b : Ev} (h : conflict x a b = true) :
    a.touches x = true ∧ b.touches x = true ∧ (a.isWrite = true ∨ b.isWrite = true) ∧
    ¬(a.isAtomic = true ∧ b.isAtomic = true) ∧ a.tid ≠ b.tid := by
  simp [conflict] at h
  obtain ⟨⟨⟨⟨h1, h2⟩, h3⟩, h4⟩, h5⟩ := h
  exact ⟨h1, h2, h3, by intro ⟨p, q⟩; rcases h4 with h | h <;> simp_all, h5⟩

theorem race_split {tr : List Ev} {i j : Nat} {a b : Ev} (hij : i < j)
    (ha : evAt tr i = some a) (hb : evAt tr j = some b) :
    ∃ post mid pre, tr = post ++ b :: (mid ++ a :: pre) ∧ pre.length = i ∧ (mid ++ a :: pre).length = j := by
  obtain ⟨post, sb, ht, hl⟩ := evAt_split hb
  subst ht
  have ha' : evAt sb i = some a := by
    have h1 : i < (b :: sb).length := by simp; omega
    rw [evAt_append_lt post h1, evAt_cons_lt b (by omega)] at ha
    exact ha
  obtain ⟨mid, pre, hs, hl2⟩ := evAt_split ha'
  subst hs
  exact ⟨post, mid, pre, rfl, hl2, hl⟩

theorem drf_of_pairs {x : Var} {tr : List Ev}
    (h : ∀ post mid pre a b, tr = post ++ b :: (mid ++ a :: pre) → conflict x a b = true →
      HB tr pre.length (mid ++ a :: pre).length) : DRF tr x := by
  rintro ⟨i, j, a, b, hij, ha, hb, hc, hn⟩
  obtain ⟨post, mid, pre, ht, hli, hlj⟩ := race_split hij ha hb
  exact hn (hli ▸ hlj ▸ h post mid pre a b ht hc)

theorem holder_readers (m : Lock) (s : Tid) : ∀ tr, WF tr → holder m tr = some s → readers m tr = []
  | [], _, h => by simp [holder] at h
  | e :: tr, hwf, h => by
    have ih := holder_readers m s tr hwf.1
    have hok : okStep e tr = true := hwf.2
    rcases holder_cases m e tr with ⟨_, _, h0⟩ | ⟨t, rfl, _⟩ | ⟨t, rfl, h0⟩
    · -- the holder stays, so there was no reader, and a reader cannot come while m is held
      have hnor := ih (h0 ▸ h)
      rcases readers_cases m e tr with h1 | ⟨t, rfl, _⟩ | ⟨t, rfl, _⟩
      · rw [h1, hnor]
      · simp [okStep, h0 ▸ h] at hok
      · simp [okStep, hnor] at hok
    · -- `Lock(m)` waits until the readers are gone
      simp [okStep] at hok
      simpa [readers] using hok.2
    · rw [h0] at h; cases h

theorem rel_between (m : Lock) (s : Tid) (tr mid : List Ev) (hwf : WF (mid ++ tr))
    (h : holder m tr = some s) (hn : holder m (mid ++ tr) ≠ some s) :
    ∃ mid2 mid1, mid = mid2 ++ Ev.rel s m :: mid1 ∧ holder m (mid1 ++ tr) = some s := by
  obtain ⟨m2, e, m1, hs, h1, h2⟩ := first_change (holder m · = some s) tr mid h hn
  have hok : okStep e (m1 ++ tr) = true := (WF_suffix m2 (e :: (m1 ++ tr)) (by simpa [hs] using hwf)).2
  rcases holder_cases m e (m1 ++ tr) with ⟨_, _, h0⟩ | ⟨t, rfl, _⟩ | ⟨t, rfl, _⟩
  · exact absurd (h0 ▸ h1) h2
  · simp [okStep, h1] at hok
  · obtain rfl : s = t := by simpa [okStep, h1] using hok
    exact ⟨m2, m1, hs, h1⟩

theorem rrel_between (m : Lock) (s : Tid) (tr mid : List Ev)
    (h : s ∈ readers m tr) (hn : s ∉ readers m (mid ++ tr)) :
    ∃ mid2 mid1, mid = mid2 ++ Ev.rrel s m :: mid1 ∧ s ∈ readers m (mid1 ++ tr) := by
  obtain ⟨m2, e, m1, hs, h1, h2⟩ := first_change (s ∈ readers m ·) tr mid h hn
  rcases readers_cases m e (m1 ++ tr) with h0 | ⟨t, rfl, h0⟩ | ⟨t, rfl, h0⟩
  · exact absurd (h0 ▸ h1) h2
  · exact absurd (h0 ▸ List.mem_cons_of_mem t h1) h2
  · by_cases hts : s = t
    · exact ⟨m2, m1, hts ▸ hs, h1⟩
    · exact absurd (h0 ▸ (List.mem_erase_of_ne hts).mpr h1) h2

theorem acq_between (m : Lock) (t : Tid) (tr mid : List Ev)
    (hn : holder m tr ≠ some t) (h : holder m (mid ++ tr) = some t) :
    ∃ mid2 mid1, mid = mid2 ++ Ev.acq t m :: mid1 := by
  obtain ⟨m2, e, m1, hs, h1, h2⟩ := first_gain (holder m · = some t) tr mid hn h
  rcases holder_cases m e (m1 ++ tr) with ⟨_, _, h0⟩ | ⟨t', rfl, h0⟩ | ⟨t', rfl, h0⟩
  · exact absurd (h0 ▸ h2) h1
  · obtain rfl : t' = t := Option.some.inj (h0.symm.trans h2)
    exact ⟨m2, m1, hs⟩
  · rw [h0] at h2; cases h2

theorem racq_between (m : Lock) (t : Tid) (tr mid : List Ev)
    (hn : t ∉ readers m tr) (h : t ∈ readers m (mid ++ tr)) :
    ∃ mid2 mid1, mid = mid2 ++ Ev.racq t m :: mid1 := by
  obtain ⟨m2, e, m1, hs, h1, h2⟩ := first_gain (t ∈ readers m ·) tr mid hn h
  rcases readers_cases m e (m1 ++ tr) with h0 | ⟨t', rfl, h0⟩ | ⟨t', rfl, h0⟩
  · exact absurd (h0 ▸ h2) h1
  · rcases List.mem_cons.mp (h0 ▸ h2) with rfl | h3
    · exact ⟨m2, m1, hs⟩
    · exact absurd h3 h1
  · exact absurd (List.mem_of_mem_erase (h0 ▸ h2)) h1

theorem length_lt_append_cons (mid : List Ev) (a : Ev) (pre : List Ev) : pre.length < (mid ++ a :: pre).length := by
  simp; omega

theorem HB_into_last {e a : Ev} (mid pre : List Ev) (h : a.tid = e.tid ∨ sw a e = true) :
    HB (e :: (mid ++ a :: pre)) pre.length (mid ++ a :: pre).length := by
  have ha := evAt_cons_of_some e (evAt_append_self mid a pre)
  have he := evAt_cons_self e (mid ++ a :: pre)
  exact h.elim (.po (length_lt_append_cons mid a pre) ha he) (.sw (length_lt_append_cons mid a pre) ha he)

theorem chain_of_split (post mid4 mid3 mid1 pre : List Ev) {a r g b : Ev}
    (har : a.tid = r.tid) (hsw : sw r g = true) (hgb : g.tid = b.tid) :
    HB (post ++ b :: (mid4 ++ g :: (mid3 ++ r :: (mid1 ++ a :: pre)))) pre.length
      (mid4 ++ g :: (mid3 ++ r :: (mid1 ++ a :: pre))).length :=
  .trans (HB_append post (HB_cons b (HB_append mid4 (HB_cons g (HB_append mid3 (HB_into_last mid1 pre (.inl har)))))))
    (.trans (HB_append post (HB_cons b (HB_append mid4 (HB_into_last mid3 _ (.inr hsw)))))
      (HB_append post (HB_into_last mid4 _ (.inl hgb))))

/-- a's goroutine holds m exclusively at `a`; b's goroutine (another one) holds m in some mode at `b`:
    then a —po→ Unlock —sw→ (R)Lock —po→ b -/
theorem cs_chain (m : Lock) (post mid pre : List Ev) (a b : Ev)
    (hha : holder m (a :: pre) = holder m pre)
    (hwfm : WF (mid ++ a :: pre)) (hxa : holder m pre = some a.tid) (hne : a.tid ≠ b.tid)
    (hb : holder m (mid ++ a :: pre) = some b.tid ∨ b.tid ∈ readers m (mid ++ a :: pre)) :
    HB (post ++ b :: (mid ++ a :: pre)) pre.length (mid ++ a :: pre).length := by
  have hnb : holder m (mid ++ a :: pre) ≠ some a.tid := by
    intro hcon
    rcases hb with hb | hb
    · exact hne (Option.some.inj (hcon.symm.trans hb))
    · rw [holder_readers m a.tid _ hwfm hcon] at hb; cases hb
  obtain ⟨m2, m1, rfl, hrel⟩ := rel_between m a.tid (a :: pre) mid hwfm (hha ▸ hxa) hnb
  simp only [List.append_assoc, List.cons_append] at hb hwfm ⊢
  -- after the Unlock the lock is free and has no readers, so b's goroutine takes it later
  have hfree : holder m (Ev.rel a.tid m :: (m1 ++ a :: pre)) ≠ some b.tid := by simp [holder]
  have hnor : b.tid ∉ readers m (Ev.rel a.tid m :: (m1 ++ a :: pre)) := by
    simp [readers, holder_readers m a.tid _ (WF_suffix m2 _ hwfm).1 hrel]
  rcases hb with hb | hb
  · obtain ⟨m4, m3, rfl⟩ := acq_between m b.tid _ m2 hfree hb
    simp only [List.append_assoc, List.cons_append]
    exact chain_of_split post m4 m3 m1 pre rfl (by simp [sw]) rfl
  · obtain ⟨m4, m3, rfl⟩ := racq_between m b.tid _ m2 hnor hb
    simp only [List.append_assoc, List.cons_append]
    exact chain_of_split post m4 m3 m1 pre rfl (by simp [sw]) rfl

/-- by the vector clock `know` of Model/Sync.lean (`lockset_ordered` + `know_sound`); `cs_chain` orders the same pairs -/
theorem lockset_drf (x : Var) (m : Lock) (tr : List Ev) (hwf : WF tr) (hg : Guarded x m tr) :
    DRF tr x := by
  refine drf_of_pairs fun post mid pre a b ht hc => ?_
  obtain ⟨hax, hbx, -⟩ := conflict_parts hc
  subst ht
  have hk := lockset_ordered x m b (mid ++ a :: pre) (WF_suffix post _ hwf) (Guarded_suffix x m post _ hg) hbx
    pre.length a (evAt_append_self mid a pre) hax
  exact HB_append post (know_sound b _ _ hk)

theorem readers_access {x : Var} {a : Ev} (m : Lock) (pre : List Ev) (hax : a.touches x = true) :
    readers m (a :: pre) = readers m pre := by
  cases a <;> simp [Ev.touches] at hax <;> simp [readers]

theorem rwGuarded_iff_split {x : Var} {m : Lock} {tr : List Ev} :
    RWGuarded x m tr ↔ ∀ post e pre, tr = post ++ e :: pre → e.touches x = true →
      if e.isWrite then holder m pre = some e.tid
      else (holder m pre = some e.tid ∨ e.tid ∈ readers m pre) :=
  forall_split_iff (R := RWGuarded x m) trivial (fun _ _ => Iff.rfl) tr

/-- writes under the exclusive lock, reads under the exclusive or the read lock: two conflicting accesses
    are ordered through the Unlock / RUnlock of the earlier one -/
theorem rw_pair {x : Var} (m : Lock) (post mid pre : List Ev) (a b : Ev)
    (hwfm : WF (mid ++ a :: pre)) (hax : a.touches x = true)
    (hw : a.isWrite = true ∨ b.isWrite = true) (hne : a.tid ≠ b.tid)
    (ga : if a.isWrite then holder m pre = some a.tid
          else (holder m pre = some a.tid ∨ a.tid ∈ readers m pre))
    (gb : if b.isWrite then holder m (mid ++ a :: pre) = some b.tid
          else (holder m (mid ++ a :: pre) = some b.tid ∨ b.tid ∈ readers m (mid ++ a :: pre))) :
    HB (post ++ b :: (mid ++ a :: pre)) pre.length (mid ++ a :: pre).length := by
  have hbholds : holder m (mid ++ a :: pre) = some b.tid ∨ b.tid ∈ readers m (mid ++ a :: pre) := by
    split at gb
    · exact .inl gb
    · exact gb
  have hexcl : holder m pre = some a.tid →
      HB (post ++ b :: (mid ++ a :: pre)) pre.length (mid ++ a :: pre).length :=
    fun hxa => cs_chain m post mid pre a b (holder_access m pre hax) hwfm hxa hne hbholds
  split at ga
  · exact hexcl ga
  rcases ga with ga | ga
  · exact hexcl ga
  -- a is a read under the read lock, so b is a write under the exclusive lock: a —po→ RUnlock —sw→ Lock —po→ b
  have hbw : b.isWrite = true := hw.resolve_left ‹_›
  rw [if_pos hbw] at gb
  obtain ⟨m2, m1, rfl, hin⟩ := rrel_between m a.tid (a :: pre) mid (readers_access m pre hax ▸ ga)
    (by rw [holder_readers m b.tid _ hwfm gb]; exact List.not_mem_nil)
  simp only [List.append_assoc, List.cons_append] at gb hwfm ⊢
  have hnoh : holder m (Ev.rrel a.tid m :: (m1 ++ a :: pre)) ≠ some b.tid := by
    intro hcon
    rw [holder_readers m b.tid _ (WF_suffix m2 _ hwfm).1 hcon] at hin; cases hin
  obtain ⟨m4, m3, rfl⟩ := acq_between m b.tid _ m2 hnoh gb
  simp only [List.append_assoc, List.cons_append]
  exact chain_of_split post m4 m3 m1 pre rfl (by simp [sw]) rfl

theorem rw_lockset_drf (x : Var) (m : Lock) (tr : List Ev) (hwf : WF tr) (hg : RWGuarded x m tr) :
    DRF tr x := by
  refine drf_of_pairs fun post mid pre a b ht hc => ?_
  obtain ⟨hax, hbx, hw, -, hne⟩ := conflict_parts hc
  have hs := rwGuarded_iff_split.mp hg
  subst ht
  exact rw_pair m post mid pre a b (WF_suffix post _ hwf).1 hax hw hne
    (hs (post ++ b :: mid) a pre (by simp) hax) (hs post b _ rfl hbx)

end ZapVerif.Sync
