import ZapVerif.Proofs.GoMini
import ZapVerif.Model.TransSlogX
/-! The interpreter context of Gen/TransSlog.lean as Props/C18.lean uses it: level thresholds against the regenerated table,
    the encoding of attributes, the insertion loop as the model's `ins`, the lookups of `ext`. -/
namespace ZapVerif.TransSlog
open ZapVerif ZapVerif.GoMini ZapVerif.Slog ZapVerif.Gen.TransSlog

/-- the regenerated level table (observed on the running code) lies on the thresholds of `convertSlogLevel` -/
theorem slogLevels_thresholds : ∀ p ∈ Gen.slogLevels, levelSpec p.1 = p.2 := by decide +kernel

theorem levelSpec_ranges (l : Int) :
    (8 ≤ l ∧ levelSpec l = 2) ∨ (4 ≤ l ∧ l < 8 ∧ levelSpec l = 1) ∨ (0 ≤ l ∧ l < 4 ∧ levelSpec l = 0) ∨
      (l < 0 ∧ levelSpec l = -1) := by
  unfold levelSpec
  by_cases h8 : l ≥ 8
  · simp [h8]
  by_cases h4 : l ≥ 4
  · simp [h8, h4]; omega
  by_cases h0 : l ≥ 0 <;> simp [h8, h4, h0] <;> omega

theorem levelSpec_mono {l l' : Int} (h : l ≤ l') : levelSpec l ≤ levelSpec l' := by
  have := levelSpec_ranges l
  have := levelSpec_ranges l'
  omega

@[simp] theorem X_funs (P : Par) : (X P).funs = funs := id rfl
@[simp] theorem X_ext (P : Par) : (X P).ext = ext P := id rfl

def keyOf : SAttr → String
  | .leaf k _ _ => k
  | .nilv k _ => k
  | .group k _ _ => k

theorem attrV_eq (a : SAttr) : attrV a = .list [.bytes (sbytes (keyOf a)), valueV a] := by
  cases a <;> simp [attrV, valueV, keyOf]

@[simp] theorem idx_attr0 (a : SAttr) : indexVal (attrV a) (.int 0) = .ok (.bytes (sbytes (keyOf a))) := by
  rw [attrV_eq]; rfl
@[simp] theorem idx_attr1 (a : SAttr) : indexVal (attrV a) (.int 1) = .ok (valueV a) := by
  rw [attrV_eq]; rfl

/-- `Value.Resolve` strips every LogValuer layer -/
def resolved : SAttr → SAttr
  | .leaf k _ l => .leaf k 0 l
  | .nilv k _ => .nilv k 0
  | .group k _ ms => .group k 0 ms

def lvOf : SAttr → Nat
  | .leaf _ lv _ => lv
  | .nilv _ lv => lv
  | .group _ lv _ => lv

/-- `Value.Kind` of a resolved value -/
def kind0 : SAttr → Int
  | .leaf _ _ l => kindOfTy l.ty
  | .nilv _ _ => 0
  | .group _ _ _ => 8

@[simp] theorem ext_resolve (P : Par) (a : SAttr) : ext P "Value.Resolve" [valueV a] = some [valueV (resolved a)] := by
  table_lookup ext ext.match_1
  cases a <;> rfl
@[simp] theorem ext_kind (P : Par) (a : SAttr) :
    ext P "Value.Kind" [valueV a] = some [.int (if (lvOf a : Int) > 0 then 9 else kind0 a)] := by
  cases a <;> rfl  -- the first name of the match: no other name to walk past
@[simp] theorem ext_group (P : Par) (k : String) (lv : Nat) (ms : List SAttr) :
    ext P "Value.Group" [valueV (.group k lv ms)] = some [.list (attrsV ms)] := by
  table_lookup ext ext.match_1
  rfl
@[simp] theorem ext_payload_leaf (P : Par) (k : String) (lv : Nat) (l : Leaf) :
    ext P "Value.Payload" [valueV (.leaf k lv l)] = some [leafV l] := by
  table_lookup ext ext.match_1
  rfl
@[simp] theorem ext_payload_nil (P : Par) (k : String) (lv : Nat) :
    ext P "Value.Payload" [valueV (.nilv k lv)] = some [leafV nilLeaf] := by
  table_lookup ext ext.match_1
  rfl

/-- `attr.Equal(slog.Attr{})` -/
def isZeroAttr : SAttr → Bool
  | .nilv k lv => (sbytes k).isEmpty && ((lv : Int) == 0)
  | _ => false

@[simp] theorem ext_equal (P : Par) (a : SAttr) (z : Val) :
    ext P "Attr.Equal" [.list [.bytes (sbytes (keyOf a)), valueV a], z] = some [.bool (isZeroAttr a)] := by
  table_lookup ext ext.match_1
  cases a <;> rfl

theorem sbytes_isEmpty (k : String) : (sbytes k).isEmpty = decide (k = "") := by
  unfold sbytes
  by_cases h : k = ""
  · subst h; simp
  · have : k.toList ≠ [] := fun he => h (String.toList_eq_nil_iff.mp he)
    simp [h, this]

theorem sbytes_eq_nil (k : String) : (sbytes k = []) ↔ k = "" := by
  have := sbytes_isEmpty k
  by_cases h : k = "" <;> simp_all

theorem keyOf_resolved (a : SAttr) : keyOf (resolved a) = keyOf a := by cases a <;> rfl
theorem lvOf_resolved (a : SAttr) : lvOf (resolved a) = 0 := by cases a <;> rfl
@[simp] theorem attrV_resolved (a : SAttr) : Val.list [.bytes (sbytes (keyOf a)), valueV (resolved a)] = attrV (resolved a) := by
  rw [attrV_eq, keyOf_resolved]
@[simp] theorem ext_equal' (P : Par) (a : SAttr) (z : Val) : ext P "Attr.Equal" [attrV a, z] = some [.bool (isZeroAttr a)] := by
  rw [attrV_eq, ext_equal]
@[simp] theorem builtin_tuple2 (a b : Val) : builtin "tuple" [a, b] = some (.list [a, b]) := id rfl

/-- the kind switch of `convertAttrToField` picks the constructor that carries the model's type tag -/
theorem kind_ctor (ty : String) :
    (kindOfTy ty = 1 ∧ ctorOfTy ty = "zap.Bool") ∨ (kindOfTy ty = 2 ∧ ctorOfTy ty = "zap.Duration") ∨
    (kindOfTy ty = 3 ∧ ctorOfTy ty = "zap.Float64") ∨ (kindOfTy ty = 4 ∧ ctorOfTy ty = "zap.Int64") ∨
    (kindOfTy ty = 5 ∧ ctorOfTy ty = "zap.String") ∨ (kindOfTy ty = 6 ∧ ctorOfTy ty = "zap.Time") ∨
    (kindOfTy ty = 7 ∧ ctorOfTy ty = "zap.Uint64") ∨ (kindOfTy ty = 0 ∧ ctorOfTy ty = "zap.Any") := by
  unfold kindOfTy ctorOfTy
  by_cases h1 : ty = "bool"; · simp [h1]
  by_cases h2 : ty = "duration"; · simp [h2]
  by_cases h3 : ty = "float64"; · simp [h3]
  by_cases h4 : ty = "int64"; · simp [h4]
  by_cases h5 : ty = "string"; · simp [h5]
  by_cases h6 : ty = "time"; · simp [h6]
  by_cases h7 : ty = "uint64"; · simp [h7]
  simp [h1, h2, h3, h4, h5, h6, h7]

theorem kindOfTy_range (ty : String) : 0 ≤ kindOfTy ty ∧ kindOfTy ty ≤ 7 := by
  rcases kind_ctor ty with ⟨h, _⟩ | ⟨h, _⟩ | ⟨h, _⟩ | ⟨h, _⟩ | ⟨h, _⟩ | ⟨h, _⟩ | ⟨h, _⟩ | ⟨h, _⟩ <;> omega

theorem nm_ne_skip (s : String) (h : (sbytes s == sbytes "zap.Skip") = false) (r : List Val) :
    Val.beqs (nm s :: r) [nm "zap.Skip"] = false := by
  simp [Val.beq, nm, h]

/-- `f != zap.Skip()` on what `convertAttrToField` returned -/
theorem convV_ne_skip (a : SAttr) : evalBin .ne (convV a) skipV = .ok (.bool (!isSkip (convert a))) := by
  have hs : Val.beqs [nm "zap.Skip"] [nm "zap.Skip"] = true := by simp [Val.beq, nm]
  have n0 := nm_ne_skip "zap.Bool" (by decide +kernel)
  have n1 := nm_ne_skip "zap.Duration" (by decide +kernel)
  have n2 := nm_ne_skip "zap.Float64" (by decide +kernel)
  have n3 := nm_ne_skip "zap.Int64" (by decide +kernel)
  have n4 := nm_ne_skip "zap.String" (by decide +kernel)
  have n5 := nm_ne_skip "zap.Time" (by decide +kernel)
  have n6 := nm_ne_skip "zap.Uint64" (by decide +kernel)
  have n7 := nm_ne_skip "zap.Any" (by decide +kernel)
  have n8 := nm_ne_skip "zap.Inline" (by decide +kernel)
  have n9 := nm_ne_skip "zap.Object" (by decide +kernel)
  cases a with
  | leaf k lv l =>
    rcases kind_ctor l.ty with ⟨_, hc⟩ | ⟨_, hc⟩ | ⟨_, hc⟩ | ⟨_, hc⟩ | ⟨_, hc⟩ | ⟨_, hc⟩ | ⟨_, hc⟩ | ⟨_, hc⟩ <;>
      simp [convV, skipV, convert, isSkip, hc, n0, n1, n2, n3, n4, n5, n6, n7]
  | nilv k lv =>
    by_cases hk : k = ""
    · simp [convV, skipV, convert, isSkip, hk, hs]
    · simp [convV, skipV, convert, isSkip, hk, n7]
  | group k lv ms =>
    cases hany : anyContent ms
    · simp [convV, skipV, convert, isSkip, hany, hs]
    · by_cases hk : k = "" <;> simp [convV, skipV, convert, isSkip, hany, hk, n8, n9]

theorem convV_resolved (a : SAttr) : convV (resolved a) = convV a := by cases a <;> rfl
theorem dep_resolved (a : SAttr) : dep (resolved a) = dep a := by cases a <;> rfl

theorem dep_le_deps (m : SAttr) : ∀ ms : List SAttr, m ∈ ms → dep m ≤ deps ms
  | a :: r, h => by
    simp only [deps]
    rcases List.mem_cons.mp h with rfl | h
    · omega
    · have := dep_le_deps m r h; omega

/-! ### the insertion loop is the model's `ins` -/

def itemV : String ⊕ SAttr → Val
  | .inl g => .list [nm "zap.Namespace", .bytes (sbytes g)]
  | .inr a => convV a

def itemF : String ⊕ SAttr → Fld
  | .inl g => .ns g
  | .inr a => convert a

/-- `Slog.ins` over the attributes themselves -/
def insItems (p : List String) : List SAttr → List (String ⊕ SAttr) × Bool
  | [] => ([], false)
  | a :: r =>
    if isSkip (convert a) then (.inr a :: (insItems p r).1, (insItems p r).2)
    else (p.map .inl ++ .inr a :: r.map .inr, true)

theorem attrsV_eq_map : ∀ as : List SAttr, attrsV as = as.map attrV
  | [] => rfl
  | a :: r => by simp [attrsV, attrsV_eq_map r]

theorem converts_eq_map : ∀ as : List SAttr, converts as = as.map convert
  | [] => rfl
  | a :: r => by simp [converts, converts_eq_map r]

theorem insItems_is_ins (p : List String) : ∀ as : List SAttr,
    (insItems p as).1.map itemF = (ins p (converts as)).1 ∧ (insItems p as).2 = (ins p (converts as)).2
  | [] => by simp [insItems, ins, converts]
  | a :: r => by
    obtain ⟨h1, h2⟩ := insItems_is_ins p r
    cases hs : isSkip (convert a)
    · simp [insItems, ins, converts, hs, itemF, converts_eq_map, List.map_map, Function.comp_def]
    · simp [insItems, ins, converts, hs, itemF, h1, h2]

theorem attrFold_true (gs : List Bytes) : ∀ (as : List SAttr) (pre : List Val),
    as.foldl (attrStep gs) (pre, true) = (pre ++ as.map convV, true)
  | [], pre => by simp
  | a :: r, pre => by
    simp only [List.foldl_cons, attrStep, Bool.not_true, Bool.false_and, Bool.false_eq_true, if_false]
    rw [attrFold_true gs r]; simp

theorem attrFold_nil : ∀ (as : List SAttr) (acc : List Val × Bool),
    as.foldl (attrStep []) acc = (acc.1 ++ as.map convV, acc.2)
  | [], acc => by simp
  | a :: r, acc => by
    simp only [List.foldl_cons, attrStep, List.isEmpty_nil, Bool.not_true, Bool.and_false, Bool.false_and,
      Bool.false_eq_true, if_false]
    rw [attrFold_nil r]; simp

theorem attrFold_false (p : List String) (hp : p ≠ []) : ∀ (as : List SAttr) (pre : List Val),
    as.foldl (attrStep (p.map sbytes)) (pre, false) = (pre ++ (insItems p as).1.map itemV, (insItems p as).2)
  | [], pre => by simp [insItems]
  | a :: r, pre => by
    have hne : (p.map sbytes).isEmpty = false := by cases p <;> simp_all
    cases hs : isSkip (convert a)
    · simp only [List.foldl_cons, attrStep, hne, hs, Bool.not_false, Bool.and_self, if_true]
      rw [attrFold_true]
      simp [insItems, hs, itemV, List.map_map, Function.comp_def, List.append_assoc]
    · simp only [List.foldl_cons, attrStep, hs, Bool.not_true, Bool.and_false, Bool.false_eq_true, if_false]
      rw [attrFold_false p hp r]
      simp [insItems, hs, itemV, List.append_assoc]

/-- the fields `WithAttrs` hands to `core.With`, and whether it clears the pending groups, are
    the model's `addAttrs` (`Slog.ins` over the converted attributes) -/
theorem withAttrsSpec_is_ins (pending : List String) (as : List SAttr) :
    ∃ items : List (String ⊕ SAttr),
      (withAttrsSpec (pending.map sbytes) as).1 = items.map itemV ∧
      (addAttrs ⟨[], pending⟩ (converts as)).ctx = items.map itemF ∧
      (addAttrs ⟨[], pending⟩ (converts as)).pending = (if (withAttrsSpec (pending.map sbytes) as).2 then [] else pending) := by
  by_cases hp : pending = []
  · subst hp
    refine ⟨as.map .inr, ?_, ?_, ?_⟩
    · simp [withAttrsSpec, attrFold_nil, itemV, List.map_map, Function.comp_def]
    · simp [addAttrs, converts_eq_map, itemF, List.map_map, Function.comp_def]
    · simp [addAttrs, withAttrsSpec, attrFold_nil]
  · obtain ⟨h1, h2⟩ := insItems_is_ins pending as
    have hne : pending.isEmpty = false := by cases pending <;> simp_all
    refine ⟨(insItems pending as).1, ?_, ?_, ?_⟩
    · simp [withAttrsSpec, attrFold_false pending hp]
    · simp [addAttrs, hne, h1]
    · simp only [addAttrs, hne, withAttrsSpec, attrFold_false pending hp, ← h2]
      cases (insItems pending as).2 <;> simp

/-- the zap field constructors are free constructors; core, runtime and stack trace are the parameters; `copy` is Go's -/
@[simp] theorem ext_free (P : Par) :
    ext P "zap.Skip" [] = some [skipV] ∧
    (∀ k p, ext P "zap.Bool" [k, p] = some [.list [nm "zap.Bool", k, p]]) ∧
    (∀ k p, ext P "zap.Duration" [k, p] = some [.list [nm "zap.Duration", k, p]]) ∧
    (∀ k p, ext P "zap.Float64" [k, p] = some [.list [nm "zap.Float64", k, p]]) ∧
    (∀ k p, ext P "zap.Int64" [k, p] = some [.list [nm "zap.Int64", k, p]]) ∧
    (∀ k p, ext P "zap.String" [k, p] = some [.list [nm "zap.String", k, p]]) ∧
    (∀ k p, ext P "zap.Time" [k, p] = some [.list [nm "zap.Time", k, p]]) ∧
    (∀ k p, ext P "zap.Uint64" [k, p] = some [.list [nm "zap.Uint64", k, p]]) ∧
    (∀ k p, ext P "zap.Any" [k, p] = some [.list [nm "zap.Any", k, p]]) ∧
    (∀ k ms, ext P "zap.Object" [k, ms] = some [.list [nm "zap.Object", k, ms]]) ∧
    (∀ ms, ext P "zap.Inline" [ms] = some [.list [nm "zap.Inline", ms]]) ∧
    (∀ g, ext P "zap.Namespace" [g] = some [.list [nm "zap.Namespace", g]]) ∧
    (∀ c fs, ext P "Core.With" [c, fs] = some [P.coreWith c fs]) ∧
    (∀ c e n, ext P "Core.Check" [c, e, n] = some [P.check c e]) ∧
    (∀ pc, ext P "runtime.frameOf" [pc] = some [(P.frame pc).1, .bool (P.frame pc).2]) ∧
    (∀ n, ext P "stacktrace.Take" [.int n] = some [.bytes (P.take n)]) ∧
    (∀ a b, ext P "Handler.convertAndWrite" [a, b] = some [.list []]) ∧
    (∀ dst src, ext P "copy" [.list dst, .list src] =
      some [.list (src.take dst.length ++ dst.drop src.length), .int (min dst.length src.length)]) := by
  unfold ext ext.match_1
  simp only [String.reduceEq, ↓reduceDIte, implies_true, and_self, skipV]

theorem ext_makeStrings (P : Par) (n : Nat) :
    ext P "make.strings" [.int (n : Int)] = some [.list (List.replicate n (.bytes []))] := by
  unfold ext ext.match_1
  simp [show ¬ ((n : Int) < 0) by omega]

theorem ext_set (P : Par) (l : List Val) (i : Nat) (v : Val) (h : i < l.length) :
    ext P "slice.set" [.list l, .int (i : Int), v] = some [.list (l.set i v)] := by
  unfold ext ext.match_1
  simp [h]

@[simp] theorem builtin_ext (a : List Val) :
    builtin "zap.Skip" a = none ∧ builtin "zap.Bool" a = none ∧ builtin "zap.Duration" a = none ∧
    builtin "zap.Float64" a = none ∧ builtin "zap.Int64" a = none ∧ builtin "zap.String" a = none ∧
    builtin "zap.Time" a = none ∧ builtin "zap.Uint64" a = none ∧ builtin "zap.Any" a = none ∧
    builtin "zap.Inline" a = none ∧ builtin "zap.Object" a = none ∧ builtin "zap.Namespace" a = none ∧
    builtin "Value.Resolve" a = none ∧ builtin "Value.Kind" a = none ∧ builtin "Value.Group" a = none ∧
    builtin "Value.Payload" a = none ∧ builtin "Attr.Equal" a = none ∧ builtin "Core.With" a = none ∧
    builtin "Core.Check" a = none ∧ builtin "stacktrace.Take" a = none ∧ builtin "make.strings" a = none ∧
    builtin "slice.set" a = none := by
  simp [builtin]

end ZapVerif.TransSlog
