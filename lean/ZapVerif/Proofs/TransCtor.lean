import ZapVerif.Proofs.GoMini
import ZapVerif.Model.TransCtorX
/-! Lookup facts for the `…_matches_source` theorems of Props/C05.lean about Gen/TransCtor.lean.  Nothing here depends on the
    generated terms. -/
namespace ZapVerif.TransCtor
open ZapVerif ZapVerif.GoMini ZapVerif.Gen.TransCtor

@[simp] theorem X_funs (P : Par) : (X P).funs = funs := id rfl
@[simp] theorem X_ext (P : Par) : (X P).ext = ext P := id rfl
/-- `Enabled` of a core / an enabler, `LevelOf` and the no-op core are parameters; `fmt.Errorf` is a free constructor -/
@[simp] theorem ext_eq (P : Par) :
    (∀ c l, ext P "Core.Enabled" [c, .int l] = some [.bool (P.cen c l)]) ∧
    (∀ e l, ext P "LevelEnabler.Enabled" [e, .int l] = some [.bool (P.en e l)]) ∧
    (∀ e, ext P "LevelOf" [e] = some [.int (P.levelOf e)]) ∧
    (ext P "NewNopCore" [] = some [P.nop]) ∧
    (∀ args, ext P "fmt.Errorf" args = some [errV "fmt.Errorf" args]) := by
  refine ⟨?_, ?_, ?_, ?_, ?_⟩ <;> intros <;> table_lookup ext ext.match_1

@[simp] theorem builtin_ext (a : List Val) :
    builtin "Core.Enabled" a = none ∧ builtin "LevelEnabler.Enabled" a = none ∧ builtin "LevelOf" a = none ∧
    builtin "NewNopCore" a = none ∧ builtin "fmt.Errorf" a = none := by
  simp [builtin]

@[simp] theorem bi_0 (a : List Val) : builtin "Core.Enabled" a = none := (builtin_ext a).1
@[simp] theorem bi_1 (a : List Val) : builtin "LevelEnabler.Enabled" a = none := (builtin_ext a).2.1

end ZapVerif.TransCtor
