import ZapVerif.Proofs.GoMini
import ZapVerif.Model.TransLockedX
/-! Lookup facts for the `…_matches_source` theorems of Props/C12.lean and Props/C13.lean about Gen/TransLocked.lean. -/
namespace ZapVerif.TransLocked
open ZapVerif ZapVerif.GoMini ZapVerif.Gen.TransLocked

@[simp] theorem X_funs (P : Par) : (X P).funs = funs := id rfl
@[simp] theorem X_ext (P : Par) : (X P).ext = ext P := id rfl
/-- the mutex calls do nothing, a scripted sink answers with its script, the bufio.Writer through `P` -/
@[simp] theorem ext_eq (P : Par) :
    (∀ a, ext P "Mutex.Lock" a = some []) ∧
    (∀ a, ext P "Mutex.Unlock" a = some []) ∧
    (∀ n werrs serrs b, ext P "WriteSyncer.Write" [sinkV n werrs serrs, .bytes b] = some [.int n, .list werrs]) ∧
    (∀ n werrs serrs, ext P "WriteSyncer.Sync" [sinkV n werrs serrs] = some [.list serrs]) ∧
    (∀ i w ws size, ext P "BufferedWriteSyncer.initialize" [i, w, ws, .int size] =
      some [.bool true, P.init w ws size, ws, .int size]) ∧
    (∀ w, ext P "bufio.Available" [w] = some [.int (P.avail w)]) ∧
    (∀ w, ext P "bufio.Buffered" [w] = some [.int (P.buffered w)]) ∧
    (∀ w, ext P "bufio.Flush" [w] = some [(P.flush w).1, .list (P.flush w).2]) ∧
    (∀ w b, ext P "bufio.Write" [w, .bytes b] = some [(P.bwrite w b).1, .int (P.bwrite w b).2.1, .list (P.bwrite w b).2.2]) := by
  unfold ext ext.match_1
  simp only [String.reduceEq, ↓reduceDIte, implies_true, true_and, and_true]
  exact ⟨fun _ _ _ _ => rfl, fun _ _ _ => rfl⟩

@[simp] theorem builtin_ext (a : List Val) : builtin "bufio.Available" a = none ∧ builtin "bufio.Buffered" a = none := by
  simp [builtin]

theorem nm_lock : nm "Mutex.Lock" = .bytes [77, 117, 116, 101, 120, 46, 76, 111, 99, 107] := congrArg Val.bytes (by decide +kernel)
theorem nm_unlock : nm "Mutex.Unlock" = .bytes [77, 117, 116, 101, 120, 46, 85, 110, 108, 111, 99, 107] :=
  congrArg Val.bytes (by decide +kernel)
theorem nm_wwrite : nm "WriteSyncer.Write" = .bytes [87, 114, 105, 116, 101, 83, 121, 110, 99, 101, 114, 46, 87, 114, 105, 116, 101] :=
  congrArg Val.bytes (by decide +kernel)
theorem nm_wsync : nm "WriteSyncer.Sync" = .bytes [87, 114, 105, 116, 101, 83, 121, 110, 99, 101, 114, 46, 83, 121, 110, 99] :=
  congrArg Val.bytes (by decide +kernel)
theorem nm_flush : nm "bufio.Flush" = .bytes [98, 117, 102, 105, 111, 46, 70, 108, 117, 115, 104] := congrArg Val.bytes (by decide +kernel)
theorem nm_bwrite : nm "bufio.Write" = .bytes [98, 117, 102, 105, 111, 46, 87, 114, 105, 116, 101] := congrArg Val.bytes (by decide +kernel)

end ZapVerif.TransLocked
