import ZapVerif.Proofs.GoMini
import ZapVerif.Proofs.Zio
import ZapVerif.Model.TransZioX
/-! Lookup facts and the pure list lemmas for the `…_matches_source` theorems of Props/C17.lean about
    Gen/TransZio.lean.  Nothing here depends on the shape of the generated terms. -/
namespace ZapVerif.TransZio
open ZapVerif ZapVerif.GoMini ZapVerif.Zio ZapVerif.Gen.TransZio

@[simp] theorem X_funs (en : Bool) : (X en).funs = funs := rfl
@[simp] theorem X_ext (en : Bool) : (X en).ext = ext en := rfl
@[simp] theorem ext_enabled (en : Bool) (v : Val) : ext en "Enabled" [v] = some [.bool en] := by
  table_lookup ext ext.match_1
@[simp] theorem ext_log (en : Bool) (out : List Val) (b : Bytes) :
    ext en "log" [.list out, .bytes b] = some [.list (if en then out ++ [.bytes b] else out)] := by
  table_lookup ext ext.match_1
@[simp] theorem bi_enabled (a : List Val) : builtin "Enabled" a = none := builtin_none _ _ (by simp)

theorem indexByte_nil (c : UInt8) : indexByte [] c = -1 := rfl

theorem indexByte_cons (b : UInt8) (r : Bytes) (c : UInt8) :
    indexByte (b :: r) c = if b == c then 0 else (if indexByte r c < 0 then -1 else indexByte r c + 1) := by
  unfold indexByte
  simp only [List.findIdx?_cons]
  by_cases h : b == c
  · simp [h]
  · simp only [h, Bool.false_eq_true, if_false]
    cases hr : List.findIdx? (fun x => x == c) r with
    | none => simp
    | some i => simp; omega

theorem indexByte_none (bs : Bytes) (h : bs.dropWhile (fun b => b != 10) = []) : indexByte bs 10 = -1 := by
  induction bs with
  | nil => rfl
  | cons b r ih =>
    rw [indexByte_cons]
    by_cases hb : b = 10
    · subst hb; simp at h
    · have hb' : (b != 10) = true := by simp [hb]
      rw [List.dropWhile_cons_of_pos (p := fun b => b != 10) (a := b) hb'] at h
      simp [hb, ih h]

theorem indexByte_some (bs : Bytes) (c : UInt8) (rest : Bytes) (h : bs.dropWhile (fun b => b != 10) = c :: rest) :
    indexByte bs 10 = ((bs.takeWhile (fun b => b != 10)).length : Int) ∧
    bs = bs.takeWhile (fun b => b != 10) ++ 10 :: rest := by
  induction bs with
  | nil => simp at h
  | cons b r ih =>
    rw [indexByte_cons]
    by_cases hb : b = 10
    · subst hb
      simp at h
      simp [h.2]
    · have hb' : (b != 10) = true := by simp [hb]
      rw [List.dropWhile_cons_of_pos (p := fun b => b != 10) (a := b) hb'] at h
      obtain ⟨h1, h2⟩ := ih h
      rw [List.takeWhile_cons_of_pos (p := fun b => b != 10) (a := b) hb']
      have hbc : (b == 10) = false := by simp [hb]
      simp only [hbc, Bool.false_eq_true, if_false, h1, List.length_cons, List.cons_append]
      refine ⟨?_, by rw [← h2]⟩
      have : ¬ ((List.takeWhile (fun b => b != 10) r).length : Int) < 0 := by omega
      simp [this]

/-- what one `writeLine(line)` does: new buffer, messages logged, remaining input -/
def wl (buff line : Bytes) : Bytes × List Bytes × Bytes :=
  match line.dropWhile (fun b => b != 10) with
  | [] => (buff ++ line, [], [])
  | _ :: rest =>
    ([], [if buff.isEmpty then line.takeWhile (fun b => b != 10) else buff ++ line.takeWhile (fun b => b != 10)], rest)

theorem lines_wl (buff bs : Bytes) (h : bs ≠ []) :
    lines buff bs = ((wl buff bs).2.1 ++ (lines (wl buff bs).1 (wl buff bs).2.2).1, (lines (wl buff bs).1 (wl buff bs).2.2).2) := by
  rw [← feed_eq_lines (bs.length + 1) buff bs (Nat.lt_succ_self _)]
  simp only [feed, wl]
  cases hd : bs.dropWhile (fun b => b != 10) with
  | nil =>
    have : bs.takeWhile (fun b => b != 10) = bs := by
      have := List.takeWhile_append_dropWhile (p := fun b => b != 10) (l := bs)
      rw [hd, List.append_nil] at this; exact this
    simp [this, lines]
  | cons c rest =>
    have hlen : rest.length < bs.length := by
      have := congrArg List.length (List.takeWhile_append_dropWhile (p := fun b => b != 10) (l := bs))
      rw [hd] at this; simp at this; omega
    simp only
    rw [feed_eq_lines bs.length [] rest hlen]
    simp

theorem wl_shorter (buff bs : Bytes) (h : bs ≠ []) : (wl buff bs).2.2.length < bs.length := by
  unfold wl
  cases hd : bs.dropWhile (fun b => b != 10) with
  | nil => simp; exact List.length_pos_iff.mpr h
  | cons c rest =>
    have := congrArg List.length (List.takeWhile_append_dropWhile (p := fun b => b != 10) (l := bs))
    rw [hd] at this; simp at this ⊢; omega

end ZapVerif.TransZio
