import ZapVerif.Model.TeeBws
import ZapVerif.Proofs.Tee
/-! Invariant of the C04 machine (pooled buffers, per-branch mutexes, Lock(sink) and BufferedWriteSyncer branches). -/
namespace ZapVerif.TeeBws
open ZapVerif ZapVerif.Tee

/-- the pooled buffer a phase owns -/
def bufOf : Ph → Option Nat
  | .enc k _ _ _ | .pre k _ _ | .emit k _ _ _ | .copy k _ _ _ | .fin k => some k
  | _ => none

/-- the branch whose mutex a phase holds -/
def holds : Ph → Option Nat
  | .pre _ b _ | .emit _ b _ _ | .copy _ b _ _ | .flush b => some b
  | _ => none

/-- the line a phase has encoded (or is encoding) for branch b but has not yet acquired the mutex for -/
def pend (b : Nat) : Ph → List Bytes
  | .enc _ br line _ => if br = b then [line] else []
  | _ => []

/-- the pooled buffer holds what the phase believes it holds -/
def dataOk (pool : Nat → PBuf) : Ph → Prop
  | .enc k _ line rest => (pool k).data ++ rest = line
  | .pre k _ line | .emit k _ line _ | .copy k _ line _ => (pool k).data = line
  | _ => True

/-- nobody is inside a write on branch b: the sink received whole-line groups, the buffer holds whole lines, and
    together they are exactly the accepted lines in order -/
def Quiet (s : St) (b : Nat) : Prop :=
  ∃ (groups : List (List Bytes)) (pending : List Bytes),
    s.calls b = groups.map List.flatten ∧ s.cur b = [] ∧ s.buf b = pending.flatten ∧
    groups.flatten ++ pending = wlines s b

/-- branch-level facts by what the holder is doing (`pending`: whole lines sitting in the bufio buffer; in the
    `emit` case they can only be empty lines, which travel with the next sink call) -/
def brOk (s : St) (b : Nat) : Ph → Prop
  | .flush _ => Quiet s b
  | .pre _ _ line =>
    ∃ (groups : List (List Bytes)) (pending : List Bytes), s.calls b = groups.map List.flatten ∧ s.cur b = [] ∧
      s.buf b = pending.flatten ∧ groups.flatten ++ pending ++ [line] = wlines s b
  | .emit _ _ line i =>
    ∃ (groups : List (List Bytes)) (pending : List Bytes), s.calls b = groups.map List.flatten ∧
      s.cur b = line.take i ∧ s.buf b = [] ∧ pending.flatten = [] ∧ groups.flatten ++ pending ++ [line] = wlines s b
  | .copy _ _ line i =>
    ∃ (groups : List (List Bytes)) (pending : List Bytes), s.calls b = groups.map List.flatten ∧ s.cur b = [] ∧
      s.buf b = pending.flatten ++ line.take i ∧ groups.flatten ++ pending ++ [line] = wlines s b
  | _ => True

/-- on a Lock(sink) branch every completed sink Write call is exactly one accepted line -/
def lkOk (s : St) (b : Nat) : Ph → Prop
  | .emit _ _ line _ => s.calls b ++ [line] = wlines s b
  | .flush _ => s.calls b = wlines s b
  | .pre _ _ _ | .copy _ _ _ _ => False
  | _ => True

structure TOk (kind : Nat → Kind) (jobs : Nat → List Act) (s : St) (u : Nat) : Prop where
  own : ∀ k, bufOf (s.thr u).ph = some k → (s.pool k).owner = some u
  excl : ∀ b, holds (s.thr u).ph = some b → s.lock b = some u
  data : dataOk s.pool (s.thr u).ph
  br : ∀ b, holds (s.thr u).ph = some b → brOk s b (s.thr u).ph
  lkheld : ∀ b, kind b = .locked → holds (s.thr u).ph = some b → lkOk s b (s.thr u).ph
  projq : ∀ b, proj u (s.hist b) ++ pend b (s.thr u).ph ++ linesFor b (s.thr u).todo = linesFor b (jobs u)

structure BOk (kind : Nat → Kind) (s : St) (b : Nat) : Prop where
  hold : ∀ t, s.lock b = some t → holds (s.thr t).ph = some b
  free : s.lock b = none → Quiet s b
  lkbuf : kind b = .locked → s.buf b = []
  lkfree : kind b = .locked → s.lock b = none → s.calls b = wlines s b

/-- the invariant: a pooled buffer is owned by the goroutine that uses it and holds that goroutine's line; a mutex is
    held exactly by the goroutine that is inside the critical section; per branch, sink calls + bufio buffer + the
    write in progress are exactly the accepted lines in acquisition order (whole lines per sink call; exactly one
    line per call on a Lock(sink) branch); per goroutine and branch, history ++ remaining work = program -/
structure Inv (kind : Nat → Kind) (jobs : Nat → List Act) (s : St) : Prop where
  thr : ∀ u, TOk kind jobs s u
  brn : ∀ b, BOk kind s b

theorem init_inv (kind : Nat → Kind) (jobs : Nat → List Act) : Inv kind jobs (init jobs) := by
  refine ⟨fun u => ⟨?_, ?_, ?_, ?_, ?_, ?_⟩, fun b => ⟨?_, ?_, ?_, ?_⟩⟩ <;>
    simp [init, bufOf, holds, dataOk, wlines, proj, pend]
  · exact ⟨[], [], by simp, rfl, by simp, by simp [wlines]⟩

/-! ### frame lemmas: the branch predicates only look at four fields of their branch -/

theorem quiet_congr {s s' : St} {b : Nat} (h1 : s'.calls b = s.calls b) (h2 : s'.cur b = s.cur b)
    (h3 : s'.buf b = s.buf b) (h4 : s'.hist b = s.hist b) : Quiet s' b ↔ Quiet s b := by
  simp only [Quiet, wlines, h1, h2, h3, h4]

theorem brOk_congr {s s' : St} {b : Nat} (ph : Ph) (h1 : s'.calls b = s.calls b) (h2 : s'.cur b = s.cur b)
    (h3 : s'.buf b = s.buf b) (h4 : s'.hist b = s.hist b) : brOk s' b ph ↔ brOk s b ph := by
  cases ph <;> simp only [brOk, Quiet, wlines, h1, h2, h3, h4]

theorem lkOk_congr {s s' : St} {b : Nat} (ph : Ph) (h1 : s'.calls b = s.calls b)
    (h4 : s'.hist b = s.hist b) : lkOk s' b ph ↔ lkOk s b ph := by
  cases ph <;> simp only [lkOk, wlines, h1, h4]

theorem dataOk_frame {pool pool' : Nat → PBuf} (ph : Ph) (h : ∀ k, bufOf ph = some k → (pool' k).data = (pool k).data) :
    dataOk pool' ph ↔ dataOk pool ph := by
  cases ph <;> simp only [dataOk, bufOf] at h ⊢ <;> rw [h _ rfl]

/-- the fields of branch b the invariant looks at are unchanged -/
def SameBr (s s' : St) (b : Nat) : Prop :=
  s'.lock b = s.lock b ∧ s'.calls b = s.calls b ∧ s'.cur b = s.cur b ∧ s'.buf b = s.buf b ∧ s'.hist b = s.hist b

theorem TOk.frame {kind : Nat → Kind} {jobs : Nat → List Act} {s s' : St} {u : Nat} (h : TOk kind jobs s u)
    (hthr : s'.thr u = s.thr u)
    (hpool : ∀ k, bufOf (s.thr u).ph = some k → s'.pool k = s.pool k)
    (hbr : ∀ b, holds (s.thr u).ph = some b → SameBr s s' b)
    (hproj : ∀ b, proj u (s'.hist b) = proj u (s.hist b)) : TOk kind jobs s' u := by
  refine ⟨?_, ?_, ?_, ?_, ?_, ?_⟩
  · intro k hk; rw [hthr] at hk; rw [hpool k hk]; exact h.own k hk
  · intro b hb; rw [hthr] at hb; rw [(hbr b hb).1]; exact h.excl b hb
  · rw [hthr]; exact (dataOk_frame _ (fun k hk => by rw [hpool k hk])).mpr h.data
  · intro b hb; rw [hthr] at hb ⊢
    obtain ⟨_, h1, h2, h3, h4⟩ := hbr b hb
    exact (brOk_congr _ h1 h2 h3 h4).mpr (h.br b hb)
  · intro b hk hb; rw [hthr] at hb ⊢
    obtain ⟨_, h1, _, _, h4⟩ := hbr b hb
    exact (lkOk_congr _ h1 h4).mpr (h.lkheld b hk hb)
  · intro b; rw [hthr, hproj b]; exact h.projq b

theorem TOk.data_at {kind : Nat → Kind} {jobs : Nat → List Act} {s : St} {u : Nat} (h : TOk kind jobs s u) {ph : Ph}
    (hph : (s.thr u).ph = ph) : dataOk s.pool ph := hph ▸ h.data

/-- `projq` carried to a new phase `ph'` that has the same pending line (stated with the equation as a hypothesis: with
    the old phase as an argument, unification would take it from the goal) -/
theorem TOk.projq_to {kind : Nat → Kind} {jobs : Nat → List Act} {s : St} {u : Nat} (h : TOk kind jobs s u) {ph' : Ph}
    (hp : ∀ b, pend b ph' = pend b (s.thr u).ph) (b : Nat) :
    proj u (s.hist b) ++ pend b ph' ++ linesFor b (s.thr u).todo = linesFor b (jobs u) := by
  rw [hp]; exact h.projq b

/-- the facts about goroutine `u` when its record in `s'` is known explicitly (`th` is the record a step has just
    written, so `bufOf th.ph`, `holds th.ph`, … compute) -/
theorem TOk.of_thr {kind : Nat → Kind} {jobs : Nat → List Act} {s' : St} {u : Nat} {th : Thr} (hth : s'.thr u = th)
    (own : ∀ k, bufOf th.ph = some k → (s'.pool k).owner = some u)
    (excl : ∀ b, holds th.ph = some b → s'.lock b = some u)
    (data : dataOk s'.pool th.ph)
    (br : ∀ b, holds th.ph = some b → brOk s' b th.ph)
    (lkheld : ∀ b, kind b = .locked → holds th.ph = some b → lkOk s' b th.ph)
    (projq : ∀ b, proj u (s'.hist b) ++ pend b th.ph ++ linesFor b th.todo = linesFor b (jobs u)) :
    TOk kind jobs s' u := by
  subst hth; exact ⟨own, excl, data, br, lkheld, projq⟩

theorem TOk.of_free {kind : Nat → Kind} {jobs : Nat → List Act} {s' : St} {u : Nat} {th : Thr} (hth : s'.thr u = th)
    (hh : holds th.ph = none)
    (own : ∀ k, bufOf th.ph = some k → (s'.pool k).owner = some u)
    (data : dataOk s'.pool th.ph)
    (projq : ∀ b, proj u (s'.hist b) ++ pend b th.ph ++ linesFor b th.todo = linesFor b (jobs u)) :
    TOk kind jobs s' u :=
  TOk.of_thr hth own (fun b hb => by rw [hh] at hb; cases hb) data (fun b hb => by rw [hh] at hb; cases hb)
    (fun b _ hb => by rw [hh] at hb; cases hb) projq

theorem BOk.frame {kind : Nat → Kind} {s s' : St} {b : Nat} (h : BOk kind s b) (hf : SameBr s s' b)
    (hh : ∀ t, s.lock b = some t → holds (s'.thr t).ph = some b) : BOk kind s' b := by
  obtain ⟨h0, h1, h2, h3, h4⟩ := hf
  refine ⟨?_, ?_, ?_, ?_⟩
  · intro t ht; rw [h0] at ht; exact hh t ht
  · intro hl; rw [h0] at hl; exact (quiet_congr h1 h2 h3 h4).mpr (h.free hl)
  · intro hk; rw [h3]; exact h.lkbuf hk
  · intro hk hl; rw [h0] at hl; simp only [wlines, h1, h4]; exact h.lkfree hk hl

theorem BOk.of_held {kind : Nat → Kind} {s' : St} {b t : Nat} (hl : s'.lock b = some t)
    (hh : holds (s'.thr t).ph = some b) (hb : kind b = .locked → s'.buf b = []) : BOk kind s' b :=
  ⟨fun u hu => by rw [hl] at hu; cases hu; exact hh, fun hn => (by rw [hl] at hn; cases hn), hb,
   fun _ hn => (by rw [hl] at hn; cases hn)⟩

theorem BOk.of_free {kind : Nat → Kind} {s' : St} {b : Nat} (hl : s'.lock b = none) (hq : Quiet s' b)
    (hb : kind b = .locked → s'.buf b = []) (hc : kind b = .locked → s'.calls b = wlines s' b) : BOk kind s' b :=
  ⟨fun u hu => (by rw [hl] at hu; cases hu), fun _ => hq, hb, fun hk _ => hc hk⟩

/-- a step of goroutine t that touches only t's thread record, pooled buffers no other goroutine owns, and (at most)
    branch br which no other goroutine holds: it suffices to re-establish the facts about t and about br -/
theorem inv_local {kind : Nat → Kind} {jobs : Nat → List Act} {s s' : St} {t br : Nat} (h : Inv kind jobs s)
    (hthr : ∀ u, u ≠ t → s'.thr u = s.thr u)
    (hpool : ∀ u k, u ≠ t → bufOf (s.thr u).ph = some k → s'.pool k = s.pool k)
    (hbr : ∀ b, b ≠ br → SameBr s s' b)
    (hnb : SameBr s s' br ∨ ∀ u, u ≠ t → holds (s.thr u).ph ≠ some br)
    (hproj : ∀ u b, u ≠ t → proj u (s'.hist b) = proj u (s.hist b))
    (hheld : ∀ b, b ≠ br → s.lock b = some t → holds (s'.thr t).ph = some b)
    (ht : TOk kind jobs s' t) (hb : BOk kind s' br) : Inv kind jobs s' := by
  refine ⟨fun u => ?_, fun b => ?_⟩
  · by_cases hut : u = t
    · subst hut; exact ht
    · refine (h.thr u).frame (hthr u hut) (hpool u · hut) (fun b hb' => ?_) (hproj u · hut)
      by_cases hbb : b = br
      · subst hbb
        cases hnb with
        | inl hs => exact hs
        | inr hn => exact absurd hb' (hn u hut)
      · exact hbr b hbb
  · by_cases hbb : b = br
    · subst hbb; exact hb
    · refine (h.brn b).frame (hbr b hbb) (fun u hl => ?_)
      by_cases hut : u = t
      · subst hut; exact hheld b hbb hl
      · rw [hthr u hut]; exact (h.brn b).hold u hl

theorem sameBr_refl (s : St) (b : Nat) : SameBr s s b := ⟨rfl, rfl, rfl, rfl, rfl⟩

theorem inv_thread {kind : Nat → Kind} {jobs : Nat → List Act} {s s' : St} {t : Nat} (h : Inv kind jobs s)
    (hthr : ∀ u, u ≠ t → s'.thr u = s.thr u)
    (hpool : ∀ u k, u ≠ t → bufOf (s.thr u).ph = some k → s'.pool k = s.pool k)
    (hbr : ∀ b, SameBr s s' b)
    (hheld : ∀ b, s.lock b = some t → holds (s'.thr t).ph = some b)
    (ht : TOk kind jobs s' t) : Inv kind jobs s' := by
  refine inv_local (br := 0) h hthr hpool (fun b _ => hbr b) (.inl (hbr 0)) (fun u b _ => by rw [(hbr b).2.2.2.2])
    (fun b _ => hheld b) ht ((h.brn 0).frame (hbr 0) (fun u hl => ?_))
  by_cases hut : u = t
  · subst hut; exact hheld 0 hl
  · rw [hthr u hut]; exact (h.brn 0).hold u hl

theorem own_ne {kind : Nat → Kind} {jobs : Nat → List Act} {s : St} (h : Inv kind jobs s) {t u k k' : Nat} (hut : u ≠ t)
    (hk : (s.pool k).owner = some t) (hk' : bufOf (s.thr u).ph = some k') : k' ≠ k := by
  intro e; subst e
  have := (h.thr u).own k' hk'
  rw [hk] at this; exact hut (Option.some.inj this).symm

theorem step_get {kind : Nat → Kind} {jobs : Nat → List Act} {s : St} {t c br : Nat} {line : Bytes} {rest : List Act}
    (h : Inv kind jobs s) (hph : (s.thr t).ph = .idle) (htd : (s.thr t).todo = .write br line :: rest)
    (hc : (s.pool c).owner = none) :
    Inv kind jobs { s with thr := upd s.thr t { todo := rest, ph := .enc c br line line },
                           pool := upd s.pool c { owner := some t, data := [] } } := by
  refine inv_thread (t := t) h (fun u hut => by simp [upd_other _ _ _ _ hut]) ?_ (fun b => ⟨rfl, rfl, rfl, rfl, rfl⟩) ?_ ?_
  · intro u k hut hk
    have hkc : k ≠ c := by
      intro e; subst e; have := (h.thr u).own k hk; rw [hc] at this; cases this
    simp [upd_other _ _ _ _ hkc]
  · intro b hl; have := (h.brn b).hold t hl; rw [hph] at this; cases this
  · refine TOk.of_free (th := ⟨rest, .enc c br line line⟩) (upd_same _ _ _) rfl ?_ (by simp [dataOk]) ?_
    · intro k hk; cases hk; exact congrArg PBuf.owner (upd_same _ _ _)
    · intro b
      have := (h.thr t).projq b
      rw [hph, htd] at this
      simp only [pend, linesFor, List.append_nil] at this ⊢
      by_cases hbb : br = b <;> simp [hbb] at this ⊢ <;> exact this

theorem step_encbyte {kind : Nat → Kind} {jobs : Nat → List Act} {s : St} {t k br : Nat} {line rest : Bytes} {x : UInt8}
    (h : Inv kind jobs s) (hph : (s.thr t).ph = .enc k br line (x :: rest)) :
    Inv kind jobs { s with thr := upd s.thr t { (s.thr t) with ph := .enc k br line rest },
                           pool := upd s.pool k { (s.pool k) with data := (s.pool k).data ++ [x] } } := by
  have hown : (s.pool k).owner = some t := (h.thr t).own k (by rw [hph]; rfl)
  refine inv_thread (t := t) h (fun u hut => by simp [upd_other _ _ _ _ hut]) ?_ (fun b => ⟨rfl, rfl, rfl, rfl, rfl⟩) ?_ ?_
  · intro u k' hut hk
    simp [upd_other _ _ _ _ (own_ne h hut hown hk)]
  · intro b hl; have := (h.brn b).hold t hl; rw [hph] at this; cases this
  · refine TOk.of_free (th := ⟨(s.thr t).todo, .enc k br line rest⟩) (upd_same _ _ _) rfl ?_ ?_ ?_
    · intro k' hk; cases hk; exact (congrArg PBuf.owner (upd_same _ _ _)).trans hown
    · have := (h.thr t).data; rw [hph] at this; simp [dataOk] at this ⊢; exact this
    · exact (h.thr t).projq_to fun _ => by rw [hph]; rfl

theorem step_fin {kind : Nat → Kind} {jobs : Nat → List Act} {s : St} {t k : Nat}
    (h : Inv kind jobs s) (hph : (s.thr t).ph = .fin k) :
    Inv kind jobs { s with thr := upd s.thr t { (s.thr t) with ph := .idle },
                           pool := upd s.pool k { (s.pool k) with owner := none } } := by
  have hown : (s.pool k).owner = some t := (h.thr t).own k (by rw [hph]; rfl)
  refine inv_thread (t := t) h (fun u hut => by simp [upd_other _ _ _ _ hut]) ?_ (fun b => ⟨rfl, rfl, rfl, rfl, rfl⟩) ?_ ?_
  · intro u k' hut hk
    simp [upd_other _ _ _ _ (own_ne h hut hown hk)]
  · intro b hl; have := (h.brn b).hold t hl; rw [hph] at this; cases this
  · refine TOk.of_free (th := ⟨(s.thr t).todo, .idle⟩) (upd_same _ _ _) rfl nofun trivial ?_
    exact (h.thr t).projq_to fun _ => by rw [hph]; rfl

/-- the `pre` goroutine decides: direct write (only possible with an empty buffer) or copy -/
theorem step_decide {kind : Nat → Kind} {jobs : Nat → List Act} {s : St} {t k br : Nat} {line : Bytes} (direct : Bool)
    (h : Inv kind jobs s) (hph : (s.thr t).ph = .pre k br line)
    (hd : direct = true → s.buf br = []) :
    Inv kind jobs { s with thr := upd s.thr t { (s.thr t) with
      ph := if direct then .emit k br line 0 else .copy k br line 0 } } := by
  have hhold : holds (s.thr t).ph = some br := by rw [hph]; rfl
  have hown := (h.thr t).own k (by rw [hph]; rfl)
  have hlk := (h.thr t).excl br hhold
  have hdata := (h.thr t).data
  have hnl : kind br ≠ .locked := fun hk => by
    have := (h.thr t).lkheld br hk hhold; rw [hph] at this; exact this
  have hpq := (h.thr t).projq
  have hbr := (h.thr t).br br hhold
  rw [hph] at hdata hpq hbr
  obtain ⟨groups, pending, h1, h2, h3, h4⟩ := hbr
  refine inv_thread (t := t) h (fun u hut => by simp [upd_other _ _ _ _ hut]) (fun _ _ _ _ => rfl)
    (fun b => ⟨rfl, rfl, rfl, rfl, rfl⟩) ?_ ?_
  · intro b hl; have := (h.brn b).hold t hl; rw [hph] at this
    cases direct <;> simpa [holds] using this
  · cases direct with
    | true =>
      have hb0 := hd rfl
      refine TOk.of_thr (th := ⟨(s.thr t).todo, .emit k br line 0⟩) (upd_same _ _ _) ?_ ?_ hdata ?_ ?_ hpq
      · intro k' hk; cases hk; exact hown
      · intro b hb; cases hb; exact hlk
      · intro b hb; cases hb
        exact ⟨groups, pending, h1, by simpa using h2, hb0, by rw [← h3]; exact hb0, h4⟩
      · intro b hk hb; cases hb; exact absurd hk hnl
    | false =>
      refine TOk.of_thr (th := ⟨(s.thr t).todo, .copy k br line 0⟩) (upd_same _ _ _) ?_ ?_ hdata ?_ ?_ hpq
      · intro k' hk; cases hk; exact hown
      · intro b hb; cases hb; exact hlk
      · intro b hb; cases hb
        exact ⟨groups, pending, h1, h2, by simpa using h3, h4⟩
      · intro b hk hb; cases hb; exact absurd hk hnl

theorem map_single_flatten {α} (l : List α) : (l.map fun x => [x]).flatten = l := by
  induction l with
  | nil => rfl
  | cons a r ih => simp [ih]

theorem map_single_map_flatten {α} (l : List (List α)) : (l.map fun x => [x]).map List.flatten = l := by
  induction l with
  | nil => rfl
  | cons a r ih => simp [ih]

theorem nobody_else {kind : Nat → Kind} {jobs : Nat → List Act} {s : St} (h : Inv kind jobs s) {t br : Nat}
    (hl : s.lock br = none ∨ s.lock br = some t) : ∀ u, u ≠ t → holds (s.thr u).ph ≠ some br := by
  intro u hut hb
  have := (h.thr u).excl br hb
  cases hl with
  | inl hn => rw [hn] at this; cases this
  | inr hs => rw [hs] at this; exact hut (Option.some.inj this).symm

/-- `enc … []` acquires the mutex of its branch -/
theorem step_acq_write {kind : Nat → Kind} {jobs : Nat → List Act} {s : St} {t k br : Nat} {line : Bytes} (ph' : Ph)
    (h : Inv kind jobs s) (hph : (s.thr t).ph = .enc k br line []) (hl : s.lock br = none)
    (hph' : (kind br = .locked ∧ ph' = .emit k br line 0) ∨ (kind br ≠ .locked ∧ ph' = .pre k br line)) :
    Inv kind jobs { s with thr := upd s.thr t { (s.thr t) with ph := ph' },
                           lock := upd s.lock br (some t),
                           hist := upd s.hist br (s.hist br ++ [(t, line)]) } := by
  have hbuf : bufOf ph' = some k := by rcases hph' with ⟨_, e⟩ | ⟨_, e⟩ <;> subst e <;> rfl
  have hhol : holds ph' = some br := by rcases hph' with ⟨_, e⟩ | ⟨_, e⟩ <;> subst e <;> rfl
  have hpend : ∀ b, pend b ph' = [] := by intro b; rcases hph' with ⟨_, e⟩ | ⟨_, e⟩ <;> subst e <;> rfl
  have hdata : (s.pool k).data = line := by simpa [dataOk] using (h.thr t).data_at hph
  have hq := (h.brn br).free hl
  refine inv_local (t := t) (br := br) h (fun u hut => by simp [upd_other _ _ _ _ hut]) (fun _ _ _ _ => rfl)
    (fun b hb => ⟨by simp [upd_other _ _ _ _ hb], rfl, rfl, rfl, by simp [upd_other _ _ _ _ hb]⟩)
    (.inr (nobody_else h (.inl hl))) ?_ ?_ ?_ ?_
  · intro u b hut
    by_cases hb : b = br
    · subst hb; simp [proj_snoc_other hut]
    · simp [upd_other _ _ _ _ hb]
  · intro b _ hlb; have := (h.brn b).hold t hlb; rw [hph] at this; cases this
  · refine TOk.of_thr (th := ⟨(s.thr t).todo, ph'⟩) (upd_same _ _ _) ?_ ?_ ?_ ?_ ?_ ?_
    · intro k' hk; cases hbuf.symm.trans hk
      exact (h.thr t).own k (by rw [hph]; rfl)
    · intro b hb; cases hhol.symm.trans hb; exact upd_same _ _ _
    · rcases hph' with ⟨_, rfl⟩ | ⟨_, rfl⟩ <;> exact hdata
    · intro b hb; cases hhol.symm.trans hb
      rcases hph' with ⟨hk, rfl⟩ | ⟨_, rfl⟩
      · -- Lock(sink): the completed calls are exactly the accepted lines
        have hc := (h.brn br).lkfree hk hl
        have hb0 := (h.brn br).lkbuf hk
        obtain ⟨_, _, _, hcur, _, _⟩ := hq
        refine ⟨(wlines s br).map (fun x => [x]), [], ?_, ?_, ?_, rfl, ?_⟩
        · rw [map_single_map_flatten]; exact hc
        · simpa using hcur
        · exact hb0
        · rw [map_single_flatten]; simp [wlines]
      · obtain ⟨groups, pending, h1, h2, h3, h4⟩ := hq
        refine ⟨groups, pending, h1, h2, h3, ?_⟩
        simp [wlines] at h4 ⊢; rw [← h4]; simp
    · intro b hk hb; cases hhol.symm.trans hb
      rcases hph' with ⟨_, e⟩ | ⟨hk', _⟩
      · subst e
        have hc := (h.brn br).lkfree hk hl
        simp [lkOk, wlines] at hc ⊢; rw [hc]
      · exact absurd hk hk'
    · intro b
      have := (h.thr t).projq b
      rw [hph] at this
      simp only [hpend]
      by_cases hb : b = br
      · subst hb; simpa [pend, proj_snoc_self, List.append_assoc] using this
      · have hb' : br ≠ b := fun e => hb e.symm
        simpa [pend, upd_other _ _ _ _ hb, hb'] using this
  · exact BOk.of_held (t := t) (upd_same _ _ _) (by simpa using hhol) (h.brn br).lkbuf

/-- BWS: the line does not fit and something is buffered: flush first (one sink call with the buffered whole lines) -/
theorem step_preflush {kind : Nat → Kind} {jobs : Nat → List Act} {s : St} {t k br : Nat} {line : Bytes}
    (h : Inv kind jobs s) (hph : (s.thr t).ph = .pre k br line) :
    Inv kind jobs { s with calls := upd s.calls br (s.calls br ++ [s.buf br]), buf := upd s.buf br [] } := by
  have hhold : holds (s.thr t).ph = some br := by rw [hph]; rfl
  have hlk : s.lock br = some t := (h.thr t).excl br hhold
  refine inv_local (t := t) (br := br) h (fun u hut => rfl) (fun _ _ _ _ => rfl)
    (fun b hb => ⟨rfl, by simp [upd_other _ _ _ _ hb], rfl, by simp [upd_other _ _ _ _ hb], rfl⟩)
    (.inr (nobody_else h (.inr hlk))) (fun _ _ _ => rfl) ?_ ?_ ?_
  · intro b _ hlb; exact (h.brn b).hold t hlb
  · have hbr := (h.thr t).br br hhold
    rw [hph] at hbr
    obtain ⟨groups, pending, h1, h2, h3, h4⟩ := hbr
    refine ⟨(h.thr t).own, (h.thr t).excl, (h.thr t).data, ?_, ?_, (h.thr t).projq⟩
    · intro b hb
      have : b = br := by rw [hph] at hb; simp [holds] at hb; exact hb.symm
      subst this
      show brOk _ b (s.thr t).ph
      rw [hph]
      refine ⟨groups ++ [pending], [], ?_, h2, ?_, ?_⟩
      · simp [h1, h3]
      · simp
      · simpa [wlines] using h4
    · intro b hk hb
      have := (h.thr t).lkheld b hk hb
      rw [hph] at this ⊢; exact absurd this (by simp [lkOk])
  · exact BOk.of_held (t := t) hlk hhold (fun _ => upd_same _ _ _)

theorem take_succ_of_get {α} (l : List α) (i : Nat) (x : α) (h : l[i]? = some x) : l.take (i + 1) = l.take i ++ [x] := by
  rw [List.take_add_one, h]; rfl

theorem take_of_get_none {α} (l : List α) (i : Nat) (h : l[i]? = none) : l.take i = l := by
  apply List.take_of_length_le
  exact List.getElem?_eq_none_iff.mp h

/-- one more byte of the pooled buffer reaches the underlying sink -/
theorem step_emitbyte {kind : Nat → Kind} {jobs : Nat → List Act} {s : St} {t k br i : Nat} {line : Bytes} {x : UInt8}
    (h : Inv kind jobs s) (hph : (s.thr t).ph = .emit k br line i) (hx : (s.pool k).data[i]? = some x) :
    Inv kind jobs { s with thr := upd s.thr t { (s.thr t) with ph := .emit k br line (i + 1) },
                           cur := upd s.cur br (s.cur br ++ [x]) } := by
  have hhold : holds (s.thr t).ph = some br := by rw [hph]; rfl
  have hlk : s.lock br = some t := (h.thr t).excl br hhold
  have hdata : (s.pool k).data = line := (h.thr t).data_at hph
  rw [hdata] at hx
  refine inv_local (t := t) (br := br) h (fun u hut => by simp [upd_other _ _ _ _ hut]) (fun _ _ _ _ => rfl)
    (fun b hb => ⟨rfl, rfl, by simp [upd_other _ _ _ _ hb], rfl, rfl⟩)
    (.inr (nobody_else h (.inr hlk))) (fun _ _ _ => rfl) ?_ ?_ ?_
  · intro b hb hlb; have := (h.brn b).hold t hlb; rw [hph] at this; cases this; exact absurd rfl hb
  · have hbr := (h.thr t).br br hhold
    rw [hph] at hbr
    obtain ⟨groups, pending, h1, h2, h3, h4, h5⟩ := hbr
    refine TOk.of_thr (th := ⟨(s.thr t).todo, .emit k br line (i + 1)⟩) (upd_same _ _ _) ?_ ?_ hdata ?_ ?_ ?_
    · intro k' hk; cases hk; exact (h.thr t).own k (by rw [hph]; rfl)
    · intro b hb; cases hb; exact hlk
    · intro b hb; cases hb
      simp only [upd_same, brOk]
      exact ⟨groups, pending, h1, by rw [h2, take_succ_of_get line i x hx], h3, h4, h5⟩
    · intro b hk hb; cases hb
      have := (h.thr t).lkheld br hk hhold
      rw [hph] at this
      exact this
    · exact (h.thr t).projq_to fun _ => by rw [hph]; rfl
  · exact BOk.of_held (t := t) hlk (by simp [holds]) (h.brn br).lkbuf

/-- the sink Write returns: the call is complete, the mutex is released; the pooled buffer is still owned -/
theorem step_emitdone {kind : Nat → Kind} {jobs : Nat → List Act} {s : St} {t k br i : Nat} {line : Bytes}
    (h : Inv kind jobs s) (hph : (s.thr t).ph = .emit k br line i) (hx : (s.pool k).data[i]? = none) :
    Inv kind jobs { s with thr := upd s.thr t { (s.thr t) with ph := .fin k },
                           calls := upd s.calls br (s.calls br ++ [s.cur br]), cur := upd s.cur br [],
                           lock := upd s.lock br none } := by
  have hhold : holds (s.thr t).ph = some br := by rw [hph]; rfl
  have hlk : s.lock br = some t := (h.thr t).excl br hhold
  have hdata : (s.pool k).data = line := (h.thr t).data_at hph
  rw [hdata] at hx
  have hbr := (h.thr t).br br hhold
  rw [hph] at hbr
  obtain ⟨groups, pending, h1, h2, h3, h4, h5⟩ := hbr
  rw [take_of_get_none line i hx] at h2
  refine inv_local (t := t) (br := br) h (fun u hut => by simp [upd_other _ _ _ _ hut]) (fun _ _ _ _ => rfl)
    (fun b hb => ⟨by simp [upd_other _ _ _ _ hb], by simp [upd_other _ _ _ _ hb], by simp [upd_other _ _ _ _ hb], rfl, rfl⟩)
    (.inr (nobody_else h (.inr hlk))) (fun _ _ _ => rfl) ?_ ?_ ?_
  · intro b hb hlb; have := (h.brn b).hold t hlb; rw [hph] at this; cases this; exact absurd rfl hb
  · refine TOk.of_free (th := ⟨(s.thr t).todo, .fin k⟩) (upd_same _ _ _) rfl ?_ trivial ?_
    · intro k' hk; cases hk; exact (h.thr t).own k (by rw [hph]; rfl)
    · exact (h.thr t).projq_to fun _ => by rw [hph]; rfl
  · refine BOk.of_free (upd_same _ _ _) ⟨groups ++ [pending ++ [line]], [], ?_, by simp, by simpa using h3, ?_⟩
      (h.brn br).lkbuf ?_
    · simp [h1, h2, h4]
    · simpa [wlines, List.append_assoc] using h5
    · intro hk
      have := (h.thr t).lkheld br hk hhold
      rw [hph] at this
      simpa [lkOk, wlines, h2] using this

/-- BWS: bufio copies one more byte of the pooled buffer into its buffer -/
theorem step_copybyte {kind : Nat → Kind} {jobs : Nat → List Act} {s : St} {t k br i : Nat} {line : Bytes} {x : UInt8}
    (h : Inv kind jobs s) (hph : (s.thr t).ph = .copy k br line i) (hx : (s.pool k).data[i]? = some x) :
    Inv kind jobs { s with thr := upd s.thr t { (s.thr t) with ph := .copy k br line (i + 1) },
                           buf := upd s.buf br (s.buf br ++ [x]) } := by
  have hhold : holds (s.thr t).ph = some br := by rw [hph]; rfl
  have hlk : s.lock br = some t := (h.thr t).excl br hhold
  have hdata : (s.pool k).data = line := (h.thr t).data_at hph
  rw [hdata] at hx
  have hnl : kind br ≠ .locked := by
    intro hk; have := (h.thr t).lkheld br hk hhold; rw [hph] at this; exact this
  refine inv_local (t := t) (br := br) h (fun u hut => by simp [upd_other _ _ _ _ hut]) (fun _ _ _ _ => rfl)
    (fun b hb => ⟨rfl, rfl, rfl, by simp [upd_other _ _ _ _ hb], rfl⟩)
    (.inr (nobody_else h (.inr hlk))) (fun _ _ _ => rfl) ?_ ?_ ?_
  · intro b hb hlb; have := (h.brn b).hold t hlb; rw [hph] at this; cases this; exact absurd rfl hb
  · have hbr := (h.thr t).br br hhold
    rw [hph] at hbr
    obtain ⟨groups, pending, h1, h2, h3, h4⟩ := hbr
    refine TOk.of_thr (th := ⟨(s.thr t).todo, .copy k br line (i + 1)⟩) (upd_same _ _ _) ?_ ?_ hdata ?_ ?_ ?_
    · intro k' hk; cases hk; exact (h.thr t).own k (by rw [hph]; rfl)
    · intro b hb; cases hb; exact hlk
    · intro b hb; cases hb
      simp only [upd_same, brOk]
      exact ⟨groups, pending, h1, h2, by rw [h3, take_succ_of_get line i x hx, List.append_assoc], h4⟩
    · intro b hk hb; cases hb; exact absurd hk hnl
    · exact (h.thr t).projq_to fun _ => by rw [hph]; rfl
  · exact BOk.of_held (t := t) hlk (by simp [holds]) (fun hk => absurd hk hnl)

/-- BWS: bufio.Write returns, the deferred Unlock runs -/
theorem step_copydone {kind : Nat → Kind} {jobs : Nat → List Act} {s : St} {t k br i : Nat} {line : Bytes}
    (h : Inv kind jobs s) (hph : (s.thr t).ph = .copy k br line i) (hx : (s.pool k).data[i]? = none) :
    Inv kind jobs { s with thr := upd s.thr t { (s.thr t) with ph := .fin k }, lock := upd s.lock br none } := by
  have hhold : holds (s.thr t).ph = some br := by rw [hph]; rfl
  have hlk : s.lock br = some t := (h.thr t).excl br hhold
  have hdata : (s.pool k).data = line := (h.thr t).data_at hph
  rw [hdata] at hx
  have hnl : kind br ≠ .locked := by
    intro hk; have := (h.thr t).lkheld br hk hhold; rw [hph] at this; exact this
  have hbr := (h.thr t).br br hhold
  rw [hph] at hbr
  obtain ⟨groups, pending, h1, h2, h3, h4⟩ := hbr
  rw [take_of_get_none line i hx] at h3
  refine inv_local (t := t) (br := br) h (fun u hut => by simp [upd_other _ _ _ _ hut]) (fun _ _ _ _ => rfl)
    (fun b hb => ⟨by simp [upd_other _ _ _ _ hb], rfl, rfl, rfl, rfl⟩)
    (.inr (nobody_else h (.inr hlk))) (fun _ _ _ => rfl) ?_ ?_ ?_
  · intro b hb hlb; have := (h.brn b).hold t hlb; rw [hph] at this; cases this; exact absurd rfl hb
  · refine TOk.of_free (th := ⟨(s.thr t).todo, .fin k⟩) (upd_same _ _ _) rfl ?_ trivial ?_
    · intro k' hk; cases hk; exact (h.thr t).own k (by rw [hph]; rfl)
    · exact (h.thr t).projq_to fun _ => by rw [hph]; rfl
  · refine BOk.of_free (upd_same _ _ _) ⟨groups, pending ++ [line], h1, h2, by simp [h3], ?_⟩
      (fun hk => absurd hk hnl) (fun hk => absurd hk hnl)
    simpa [wlines, List.append_assoc] using h4

/-- Sync / flush tick: acquire the mutex -/
theorem step_acq_sync {kind : Nat → Kind} {jobs : Nat → List Act} {s : St} {t br : Nat} {rest : List Act}
    (h : Inv kind jobs s) (hph : (s.thr t).ph = .idle) (htd : (s.thr t).todo = .sync br :: rest) (hl : s.lock br = none) :
    Inv kind jobs { s with thr := upd s.thr t { todo := rest, ph := .flush br }, lock := upd s.lock br (some t) } := by
  have hq := (h.brn br).free hl
  refine inv_local (t := t) (br := br) h (fun u hut => by simp [upd_other _ _ _ _ hut]) (fun _ _ _ _ => rfl)
    (fun b hb => ⟨by simp [upd_other _ _ _ _ hb], rfl, rfl, rfl, rfl⟩)
    (.inr (nobody_else h (.inl hl))) (fun _ _ _ => rfl) ?_ ?_ ?_
  · intro b _ hlb; have := (h.brn b).hold t hlb; rw [hph] at this; cases this
  · refine TOk.of_thr (th := ⟨rest, .flush br⟩) (upd_same _ _ _) nofun ?_ trivial ?_ ?_ ?_
    · intro b hb; cases hb; exact upd_same _ _ _
    · intro b hb; cases hb; exact hq
    · intro b hk hb; cases hb; exact (h.brn br).lkfree hk hl
    · intro b
      have := (h.thr t).projq b
      rw [hph, htd] at this
      exact this
  · exact BOk.of_held (t := t) (upd_same _ _ _) (by simp [holds]) (h.brn br).lkbuf

/-- Sync / flush tick: Flush (one sink call with the buffered whole lines, if any), Unlock -/
theorem step_flush {kind : Nat → Kind} {jobs : Nat → List Act} {s : St} {t br : Nat}
    (h : Inv kind jobs s) (hph : (s.thr t).ph = .flush br) :
    Inv kind jobs { s with thr := upd s.thr t { (s.thr t) with ph := .idle },
                           calls := if s.buf br = [] then s.calls else upd s.calls br (s.calls br ++ [s.buf br]),
                           buf := upd s.buf br [],
                           lock := upd s.lock br none } := by
  have hhold : holds (s.thr t).ph = some br := by rw [hph]; rfl
  have hlk : s.lock br = some t := (h.thr t).excl br hhold
  have hbr := (h.thr t).br br hhold
  rw [hph] at hbr
  obtain ⟨groups, pending, h1, h2, h3, h4⟩ := hbr
  refine inv_local (t := t) (br := br) h (fun u hut => by simp [upd_other _ _ _ _ hut]) (fun _ _ _ _ => rfl)
    (fun b hb => ⟨by simp [upd_other _ _ _ _ hb], ?_, rfl, by simp [upd_other _ _ _ _ hb], rfl⟩)
    (.inr (nobody_else h (.inr hlk))) (fun _ _ _ => rfl) ?_ ?_ ?_
  · by_cases hb0 : s.buf br = [] <;> simp [hb0, upd_other _ _ _ _ hb]
  · intro b hb hlb; have := (h.brn b).hold t hlb; rw [hph] at this; cases this; exact absurd rfl hb
  · refine TOk.of_free (th := ⟨(s.thr t).todo, .idle⟩) (upd_same _ _ _) rfl nofun trivial ?_
    exact (h.thr t).projq_to fun _ => by rw [hph]; rfl
  · refine BOk.of_free (upd_same _ _ _) ?_ (fun _ => upd_same _ _ _) ?_
    · by_cases hb0 : s.buf br = []
      · refine ⟨groups, pending, by simpa [hb0] using h1, h2, by simpa [hb0] using h3, by simpa [wlines] using h4⟩
      · refine ⟨groups ++ [pending], [], ?_, h2, by simp, by simpa [wlines] using h4⟩
        show (if s.buf br = [] then s.calls else upd s.calls br (s.calls br ++ [s.buf br])) br = _
        rw [if_neg hb0]; simp [h1, h3]
    · intro hk
      have hb0 := (h.brn br).lkbuf hk
      have := (h.thr t).lkheld br hk hhold
      rw [hph] at this
      simpa [lkOk, wlines, hb0] using this

theorem step_inv (kind : Nat → Kind) (jobs : Nat → List Act) (s s' : St) (t c : Nat) (h : Inv kind jobs s)
    (hs : step kind false s t c = some s') : Inv kind jobs s' := by
  unfold step at hs
  cases hph : (s.thr t).ph with
  | idle =>
    simp only [hph] at hs
    cases htd : (s.thr t).todo with
    | nil => simp [htd] at hs
    | cons a rest =>
      cases a with
      | write br line =>
        simp only [htd] at hs
        by_cases hc : (s.pool c).owner = none
        · simp only [hc, if_true, Option.some.injEq] at hs; subst hs
          exact step_get h hph htd hc
        · simp [hc] at hs
      | sync br =>
        simp only [htd] at hs
        cases hl : s.lock br with
        | some u => simp [hl] at hs
        | none =>
          simp only [hl, Option.some.injEq] at hs; subst hs
          exact step_acq_sync h hph htd hl
  | enc k br line rest =>
    simp only [hph] at hs
    cases rest with
    | cons x rest =>
      simp only [Option.some.injEq] at hs; subst hs
      exact step_encbyte h hph
    | nil =>
      cases hl : s.lock br with
      | some u => simp [hl] at hs
      | none =>
        simp only [hl, Option.some.injEq, Bool.false_eq_true, if_false] at hs; subst hs
        refine step_acq_write _ h hph hl ?_
        cases hk : kind br with
        | locked => exact .inl ⟨rfl, rfl⟩
        | buffered n => exact .inr ⟨by simp, rfl⟩
  | pre k br line =>
    simp only [hph] at hs
    split at hs
    · simp only [Option.some.injEq] at hs; subst hs
      exact step_preflush h hph
    · rename_i hnf
      split at hs
      · rename_i hgt
        simp only [Option.some.injEq] at hs; subst hs
        have hb0 : s.buf br = [] := by
          by_cases hb : s.buf br = []
          · exact hb
          · exact absurd ⟨hgt, hb⟩ hnf
        have := step_decide (direct := true) h hph (fun _ => hb0)
        simpa using this
      · simp only [Option.some.injEq] at hs; subst hs
        have := step_decide (direct := false) h hph (fun e => by cases e)
        simpa using this
  | emit k br line i =>
    simp only [hph] at hs
    cases hx : (s.pool k).data[i]? with
    | some x => simp only [hx, Option.some.injEq] at hs; subst hs; exact step_emitbyte h hph hx
    | none => simp only [hx, Option.some.injEq] at hs; subst hs; exact step_emitdone h hph hx
  | copy k br line i =>
    simp only [hph] at hs
    cases hx : (s.pool k).data[i]? with
    | some x => simp only [hx, Option.some.injEq] at hs; subst hs; exact step_copybyte h hph hx
    | none => simp only [hx, Option.some.injEq] at hs; subst hs; exact step_copydone h hph hx
  | fin k =>
    simp only [hph, Option.some.injEq, Bool.false_eq_true, if_false] at hs; subst hs
    exact step_fin h hph
  | flush br =>
    simp only [hph, Option.some.injEq] at hs; subst hs
    exact step_flush h hph

theorem run_inv (kind : Nat → Kind) (jobs : Nat → List Act) (sched : List (Nat × Nat)) :
    ∀ s, Inv kind jobs s → Inv kind jobs (run kind false s sched) := by
  induction sched with
  | nil => intro s h; exact h
  | cons tc ts ih =>
    intro s h
    obtain ⟨t, c⟩ := tc
    simp only [run]
    cases hs : step kind false s t c with
    | none => exact ih s h
    | some s' => exact ih s' (step_inv kind jobs s s' t c h hs)

theorem finished_free {kind : Nat → Kind} {jobs : Nat → List Act} {s : St} (h : Inv kind jobs s) (hf : Finished s)
    (b : Nat) : s.lock b = none := by
  cases hl : s.lock b with
  | none => rfl
  | some t =>
    have := (h.brn b).hold t hl
    rw [(hf t).2] at this; simp [holds] at this

theorem proj_prefix {kind : Nat → Kind} {jobs : Nat → List Act} {s : St} (h : Inv kind jobs s) (t b : Nat) :
    proj t (s.hist b) <+: linesFor b (jobs t) := by
  have := (h.thr t).projq b
  exact ⟨pend b (s.thr t).ph ++ linesFor b (s.thr t).todo, by rw [← List.append_assoc]; exact this⟩

theorem finished_merge {kind : Nat → Kind} {jobs : Nat → List Act} {s : St} (h : Inv kind jobs s) (hf : Finished s)
    (b : Nat) : IsMergeOf (fun t => linesFor b (jobs t)) (wlines s b) := by
  refine ⟨s.hist b, rfl, fun t => ?_⟩
  have := (h.thr t).projq b
  rw [(hf t).1, (hf t).2] at this
  simpa [pend, linesFor] using this

theorem finished_quiet {kind : Nat → Kind} {jobs : Nat → List Act} {s : St} (h : Inv kind jobs s) (hf : Finished s)
    (b : Nat) : Quiet s b := (h.brn b).free (finished_free h hf b)

theorem step_thr_other {kind : Nat → Kind} {early : Bool} {s s' : St} {t c u : Nat} (hs : step kind early s t c = some s')
    (hut : u ≠ t) : s'.thr u = s.thr u := by
  unfold step at hs
  cases hph : (s.thr t).ph with
  | idle =>
    simp only [hph] at hs
    cases htd : (s.thr t).todo with
    | nil => simp [htd] at hs
    | cons a rest =>
      cases a with
      | write br line =>
        simp only [htd] at hs
        split at hs
        · simp only [Option.some.injEq] at hs; subst hs; simp [upd_other _ _ _ _ hut]
        · cases hs
      | sync br =>
        simp only [htd] at hs
        split at hs
        · simp only [Option.some.injEq] at hs; subst hs; simp [upd_other _ _ _ _ hut]
        · cases hs
  | enc k br line rest =>
    simp only [hph] at hs
    cases rest with
    | cons x rest => simp only [Option.some.injEq] at hs; subst hs; simp [upd_other _ _ _ _ hut]
    | nil =>
      simp only at hs
      split at hs
      · cases hs
      · simp only [Option.some.injEq] at hs; subst hs; simp [upd_other _ _ _ _ hut]
  | pre k br line =>
    simp only [hph] at hs
    split at hs
    · simp only [Option.some.injEq] at hs; subst hs; rfl
    · split at hs <;> (simp only [Option.some.injEq] at hs; subst hs; simp [upd_other _ _ _ _ hut])
  | emit k br line i =>
    simp only [hph] at hs
    split at hs <;> (simp only [Option.some.injEq] at hs; subst hs; simp [upd_other _ _ _ _ hut])
  | copy k br line i =>
    simp only [hph] at hs
    split at hs <;> (simp only [Option.some.injEq] at hs; subst hs; simp [upd_other _ _ _ _ hut])
  | fin k => simp only [hph, Option.some.injEq] at hs; subst hs; simp [upd_other _ _ _ _ hut]
  | flush br => simp only [hph, Option.some.injEq] at hs; subst hs; simp [upd_other _ _ _ _ hut]

theorem run_thr_other {kind : Nat → Kind} {early : Bool} (u : Nat) (sched : List (Nat × Nat)) :
    ∀ s, (∀ tc ∈ sched, tc.1 ≠ u) → (run kind early s sched).thr u = s.thr u := by
  induction sched with
  | nil => intro s _; rfl
  | cons tc ts ih =>
    intro s hn
    obtain ⟨t, c⟩ := tc
    have ht : u ≠ t := fun e => hn (t, c) (by simp) e.symm
    have hts : ∀ tc ∈ ts, tc.1 ≠ u := fun tc htc => hn tc (List.mem_cons_of_mem _ htc)
    simp only [run]
    cases hs : step kind early s t c with
    | none => exact ih s hts
    | some s' => simp only []; rw [ih s' hts, step_thr_other hs ht]

theorem linesFor_append (b : Nat) (p q : List Act) : linesFor b (p ++ q) = linesFor b p ++ linesFor b q := by
  induction p with
  | nil => rfl
  | cons a r ih =>
    cases a with
    | write br l => by_cases hb : br = b <;> simp [linesFor, hb, ih]
    | sync br => simp [linesFor, ih]

theorem linesFor_teeCall_ge (enc : Nat → Bytes) (b : Nat) : ∀ B, B ≤ b → linesFor b (teeCall B enc) = []
  | 0, _ => rfl
  | B + 1, h => by
    have ih := linesFor_teeCall_ge enc b B (by omega)
    have hne : B ≠ b := by omega
    simp only [teeCall, List.range_succ, List.map_append, linesFor_append] at ih ⊢
    simp [ih, linesFor, hne]

theorem linesFor_teeCall_lt (enc : Nat → Bytes) (b : Nat) : ∀ B, b < B → linesFor b (teeCall B enc) = [enc b]
  | 0, h => by omega
  | B + 1, h => by
    simp only [teeCall, List.range_succ, List.map_append, linesFor_append]
    by_cases hb : b = B
    · subst hb
      have := linesFor_teeCall_ge enc b b (Nat.le_refl _)
      simp only [teeCall] at this
      simp [this, linesFor]
    · have ih := linesFor_teeCall_lt enc b B (by omega)
      have hne : B ≠ b := fun e => hb e.symm
      simp only [teeCall] at ih
      simp [ih, linesFor, hne]

theorem linesFor_teeProg (B b : Nat) (hb : b < B) : ∀ es : List (Nat → Bytes), linesFor b (teeProg B es) = es.map (· b)
  | [] => rfl
  | e :: es => by
    have ih := linesFor_teeProg B b hb es
    simp only [teeProg, List.flatMap_cons, linesFor_append] at ih ⊢
    rw [linesFor_teeCall_lt e b B hb, ih]; rfl

/-! ### from merges to the executable acceptance predicate -/

theorem cutAux_proper : ∀ (bs acc : Bytes) (ls : List Bytes), (10 : UInt8) ∉ acc → cutAux bs acc = some ls →
    (∀ l ∈ ls.drop 1, Proper l) ∧ (∀ l, ls.head? = some l → ∃ body, l = acc ++ body ++ [10] ∧ (10 : UInt8) ∉ body)
  | [], [], ls, _, h => by simp [cutAux] at h; subst h; simp
  | [], _ :: _, ls, _, h => by simp [cutAux] at h
  | b :: bs, acc, ls, hacc, h => by
    simp only [cutAux] at h
    split at h
    · rename_i hb
      cases hc : cutAux bs [] with
      | none => simp [hc] at h
      | some ls' =>
        simp [hc] at h; subst h
        obtain ⟨h1, h2⟩ := cutAux_proper bs [] ls' (by simp) hc
        refine ⟨?_, ?_⟩
        · intro l hl
          simp only [List.drop_succ_cons, List.drop_zero] at hl
          cases ls' with
          | nil => cases hl
          | cons x r =>
            rcases List.mem_cons.mp hl with rfl | hr
            · obtain ⟨body, hb1, hb2⟩ := h2 l rfl; exact ⟨body, by simpa using hb1, hb2⟩
            · exact h1 l (by simpa using hr)
        · intro l hl; simp at hl; subst hl; exact ⟨[], by simp [hb], by simp⟩
    · rename_i hb
      have hacc' : (10 : UInt8) ∉ acc ++ [b] := by
        simp only [List.mem_append, List.mem_singleton, not_or]; exact ⟨hacc, fun e => hb e.symm⟩
      obtain ⟨h1, h2⟩ := cutAux_proper bs (acc ++ [b]) ls hacc' h
      refine ⟨h1, ?_⟩
      intro l hl
      obtain ⟨body, hb1, hb2⟩ := h2 l hl
      refine ⟨b :: body, by simpa [List.append_assoc] using hb1, ?_⟩
      simp only [List.mem_cons, not_or]; exact ⟨fun e => hb e.symm, hb2⟩

theorem cut_sound (bs : Bytes) (ls : List Bytes) (h : cut bs = some ls) : bs = ls.flatten ∧ ∀ l ∈ ls, Proper l := by
  refine ⟨by simpa using cutAux_sound bs [] ls h, ?_⟩
  obtain ⟨h1, h2⟩ := cutAux_proper bs [] ls (by simp) h
  intro l hl
  cases ls with
  | nil => cases hl
  | cons x r =>
    rcases List.mem_cons.mp hl with rfl | hr
    · obtain ⟨body, hb1, hb2⟩ := h2 l rfl; exact ⟨body, by simpa using hb1, hb2⟩
    · exact h1 l (by simpa using hr)

theorem isMergeOf_mem {per : Nat → List Bytes} {ls : List Bytes} (hm : IsMergeOf per ls) {l : Bytes} (hl : l ∈ ls) :
    ∃ t, l ∈ per t := by
  obtain ⟨hist, hmap, hproj⟩ := hm
  rw [← hmap] at hl
  obtain ⟨⟨t, l'⟩, hmem, rfl⟩ := List.mem_map.mp hl
  refine ⟨t, ?_⟩
  have := hproj t
  rw [← this]
  exact List.mem_map.mpr ⟨(t, l'), List.mem_filter.mpr ⟨hmem, by simp⟩, rfl⟩

theorem map_flatten_flatten {α} (groups : List (List (List α))) :
    (groups.map List.flatten).flatten = groups.flatten.flatten := by
  induction groups with
  | nil => rfl
  | cons g r ih => simp [List.flatten_append, ih]

theorem run_append (kind : Nat → Kind) (early : Bool) (a b : List (Nat × Nat)) :
    ∀ s, run kind early s (a ++ b) = run kind early (run kind early s a) b := by
  induction a with
  | nil => intro s; rfl
  | cons tc ts ih =>
    intro s
    obtain ⟨t, x⟩ := tc
    simp only [List.cons_append, run]
    cases step kind early s t x with
    | none => exact ih s
    | some s' => exact ih s'

theorem cut_single (l : Bytes) (h : Proper l) : cut l = some [l] := by
  have := cut_flatten [l] (fun x hx => by simp at hx; subst hx; exact h)
  simpa using this

/-- the per-goroutine lists of N goroutines as the list the executable check takes -/
def perList (N : Nat) (per : Nat → List Bytes) : List (List Bytes) := (List.range N).map per

theorem perList_getD (N : Nat) (per : Nat → List Bytes) (hN : ∀ t, N ≤ t → per t = []) (t : Nat) :
    (perList N per).getD t [] = per t := by
  by_cases ht : t < N
  · simp [perList, List.getD_eq_getElem?_getD, ht]
  · simp [perList, List.getD_eq_getElem?_getD, ht, hN t (by omega)]

theorem merge_validMerge (N : Nat) (per : Nat → List Bytes) (hN : ∀ t, N ≤ t → per t = []) (ls : List Bytes)
    (hm : IsMergeOf per ls) (hp : ∀ l ∈ ls, Proper l) : validMerge (perList N per) ls.flatten = true := by
  obtain ⟨hist, hmap, hproj⟩ := hm
  simp only [validMerge, cut_flatten ls hp]
  rw [← hmap]
  exact isMerge_complete hist _ (fun t => by rw [perList_getD N per hN, hproj t])

/-- the closing `Sync()` / `Stop()` of the main goroutine after all loggers have returned: two steps (Lock; Flush,
    Unlock) and the bufio buffer of that branch is empty -/
theorem final_sync_drains {kind : Nat → Kind} {jobs : Nat → List Act} {s : St} (h : Inv kind jobs s) (m b c c' : Nat)
    (hm : (s.thr m).todo = [.sync b] ∧ (s.thr m).ph = .idle)
    (ho : ∀ t, t ≠ m → (s.thr t).todo = [] ∧ (s.thr t).ph = .idle) :
    Finished (run kind false s [(m, c), (m, c')]) ∧ (run kind false s [(m, c), (m, c')]).buf b = [] := by
  have hl : s.lock b = none := by
    cases hl : s.lock b with
    | none => rfl
    | some t =>
      have := (h.brn b).hold t hl
      by_cases ht : t = m
      · subst ht; rw [hm.2] at this; simp [holds] at this
      · rw [(ho t ht).2] at this; simp [holds] at this
  have h1 : step kind false s m c =
      some { s with thr := upd s.thr m { todo := [], ph := .flush b }, lock := upd s.lock b (some m) } := by
    unfold step; simp [hm.1, hm.2, hl]
  simp only [run, h1]
  have h2 : step kind false { s with thr := upd s.thr m { todo := [], ph := .flush b }, lock := upd s.lock b (some m) } m c' =
      some { s with thr := upd (upd s.thr m { todo := [], ph := .flush b }) m { todo := [], ph := .idle },
                    calls := if s.buf b = [] then s.calls else upd s.calls b (s.calls b ++ [s.buf b]),
                    buf := upd s.buf b [], lock := upd (upd s.lock b (some m)) b none } := by
    unfold step; simp
  simp only [h2]
  refine ⟨fun t => ?_, by simp⟩
  by_cases ht : t = m
  · subst ht; simp
  · simpa [upd_other _ _ _ _ ht] using ho t ht

/-- the branch whose mutex a goroutine needs for its next step, if that step is an acquisition -/
def wants (th : Thr) : Option Nat :=
  match th.ph, th.todo with
  | .idle, .sync b :: _ => some b
  | .enc _ b _ [], _ => some b
  | _, _ => none

/-- a goroutine inside a critical section is never blocked (no nested locks, no waiting under the mutex) -/
theorem holder_can_step {kind : Nat → Kind} {jobs : Nat → List Act} {s : St} (h : Inv kind jobs s) {b u : Nat}
    (hl : s.lock b = some u) (c : Nat) : (step kind false s u c).isSome = true := by
  have hh := (h.brn b).hold u hl
  unfold step
  cases hph : (s.thr u).ph with
  | idle => rw [hph] at hh; simp [holds] at hh
  | enc k br line rest => rw [hph] at hh; simp [holds] at hh
  | fin k => rw [hph] at hh; simp [holds] at hh
  | pre k br line => simp only [hph]; split <;> (try split) <;> rfl
  | emit k br line i => simp only [hph]; split <;> rfl
  | copy k br line i => simp only [hph]; split <;> rfl
  | flush br => simp only [hph]; rfl

theorem blocked_cases {kind : Nat → Kind} {s : St} {t c : Nat} (hs : step kind false s t c = none) :
    ((s.thr t).todo = [] ∧ (s.thr t).ph = .idle) ∨
    (∃ b u, wants (s.thr t) = some b ∧ s.lock b = some u) ∨
    ((s.thr t).ph = .idle ∧ (∃ br line rest, (s.thr t).todo = .write br line :: rest) ∧ (s.pool c).owner ≠ none) := by
  unfold step at hs
  cases hph : (s.thr t).ph with
  | idle =>
    simp only [hph] at hs
    cases htd : (s.thr t).todo with
    | nil => exact .inl ⟨rfl, rfl⟩
    | cons a rest =>
      cases a with
      | write br line =>
        simp only [htd] at hs
        split at hs
        · cases hs
        · rename_i hc; exact .inr (.inr ⟨rfl, ⟨br, line, rest, rfl⟩, hc⟩)
      | sync br =>
        simp only [htd] at hs
        cases hl : s.lock br with
        | none => simp [hl] at hs
        | some u => exact .inr (.inl ⟨br, u, by simp [wants, hph, htd], hl⟩)
  | enc k br line rest =>
    simp only [hph] at hs
    cases rest with
    | cons x r => cases hs
    | nil =>
      cases hl : s.lock br with
      | none => simp [hl] at hs
      | some u => exact .inr (.inl ⟨br, u, by simp [wants, hph], hl⟩)
  | pre k br line => simp only [hph] at hs; split at hs <;> (try split at hs) <;> cases hs
  | emit k br line i => simp only [hph] at hs; split at hs <;> cases hs
  | copy k br line i => simp only [hph] at hs; split at hs <;> cases hs
  | fin k => simp only [hph] at hs; cases hs
  | flush br => simp only [hph] at hs; cases hs

/-! ### a concrete finished run (non-vacuity witness used by Props/C04): tee of a Lock(sink) and a 5-byte
    BufferedWriteSyncer, a 6-byte line, a goroutine issuing the closing Syncs -/

def exKind : Nat → Kind := fun b => if b = 0 then .locked else .buffered 5
def exJobs : Nat → List Act := fun t =>
  if t = 0 then teeProg 2 [fun _ => [97, 10], fun _ => [98, 99, 100, 101, 102, 10], fun _ => [103, 10]]
  else if t = 1 then teeProg 2 [fun _ => [120, 10]]
  else if t = 2 then [.sync 0, .sync 1] else []
def exSched : List (Nat × Nat) :=
  ((List.range 70).flatMap fun _ => [(0, 0), (1, 1)]) ++ [(2, 0), (2, 0), (2, 0), (2, 0)]

theorem exSched_threads : ∀ tc ∈ exSched, tc.1 < 3 := by
  intro tc h
  simp only [exSched, List.mem_append, List.mem_flatMap, List.mem_cons, List.not_mem_nil, or_false] at h
  rcases h with ⟨_, _, rfl | rfl⟩ | rfl | rfl | rfl | rfl <;> decide

/-- the final state of the run, computed once: the sink calls of both branches, the drained buffer, the three goroutines
    done. Lock(sink) sees one line per call; two lines leave the 5-byte buffer in one sink write, the 6-byte line does
    not fit and is written directly, whole, and the closing Sync drains the rest. -/
theorem ex_final :
    (run exKind false (init exJobs) exSched).calls 0 = [[97, 10], [120, 10], [98, 99, 100, 101, 102, 10], [103, 10]] ∧
    (run exKind false (init exJobs) exSched).calls 1 = [[97, 10, 120, 10], [98, 99, 100, 101, 102, 10], [103, 10]] ∧
    (run exKind false (init exJobs) exSched).buf 1 = [] ∧
    ∀ t < 3, ((run exKind false (init exJobs) exSched).thr t).todo = [] ∧
      ((run exKind false (init exJobs) exSched).thr t).ph = .idle := by
  decide +kernel

theorem ex_finished : Finished (run exKind false (init exJobs) exSched) := by
  intro t
  by_cases ht : t < 3
  · exact ex_final.2.2.2 t ht
  · rw [run_thr_other t exSched _ (fun tc htc e => ht (e ▸ exSched_threads tc htc))]
    have h0 : t ≠ 0 := by omega
    have h1 : t ≠ 1 := by omega
    have h2 : t ≠ 2 := by omega
    exact ⟨by simp only [init, exJobs, if_neg h0, if_neg h1, if_neg h2], rfl⟩

end ZapVerif.TeeBws
