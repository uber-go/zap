import ZapVerif.Proofs.GoMini
import ZapVerif.Model.TransJsonSepX
/-! Lookup facts for the `…_matches_source` theorems of Props/C01.lean about Gen/TransJsonSep.lean.
    Nothing here depends on the shape of the generated terms. -/
namespace ZapVerif.TransJsonSep
open ZapVerif ZapVerif.GoMini ZapVerif.Enc ZapVerif.Gen.TransJsonSep

@[simp] theorem X_funs : X.funs = funs := id rfl
@[simp] theorem X_ext : X.ext = ext := id rfl
@[simp] theorem ext_sas (b s : Bytes) : ext "safeAddString" [.bytes b, .bytes s] = some [.bytes (b ++ esc s)] := id rfl

end ZapVerif.TransJsonSep
