import ZapVerif.Proofs.GoMini
import ZapVerif.Model.TransLoggerX
import ZapVerif.Model.Core
/-! Lookup facts for the `…_matches_source` theorems of Props/C05.lean and Props/C06.lean about Gen/TransLogger.lean,
    the reading of hook values as `Cores.HookCfg` / `Cores.Action`, and the pieces `Logger.check` is executed in
    (guard, `switch ent.Level`, the rest). -/
namespace ZapVerif.TransLogger
open ZapVerif ZapVerif.GoMini ZapVerif.Gen.TransLogger

@[simp] theorem X_funs (P : Par) : (X P).funs = funs := id rfl
@[simp] theorem X_ext (P : Par) : (X P).ext = ext P := id rfl
@[simp] theorem unCE_ceV (o : Option (List Val × List Val)) : unCE (ceV o) = some o := by
  rcases o with _ | ⟨cs, h⟩ <;> rfl
/-- the core's `Enabled` / `Check`, the clock and the annotation tail are parameters; `After` is `after`; the rest of
    `SugaredLogger.log` returns nothing -/
@[simp] theorem ext_eq (P : Par) :
    (∀ c l, ext P "Core.Enabled" [c, .int l] = some [.bool (P.cen c l)]) ∧
    (∀ l, ext P "Core.Enabled" [.int l] = some [.bool (P.cen (.list []) l)]) ∧
    (∀ c e n, ext P "Core.Check" [c, e, n] = some [ceV ((P.chk c e).map fun cs => (cs, []))]) ∧
    (∀ c, ext P "Clock.Now" [c] = some [P.now c]) ∧
    (∀ o e h, ext P "CE.After" [ceV o, e, .list h] = some [ceV (after o h)]) ∧
    (∀ ce e, ext P "Logger.annotate" [ce, e] = some [P.ann ce e]) ∧
    (∀ l, ext P "Sugar.formatCheckWrite" [l] = some []) := by
  refine ⟨?_, ?_, ?_, ?_, ?_, ?_, ?_⟩ <;> intros <;> table_lookup ext ext.match_1
  rename_i o e h; rcases o with _ | ⟨cs, h'⟩ <;> rfl

@[simp] theorem builtin_ext (a : List Val) : builtin "Core.Enabled" a = none ∧ builtin "CE.After" a = none := by
  simp [builtin]

@[simp] theorem bi_cen (a : List Val) : builtin "Core.Enabled" a = none := (builtin_ext a).1

theorem nm_now : nm "Clock.Now" = .bytes [67, 108, 111, 99, 107, 46, 78, 111, 119] := congrArg Val.bytes (by decide +kernel)
theorem nm_chk : nm "Core.Check" = .bytes [67, 111, 114, 101, 46, 67, 104, 101, 99, 107] := congrArg Val.bytes (by decide +kernel)
theorem nm_ann : nm "Logger.annotate" = .bytes [76, 111, 103, 103, 101, 114, 46, 97, 110, 110, 111, 116, 97, 116, 101] :=
  congrArg Val.bytes (by decide +kernel)
theorem nm_fcw : nm "Sugar.formatCheckWrite" =
    .bytes [83, 117, 103, 97, 114, 46, 102, 111, 114, 109, 97, 116, 67, 104, 101, 99, 107, 87, 114, 105, 116, 101] :=
  congrArg Val.bytes (by decide +kernel)

/-- `terminalHookOverride(default, override)`: a nil or `WriteThenNoop` override yields the default.  The condition
    `len(o) == 0 || o == noop` is evaluated as one boolean (`orK_ok_bool`) instead of branching on its left operand. -/
theorem terminalHookOverride_exec (P : Par) (d o : List Val) (fld : Env) (rec : Stmt → State → Out) :
    (execS (X P) rec terminalHookOverride_body ⟨[("p0", .list d), ("p1", .list o)], fld⟩).fin =
      some ([.list (ovr d o)], fld) := by
  simp [-orK_bool, orK_ok_bool, terminalHookOverride_body, ovr]
  split <;> simp_all

theorem lenVal_ceV (o : Option (List Val × List Val)) : lenVal (ceV o) = .ok (.int (if o.isSome then 2 else 0)) := by
  rcases o with _ | ⟨cs, h⟩ <;> rfl

theorem Logger_check_guard_exec (P : Par) (l : Int) (msg : Val) (core : Val) (name : Bytes) (clock : Val) (dev : Bool)
    (onPanic onFatal ev : List Val) (rec : Stmt → State → Out) (hl : l < 3) (hc : P.cen core l = false) :
    (execS (X P) rec Logger_check_body ⟨[("p0", .int l), ("p1", msg)], logFld core name clock dev onPanic onFatal ev⟩).fin =
      some ([.list []], logFld core name clock dev onPanic onFatal ev) := by
  simp [Logger_check_body, hl, hc]

/-- `Logger.check` from its `switch ent.Level` on: the switch, the early return for an entry nobody writes, the
    annotation tail -/
def Logger_check_rest : Stmt := Logger_check_body.tl.tl.tl.tl.tl

theorem Logger_check_body_split : Logger_check_body =
    .seq Logger_check_body.hd (.seq Logger_check_body.tl.hd (.seq Logger_check_body.tl.tl.hd
      (.seq Logger_check_body.tl.tl.tl.hd (.seq Logger_check_body.tl.tl.tl.tl.hd Logger_check_rest)))) := rfl

theorem Logger_check_rest_split : Logger_check_rest = .seq Logger_check_rest.hd Logger_check_rest.tl := rfl

/-- the state of `Logger.check` around the switch: `ce` is the entry so far (`l2`), `more` the temporaries the switch
    has bound (they come after the named locals, so what follows the switch never looks at them) -/
def swSt (l : Int) (msg t ent : Val) (ce : Option (List Val × List Val)) (b3 : Bool) (more fld : Env) : State :=
  ⟨[("p0", .int l), ("p1", msg), ("l0", t), ("l1", ent), ("l2", ceV ce), ("l3", .bool b3)] ++ more, fld⟩

theorem Logger_check_switch_exec (P : Par) (l : Int) (msg t e0 e1 e3 : Val) (ce0 : Option (List Val × List Val)) (b3 : Bool)
    (core : Val) (name : Bytes) (clock : Val) (dev : Bool) (onPanic onFatal ev : List Val) (fuel : Nat) :
    ∃ more : Env,
      execS (X P) (exec (X P) (fuel + 1)) Logger_check_rest.hd
        (swSt l msg t (.list [e0, e1, .int l, e3]) ce0 b3 [] (logFld core name clock dev onPanic onFatal ev)) =
      .normal (swSt l msg t (.list [e0, e1, .int l, e3])
        (match terminal l dev onPanic onFatal with | none => ce0 | some h => after ce0 h) b3 more
        (logFld core name clock dev onPanic onFatal ev)) := by
  have hovr : ∀ (σ : State) (lv : LV) (d o : List Val) (fl : Env), retK σ [lv] "terminalHookOverride"
      (exec (X P) (fuel + 1) terminalHookOverride_body ⟨[("p0", .list d), ("p1", .list o)], fl⟩) =
      .normal (({ σ with fld := fl } : State).assign1 lv (.list (ovr d o))) :=
    fun σ lv d o fl => retK_of_fin1 σ _ _ _ _ _ (terminalHookOverride_exec P d o fl _)
  simp only [Logger_check_rest, Logger_check_body, Stmt.hd, Stmt.tl, terminal, swSt]
  by_cases h4 : l = 4
  · subst h4; exact ⟨[("l4", .list (ovr [.int 2] onPanic))], by simp [hovr]⟩
  by_cases h5 : l = 5
  · subst h5; exact ⟨[("l5", .list (ovr [.int 3] onFatal))], by simp [hovr]⟩
  by_cases h3 : l = 3
  · subst h3
    cases dev
    · exact ⟨[], by simp⟩
    · exact ⟨[("l6", .list (ovr [.int 2] onPanic))], by simp [hovr]⟩
  · exact ⟨[], by simp [h4, h5, h3]⟩

open ZapVerif.Cores in
/-- a `CheckWriteHook` as the translated program holds it: the `CheckWriteAction` constants 0–3, custom hooks from 10 up -/
def actV : Action → List GoMini.Val
  | .goexit => [.int 1]
  | .panic => [.int 2]
  | .fatal => [.int 3]
  | .custom k => [.int (k + 10)]

open ZapVerif.Cores in
def hookV : HookCfg → List GoMini.Val
  | .unset => []
  | .noop => [.int 0]
  | .act a => actV a
  | .custom k => [.int (k + 10)]

open ZapVerif.Cores in
/-- `terminalHookOverride` on values is the model's `override` -/
theorem ovr_is_override (d : Action) (cfg : HookCfg) : ovr (actV d) (hookV cfg) = actV (override d cfg) := by
  cases cfg with
  | unset => simp [ovr, hookV, override]
  | noop => simp [ovr, hookV, override]
  | act a =>
    cases a <;> simp [ovr, hookV, actV, override]
    intro h; omega
  | custom k =>
    simp [ovr, hookV, actV, override]
    intro h; omega

open ZapVerif.Cores in
/-- the `switch ent.Level` on values is the model's `Logger.terminal` -/
theorem terminal_is_model (lg : Logger) (l : Int) :
    terminal l lg.dev (hookV lg.onPanic) (hookV lg.onFatal) = (lg.terminal l).map actV := by
  simp only [terminal, Logger.terminal, panicL, fatalL, dpanicL]
  have e2 : ([.int 2] : List GoMini.Val) = actV .panic := rfl
  have e3 : ([.int 3] : List GoMini.Val) = actV .fatal := rfl
  by_cases h4 : l = 4
  · simp [h4, e2, ovr_is_override]
  · by_cases h5 : l = 5
    · simp [h5, e3, ovr_is_override]
    · by_cases h3 : l = 3
      · cases hd : lg.dev <;> simp [h3, e2, ovr_is_override]
      · simp [h4, h5, h3]

end ZapVerif.TransLogger
