import ZapVerif.Model.Callers
/-! helper lemmas for C15 (caller skip arithmetic, the Capture doubling loop) -/
namespace ZapVerif.Callers
open ZapVerif.Gen.Callers

variable {F : Type}

theorem callers_length (st : List F) (s cap : Nat) : (callers st s cap).length = min cap (st.length - s) := by
  simp [callers, List.length_take, List.length_drop]

theorem callers_all (st : List F) (s cap : Nat) (h : st.length - s ≤ cap) : callers st s cap = st.drop s := by
  simp only [callers]
  exact List.take_of_length_le (by simp [List.length_drop]; omega)

/-- the growth factor read from stack.go really grows the slab -/
theorem growFactor_ge : 2 ≤ growFactor := by decide

theorem captureLoop_complete (st : List F) (s : Nat) : ∀ (fuel cap : Nat), 0 < cap →
    st.length - s < cap * growFactor ^ fuel → captureLoop st s fuel cap = some (st.drop s) := by
  intro fuel
  induction fuel with
  | zero =>
    intro cap hc h
    simp only [Nat.pow_zero, Nat.mul_one] at h
    have hl := callers_length st s cap
    have hne : (callers st s cap).length ≠ cap := by omega
    simp only [captureLoop, hne, ↓reduceIte]
    rw [callers_all st s cap (by omega)]
  | succ f ih =>
    intro cap hc h
    simp only [captureLoop]
    have hl := callers_length st s cap
    by_cases he : (callers st s cap).length = cap
    · simp only [he, ↓reduceIte]
      have hg := growFactor_ge
      apply ih (growFactor * cap) (Nat.mul_pos (by omega) hc)
      calc st.length - s < cap * growFactor ^ (f + 1) := h
        _ = growFactor * cap * growFactor ^ f := by
            rw [Nat.pow_succ, Nat.mul_comm (growFactor ^ f) growFactor, ← Nat.mul_assoc, Nat.mul_comm cap growFactor]
    · simp only [he, ↓reduceIte]
      rw [callers_all st s cap (by omega)]

theorem pow_len_bound (n s slab : Nat) (h : 0 < slab) : n - s < slab * growFactor ^ n := by
  have h1 : n < 2 ^ n := Nat.lt_two_pow_self
  have h2 : 2 ^ n ≤ growFactor ^ n := Nat.pow_le_pow_left growFactor_ge n
  have h3 : growFactor ^ n ≤ slab * growFactor ^ n := Nat.le_mul_of_pos_left _ h
  omega

theorem capture_full (st : List F) (skip slab : Nat) (h : 0 < slab) :
    capture st skip true slab = some (st.drop (skip + captureCallersOffset)) := by
  simp only [capture, ↓reduceIte]
  exact captureLoop_complete st _ st.length slab h (pow_len_bound _ _ _ h)

theorem capture_first (st : List F) (skip slab : Nat) :
    capture st skip false slab = some ((st.drop (skip + captureCallersOffset)).take 1) := by
  simp [capture, callers]

theorem capture_eq (st : List F) (skip : Nat) (full : Bool) (slab : Nat) (h : 0 < slab) :
    capture st skip full slab =
      some (if full then st.drop (skip + captureCallersOffset) else (st.drop (skip + captureCallersOffset)).take 1) := by
  cases full
  · exact capture_first st skip slab
  · exact capture_full st skip slab h

theorem annotate_of_drop (callerSkip : Int) (addCaller addStack : Bool) (slab : Nat) (hslab : 0 < slab) (st : List F)
    (f : F) (rest : List F)
    (h : st.drop ((callerSkip + callerSkipOffset).toNat + captureCallersOffset) = f :: rest) :
    annotate callerSkip addCaller addStack slab st =
      { caller := if addCaller then some f else none,
        stack := if addStack then some (f :: formatStack rest) else none } := by
  unfold annotate
  rw [capture_eq _ _ _ _ hslab, h]
  cases addCaller <;> cases addStack <;> rfl

theorem sugar_desugar_eq : sugarDelta = desugarDelta := by decide

def Logger.norm (l : Logger) : Int := l.callerSkip - (if l.sugared then (sugarDelta : Int) else 0)

theorem apply_norm (l l' : Logger) (d : Deriv) (h : d.apply l = some l') : l'.norm = l.norm + d.skips := by
  have hsd : (sugarDelta : Int) = (desugarDelta : Int) := by rw [sugar_desugar_eq]
  cases d <;> cases hs : l.sugared <;> simp [Deriv.apply, hs] at h <;> subst h <;>
    simp [Logger.norm, Deriv.skips, hs] <;> omega

theorem run_norm (ds : List Deriv) : ∀ (l l' : Logger), run ds l = some l' → l'.norm = l.norm + sumSkips ds := by
  induction ds with
  | nil => intro l l' h; simp [run] at h; subst h; simp [sumSkips]
  | cons d r ih =>
    intro l l' h
    simp only [run] at h
    cases hd : d.apply l with
    | none => simp [hd] at h
    | some l1 =>
      simp only [hd, Option.bind_some] at h
      have h1 := apply_norm l l1 d hd
      have h2 := ih l1 l' h
      simp only [sumSkips, List.map_cons, List.sum_cons] at h2 ⊢
      omega

theorem run_skip (ds : List Deriv) (l : Logger) (h : run ds {} = some l) :
    l.callerSkip = sumSkips ds + (if l.sugared then (sugarDelta : Int) else 0) := by
  have := run_norm ds {} l h
  simp [Logger.norm] at this
  omega

/-- the skip handed to `runtime.Callers` when logger and front end are in balance: the three frames of the capture, the
    front end's own frames and the `w` wrappers -/
theorem balanced_skip (cs : Int) (w extra delta off cap frames : Nat) (sugared : Bool)
    (hskip : cs = (w : Int) + (if sugared then (delta : Int) else 0))
    (hbal : extra + (if sugared then delta else 0) + off + cap = 3 + frames) :
    (cs + (extra : Int) + (off : Int)).toNat + cap = 3 + frames + w := by
  have h : cs + (extra : Int) + (off : Int) = ((w + (if sugared then delta else 0) + extra + off : Nat) : Int) := by
    rw [hskip]; cases sugared <;> simp
  rw [h, Int.toNat_natCast]; omega

theorem drop_structured (pre zap ws : List F) (user : F) (outer : List F) (n : Nat)
    (h : n = pre.length + zap.length + ws.length) :
    (stackOf pre zap (ws ++ user :: outer)).drop n = user :: outer := by
  subst h
  simp only [stackOf, ← List.append_assoc]
  rw [List.drop_left' (by simp; omega)]

theorem lastIndexOf_none (b : UInt8) (s : Bytes) (h : b ∉ s) : lastIndexOf b s = none := by
  induction s with
  | nil => rfl
  | cons c r ih =>
    have hc : c ≠ b := fun e => h (e ▸ List.mem_cons_self)
    have hr : b ∉ r := fun m => h (List.mem_cons_of_mem _ m)
    simp [lastIndexOf, ih hr, hc]

theorem lastIndexOf_sep (b : UInt8) (x y : Bytes) (h : b ∉ y) : lastIndexOf b (x ++ b :: y) = some x.length := by
  induction x with
  | nil => simp [lastIndexOf, lastIndexOf_none b y h]
  | cons c r ih => simp [lastIndexOf, ih]

end ZapVerif.Callers
