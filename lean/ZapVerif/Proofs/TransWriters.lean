import ZapVerif.Proofs.GoMini
import ZapVerif.Model.TransWritersX
/-! Lookup facts for the `…_matches_source` theorems of Props/C13.lean about Gen/TransWriters.lean.  Nothing here depends on
    the generated terms. -/
namespace ZapVerif.TransWriters
open ZapVerif ZapVerif.GoMini ZapVerif.Gen.TransWriters

@[simp] theorem X_funs (P : Par) : (X P).funs = funs := id rfl
@[simp] theorem X_ext (P : Par) : (X P).ext = ext P := id rfl
/-- the intrinsics of the table: the two `bytes` trims are parameters, the log function / `t.Logf` / `t.Fail` return nothing
    (they are recorded in `ev` by the translated code), the `.(*lockedWriteSyncer)` assertion answers in `(value, ok)` form -/
@[simp] theorem ext_eq (P : Par) :
    (∀ p, ext P "bytes.TrimSpace" [.bytes p] = some [.bytes (P.trimSpace p)]) ∧
    (∀ p c, ext P "bytes.TrimRight" [.bytes p, .bytes c] = some [.bytes (P.trimRight p c)]) ∧
    (∀ f m, ext P "LogFunc.call" [f, m] = some []) ∧
    (∀ t f m, ext P "TB.Logf" [t, f, m] = some []) ∧
    (∀ t, ext P "TB.Fail" [t] = some []) ∧
    (∀ w, ext P "assert.lockedWriteSyncer" [w] = some [if P.isLocked w then w else .list [], .bool (P.isLocked w)]) := by
  delta ext ext.match_1
  simp only [implies_true, and_true]

/-- the `.(WriteSyncer)` assertion in the `(value, ok)` form the interpreter can bind without knowing how it ends -/
@[simp] theorem ext_asWS (P : Par) (w : Val) : ext P "assert.WriteSyncer" [w] =
    some [(P.asWS w).getD (.list []), .bool (P.asWS w).isSome] := by
  table_lookup ext ext.match_1
  cases P.asWS w <;> rfl

@[simp] theorem builtin_ext (a : List Val) :
    builtin "bytes.TrimSpace" a = none ∧ builtin "bytes.TrimRight" a = none := by simp [builtin]

theorem nm_logFunc : nm "LogFunc.call" = .bytes [76, 111, 103, 70, 117, 110, 99, 46, 99, 97, 108, 108] := congrArg Val.bytes (by decide +kernel)
theorem nm_logf : nm "TB.Logf" = .bytes [84, 66, 46, 76, 111, 103, 102] := congrArg Val.bytes (by decide +kernel)
theorem nm_fail : nm "TB.Fail" = .bytes [84, 66, 46, 70, 97, 105, 108] := congrArg Val.bytes (by decide +kernel)

end ZapVerif.TransWriters
