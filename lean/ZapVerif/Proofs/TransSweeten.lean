import ZapVerif.Proofs.GoMini
import ZapVerif.Model.TransSweetenX
/-! For `sweetenFields_matches_source` (Props/C14.lean): lookup facts of the table Gen/TransSweeten.lean, the state at the
    head of the loop, one lemma per kind of iteration and the loop as a whole. -/
namespace ZapVerif.TransSweeten
open ZapVerif ZapVerif.GoMini ZapVerif.Gen.TransSweeten

@[simp] theorem X_funs (P : Par) : (X P).funs = funs := id rfl
@[simp] theorem X_ext (P : Par) : (X P).ext = ext P := id rfl

/-- the assertions are stated whatever they answer (zero value and `false`, or the value and `true`), so that a run need
    not know the answer before it reaches them -/
@[simp] theorem ext_eq (P : Par) :
    (∀ a, ext P "assert.Field" [a] = some [(P.asField a).getD (.list []), .bool (P.asField a).isSome]) ∧
    (∀ a, ext P "assert.error" [a] = some [(P.asErr a).getD (.list []), .bool (P.asErr a).isSome]) ∧
    (∀ a, ext P "assert.string" [a] = some [.bytes ((P.asStr a).getD []), .bool (P.asStr a).isSome]) ∧
    (∀ e, ext P "zap.Error" [e] = some [errF e]) ∧
    (∀ k v, ext P "zap.Any" [.bytes k, v] = some [anyF k v]) ∧
    (∀ k v, ext P "zap.Array" [.bytes k, v] = some [arrayF k v]) ∧
    (∀ v, ext P "cap" [v] = some [.int (P.cap v)]) ∧
    (∀ m f, ext P "diag.Error" [m, f] = some []) := by
  unfold ext ext.match_5
  simp only [String.reduceEq, ↓reduceDIte, implies_true, and_true]
  refine ⟨fun a => ?_, fun a => ?_, fun a => ?_⟩
  · show some (match P.asField a with | some f => [f, Val.bool true] | none => _) = _
    cases P.asField a <;> rfl
  · show some (match P.asErr a with | some f => [f, Val.bool true] | none => _) = _
    cases P.asErr a <;> rfl
  · show some (match P.asStr a with | some s => [Val.bytes s, Val.bool true] | none => _) = _
    cases P.asStr a <;> rfl
@[simp] theorem builtin_ext (a : List Val) :
    builtin "zap.Error" a = none ∧ builtin "zap.Any" a = none ∧ builtin "zap.Array" a = none ∧ builtin "cap" a = none := by
  simp [builtin]

theorem nm_diag : nm "diag.Error" = .bytes [100, 105, 97, 103, 46, 69, 114, 114, 111, 114] := congrArg Val.bytes (by decide +kernel)
theorem msgMultiple_eq : msgMultiple = [77, 117, 108, 116, 105, 112, 108, 101, 32, 101, 114, 114, 111, 114, 115, 32, 119, 105, 116, 104, 111, 117, 116, 32, 97, 32, 107, 101, 121, 46] := by decide +kernel
theorem msgOdd_eq : msgOdd = [73, 103, 110, 111, 114, 101, 100, 32, 107, 101, 121, 32, 119, 105, 116, 104, 111, 117, 116, 32, 97, 32, 118, 97, 108, 117, 101, 46] := by decide +kernel
theorem msgNonString_eq : msgNonString = [73, 103, 110, 111, 114, 101, 100, 32, 107, 101, 121, 45, 118, 97, 108, 117, 101, 32, 112, 97, 105, 114, 115, 32, 119, 105, 116, 104, 32, 110, 111, 110, 45, 115, 116, 114, 105, 110, 103, 32, 107, 101, 121, 115, 46] := by decide +kernel
theorem keyIgnored_eq : keyIgnored = [105, 103, 110, 111, 114, 101, 100] := by decide +kernel
theorem keyInvalid_eq : keyInvalid = [105, 110, 118, 97, 108, 105, 100] := by decide +kernel

/-- the state at the loop head: `acc` = what the arguments before position `i` produced; `junk` = what earlier iterations
    left in the loop-local variables — arbitrary, since an iteration reads such a variable only after assigning it -/
def sAbs (args : List Val) (skip : Val) (ev0 : List Val) (i : Nat) (seen : Bool) (acc : ResV) (junk : Env) : State :=
  ⟨("p0", .list args) :: ("p1", skip) :: ("l0", .list acc.fields) :: ("l1", .list acc.invalid) :: ("l2", .bool seen) ::
    ("l3", .int i) :: junk, [("ev", .list (ev0 ++ acc.diags))]⟩

theorem append_nil (a : ResV) : a.append {} = a := by simp [ResV.append]
theorem nil_append (r : ResV) : ({} : ResV).append r = r := by simp [ResV.append]
theorem append_cons1 (a r : ResV) (o : Val) :
    a.append (r.cons1 o) = (⟨a.fields ++ [o], a.diags, a.invalid⟩ : ResV).append r := by simp [ResV.append, ResV.cons1]
theorem append_cons2 (a r : ResV) (o : Val) :
    a.append (r.cons2 o) = (⟨a.fields, a.diags ++ [o], a.invalid⟩ : ResV).append r := by simp [ResV.append, ResV.cons2]
theorem append_cons3 (a r : ResV) (o : Val) :
    a.append (r.cons3 o) = (⟨a.fields, a.diags, a.invalid ++ [o]⟩ : ResV).append r := by simp [ResV.append, ResV.cons3]

theorem sweepV_field (P : Par) (i : Nat) (seen : Bool) (a f : Val) (r : List Val) (hf : P.asField a = some f) :
    sweepV P i seen (a :: r) = (sweepV P (i+1) seen r).cons1 f := by
  cases r <;> simp [sweepV, hf]
theorem sweepV_err (P : Par) (i : Nat) (seen : Bool) (a e : Val) (r : List Val) (hf : P.asField a = none)
    (he : P.asErr a = some e) :
    sweepV P i seen (a :: r) =
      if seen then (sweepV P (i+1) true r).cons2 (diagV msgMultiple (errF e)) else (sweepV P (i+1) true r).cons1 (errF e) := by
  cases r <;> simp [sweepV, hf, he]
theorem sweepV_dangling (P : Par) (i : Nat) (seen : Bool) (a : Val) (hf : P.asField a = none) (he : P.asErr a = none) :
    sweepV P i seen [a] = { diags := [diagV msgOdd (anyF keyIgnored a)] } := by
  simp [sweepV, hf, he]
theorem sweepV_pair (P : Par) (i : Nat) (seen : Bool) (a v : Val) (r : List Val) (hf : P.asField a = none)
    (he : P.asErr a = none) :
    sweepV P i seen (a :: v :: r) =
      match P.asStr a with
      | some s => (sweepV P (i+2) seen r).cons1 (anyF s v)
      | none => (sweepV P (i+2) seen r).cons3 (.list [.int i, a, v]) := by
  simp only [sweepV, hf, he]
  cases P.asStr a <;> rfl

theorem indexVal_of_drop (args : List Val) (i : Nat) (a : Val) (r : List Val) (h : args.drop i = a :: r) :
    indexVal (.list args) (.int i) = .ok a := by
  have hlt : i < args.length := by
    apply Nat.lt_of_not_le; intro hle; rw [List.drop_eq_nil_of_le hle] at h; cases h
  have hg : args[i]? = some a := by rw [← List.head?_drop, h]; rfl
  obtain ⟨_, hg⟩ := List.getElem?_eq_some_iff.mp hg
  rw [indexVal_list args i hlt, hg]

theorem drop_succ_of_drop (args : List Val) (i : Nat) (a : Val) (r : List Val) (h : args.drop i = a :: r) :
    args.drop (i + 1) = r := by
  rw [← List.drop_drop, h]; rfl

/-! One lemma per kind of argument at position `i`; each runs the loop body once and, where the hypotheses leave a test
open (`seenError`, the `.(string)` assertion, `cap(invalid)`), branches there (`Out.andThen_ite`). -/

theorem sweetenFields_iter_field_matches_source (P : Par) (args : List Val) (skip : Val) (ev0 : List Val) (i : Nat)
    (seen : Bool) (acc : ResV) (junk : Env) (a f : Val) (hi : (i : Int) + 2 < 9223372036854775808)
    (hidx : indexVal (.list args) (.int i) = .ok a) (hf : P.asField a = some f)
    (rec : Stmt → State → GoMini.Out) (k : State → GoMini.Out) :
    ∃ junk', (execS (X P) rec sweetenFields_loop0.lbody (sAbs args skip ev0 i seen acc junk)).loopBody
      (fun σ' => (execS (X P) rec sweetenFields_loop0.lpost σ').loopPost k) =
      k (sAbs args skip ev0 (i+1) seen ⟨acc.fields ++ [f], acc.diags, acc.invalid⟩ junk') := by
  have hw1 : wrap .int ((i : Int) + 1) = ((i + 1 : Nat) : Int) := by rw [wrap_int_id] <;> omega
  refine ⟨Env.set "l5" (.bool true) (Env.set "l4" f junk), ?_⟩
  simp [sweetenFields_loop0, Stmt.lbody, Stmt.lpost, sAbs, hidx, hf, hw1]

theorem sweetenFields_iter_err_matches_source (P : Par) (args : List Val) (skip : Val) (ev0 : List Val) (i : Nat)
    (seen : Bool) (acc : ResV) (junk : Env) (a e : Val) (hi : (i : Int) + 2 < 9223372036854775808)
    (hidx : indexVal (.list args) (.int i) = .ok a) (hf : P.asField a = none) (he : P.asErr a = some e)
    (rec : Stmt → State → GoMini.Out) (k : State → GoMini.Out) :
    ∃ junk', (execS (X P) rec sweetenFields_loop0.lbody (sAbs args skip ev0 i seen acc junk)).loopBody
      (fun σ' => (execS (X P) rec sweetenFields_loop0.lpost σ').loopPost k) =
      k (sAbs args skip ev0 (i+1) true
          (if seen then ⟨acc.fields, acc.diags ++ [diagV msgMultiple (errF e)], acc.invalid⟩
           else ⟨acc.fields ++ [errF e], acc.diags, acc.invalid⟩) junk') := by
  have hw1 : wrap .int ((i : Int) + 1) = ((i + 1 : Nat) : Int) := by rw [wrap_int_id] <;> omega
  refine ⟨Env.set "l7" (.bool true) (Env.set "l6" e (Env.set "l5" (.bool false) (Env.set "l4" (.list []) junk))), ?_⟩
  simp [sweetenFields_loop0, Stmt.lbody, Stmt.lpost, sAbs, hidx, hf, he, hw1,
    Out.andThen_ite]
  cases seen <;> simp [diagV, nm_diag, msgMultiple_eq]

theorem sweetenFields_iter_dangling_matches_source (P : Par) (args : List Val) (skip : Val) (ev0 : List Val) (i : Nat)
    (seen : Bool) (acc : ResV) (junk : Env) (a : Val) (hlen : (args.length : Int) < 9223372036854775808) (hlast : i + 1 = args.length)
    (hidx : indexVal (.list args) (.int i) = .ok a) (hf : P.asField a = none) (he : P.asErr a = none)
    (rec : Stmt → State → GoMini.Out) (k : State → GoMini.Out) :
    ∃ junk', (execS (X P) rec sweetenFields_loop0.lbody (sAbs args skip ev0 i seen acc junk)).loopBody
      (fun σ' => (execS (X P) rec sweetenFields_loop0.lpost σ').loopPost k) =
      .normal (sAbs args skip ev0 i seen ⟨acc.fields, acc.diags ++ [diagV msgOdd (anyF keyIgnored a)], acc.invalid⟩
        junk') := by
  have hwl : wrap .int ((args.length : Int) - 1) = (i : Int) := by rw [wrap_int_id] <;> omega
  refine ⟨Env.set "l7" (.bool false) (Env.set "l6" (.list []) (Env.set "l5" (.bool false) (Env.set "l4" (.list []) junk))),
    ?_⟩
  simp [sweetenFields_loop0, Stmt.lbody, Stmt.lpost, sAbs, hidx, hf, he, hwl,
    diagV, nm_diag, msgOdd_eq, keyIgnored_eq]

theorem sweetenFields_iter_pair_matches_source (P : Par) (hcap : ∀ l : List Val, P.cap (.list l) = 0 → l = [])
    (args : List Val) (skip : Val) (ev0 : List Val) (i : Nat) (seen : Bool) (acc : ResV) (junk : Env) (a v : Val) (hlen : (args.length : Int) < 9223372036854775808) (hnl : i + 1 < args.length)
    (hidx : indexVal (.list args) (.int i) = .ok a) (hidx2 : indexVal (.list args) (.int ((i : Int) + 1)) = .ok v)
    (hf : P.asField a = none) (he : P.asErr a = none)
    (rec : Stmt → State → GoMini.Out) (k : State → GoMini.Out) :
    ∃ junk', (execS (X P) rec sweetenFields_loop0.lbody (sAbs args skip ev0 i seen acc junk)).loopBody
      (fun σ' => (execS (X P) rec sweetenFields_loop0.lpost σ').loopPost k) =
      k (sAbs args skip ev0 (i+2) seen
          (match P.asStr a with
           | some s => ⟨acc.fields ++ [anyF s v], acc.diags, acc.invalid⟩
           | none => ⟨acc.fields, acc.diags, acc.invalid ++ [.list [.int i, a, v]]⟩) junk') := by
  have hwl : wrap .int ((args.length : Int) - 1) = (args.length : Int) - 1 := by rw [wrap_int_id] <;> omega
  have hw1 : wrap .int ((i : Int) + 1) = (i : Int) + 1 := by rw [wrap_int_id] <;> omega
  have hw2 : wrap .int ((i : Int) + 2) = ((i + 2 : Nat) : Int) := by rw [wrap_int_id] <;> omega
  have hne : ¬ ((i : Int) = (args.length : Int) - 1) := by omega
  refine ⟨Env.set "l11" (.bool (P.asStr a).isSome) (Env.set "l10" (.bytes ((P.asStr a).getD [])) (Env.set "l9" v
    (Env.set "l8" a (Env.set "l7" (.bool false) (Env.set "l6" (.list []) (Env.set "l5" (.bool false)
    (Env.set "l4" (.list []) junk))))))), ?_⟩
  simp [sweetenFields_loop0, Stmt.lbody, Stmt.lpost, sAbs, hidx, hidx2, hf, he, hwl, hw1, hw2,
    hne, Out.andThen_ite]
  -- for a non-string key `invalid` is reset only when it is empty (`hcap`)
  cases hs : P.asStr a with
  | some s => simp
  | none =>
    by_cases hc : P.cap (.list acc.invalid) = 0
    · rw [if_pos hc, hcap _ hc]; simp
    · rw [if_neg hc]; simp

theorem sweetenFields_loop_matches_source (P : Par) (hcap : ∀ l : List Val, P.cap (.list l) = 0 → l = []) (args : List Val)
    (skip : Val) (ev0 : List Val) (hlen : (args.length : Int) + 2 < 9223372036854775808) :
    ∀ (n i : Nat) (seen : Bool) (acc : ResV) (junk : Env) (fuel : Nat), args.length - i ≤ n →
      ∃ (i' : Nat) (seen' : Bool) (junk' : Env),
        execS (X P) (exec (X P) (fuel + n)) sweetenFields_loop0 (sAbs args skip ev0 i seen acc junk) =
          .normal (sAbs args skip ev0 i' seen' (acc.append (sweepV P i seen (args.drop i))) junk') := by
  have hL : sweetenFields_loop0 = .loop sweetenFields_loop0.lcond sweetenFields_loop0.lpost sweetenFields_loop0.lbody := rfl
  have hcond : ∀ (i : Nat) (seen : Bool) (acc : ResV) (junk : Env),
      evalE (X P) (sAbs args skip ev0 i seen acc junk) sweetenFields_loop0.lcond = .ok (.bool (decide ((i : Int) < args.length))) := by
    intro i seen acc junk
    simp [sweetenFields_loop0, Stmt.lcond, sAbs]
  intro n
  induction n with
  | zero =>
    intro i seen acc junk fuel hn
    refine ⟨i, seen, junk, ?_⟩
    have hge : ¬ ((i : Int) < args.length) := by omega
    rw [List.drop_eq_nil_of_le (by omega), hL, execS_loop, hcond, decide_eq_false hge]
    simp [sweepV, append_nil]
  | succ m ih =>
    intro i seen acc junk fuel hn
    cases hd : args.drop i with
    | nil =>
      refine ⟨i, seen, junk, ?_⟩
      have hge : ¬ ((i : Int) < args.length) := by have := List.drop_eq_nil_iff.mp hd; omega
      rw [hL, execS_loop, hcond, decide_eq_false hge]
      simp [sweepV, append_nil]
    | cons a r =>
      have hidx := indexVal_of_drop args i a r hd
      have hr := drop_succ_of_drop args i a r hd
      have hal : args.length - i = r.length + 1 := by rw [← List.length_drop, hd]; rfl
      have hlt : (i : Int) < args.length := by omega
      have hi : (i : Int) + 2 < 9223372036854775808 := by omega
      have hlen' : (args.length : Int) < 9223372036854775808 := by omega
      rw [hL, execS_loop, hcond, decide_eq_true hlt, Res.out_ok, condK_bool, if_pos rfl, ← hL]
      have hrec : exec (X P) (fuel + (m + 1)) sweetenFields_loop0 =
          execS (X P) (exec (X P) (fuel + m)) sweetenFields_loop0 := rfl
      cases hf : P.asField a with
      | some f =>
        obtain ⟨j, hj⟩ := sweetenFields_iter_field_matches_source P args skip ev0 i seen acc junk a f hi hidx hf
          (exec (X P) (fuel + (m + 1))) (exec (X P) (fuel + (m + 1)) sweetenFields_loop0)
        rw [hj, hrec, sweepV_field P _ _ a f r hf, append_cons1, ← hr]
        exact ih (i + 1) seen _ j fuel (by omega)
      | none =>
        cases he : P.asErr a with
        | some e =>
          obtain ⟨j, hj⟩ := sweetenFields_iter_err_matches_source P args skip ev0 i seen acc junk a e hi hidx hf he
            (exec (X P) (fuel + (m + 1))) (exec (X P) (fuel + (m + 1)) sweetenFields_loop0)
          rw [hj, hrec, sweepV_err P _ _ a e r hf he, ← hr]
          have := ih (i + 1) true
            (if seen then ⟨acc.fields, acc.diags ++ [diagV msgMultiple (errF e)], acc.invalid⟩
             else ⟨acc.fields ++ [errF e], acc.diags, acc.invalid⟩) j fuel (by omega)
          cases seen <;> simp only [Bool.false_eq_true, ↓reduceIte] at this ⊢
          · rw [append_cons1]; exact this
          · rw [append_cons2]; exact this
        | none =>
          cases r with
          | nil =>
            obtain ⟨j, hj⟩ := sweetenFields_iter_dangling_matches_source P args skip ev0 i seen acc junk a hlen'
              (by simp at hal; omega) hidx hf he
              (exec (X P) (fuel + (m + 1))) (exec (X P) (fuel + (m + 1)) sweetenFields_loop0)
            rw [hj, sweepV_dangling P _ _ a hf he]
            exact ⟨i, seen, j, by simp [ResV.append]⟩
          | cons v r' =>
            have hidx2 : indexVal (.list args) (.int ((i : Int) + 1)) = .ok v := indexVal_of_drop args (i + 1) v r' hr
            have hr' := drop_succ_of_drop args (i + 1) v r' hr
            obtain ⟨j, hj⟩ := sweetenFields_iter_pair_matches_source P hcap args skip ev0 i seen acc junk a v hlen'
              (by simp at hal; omega) hidx hidx2 hf he
              (exec (X P) (fuel + (m + 1))) (exec (X P) (fuel + (m + 1)) sweetenFields_loop0)
            rw [hj, hrec, sweepV_pair P _ _ a v r' hf he, ← hr']
            have := ih (i + 2) seen
              (match P.asStr a with
               | some s => ⟨acc.fields ++ [anyF s v], acc.diags, acc.invalid⟩
               | none => ⟨acc.fields, acc.diags, acc.invalid ++ [.list [.int i, a, v]]⟩) j fuel (by simp at hal; omega)
            cases hs : P.asStr a
            · rw [append_cons3]; rw [hs] at this; exact this
            · rw [append_cons1]; rw [hs] at this; exact this

end ZapVerif.TransSweeten
