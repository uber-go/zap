import ZapVerif.Proofs.GoMini
/-! Fuel monotonicity of the GoMini interpreter: an execution that does not run out of fuel is unchanged by more
    fuel.  (The `…_matches_source` theorems are stated for `fuel + k`, i.e. for every amount of fuel from a bound on;
    this is the generic fact behind that shape, and it makes `Out.oof` the only fuel-dependent outcome.)

    `execS X r s σ` is a combinator (`andThen`, `loopBody`, `retK`, …) applied to the outcome of a sub-statement, and every
    combinator is strict in `.oof`: if the whole is not `.oof`, neither is the part, so the induction hypothesis rewrites the
    part, and the `…_mono` lemmas below carry the agreement through the continuation. -/
namespace ZapVerif.GoMini

/-- `r'` agrees with `r` wherever `r` does not run out of fuel -/
def RecLe (r r' : Stmt → State → Out) : Prop := ∀ s σ, r s σ ≠ .oof → r' s σ = r s σ

theorem Out.andThen_mono {o : Out} {k k' : State → Out} (hk : ∀ σ, k σ ≠ .oof → k' σ = k σ)
    (h : o.andThen k ≠ .oof) : o.andThen k' = o.andThen k := by
  cases o <;> first | rfl | exact hk _ h

theorem Out.loopBody_mono {o : Out} {k k' : State → Out} (hk : ∀ σ, k σ ≠ .oof → k' σ = k σ)
    (h : o.loopBody k ≠ .oof) : o.loopBody k' = o.loopBody k := by
  cases o <;> first | rfl | exact hk _ h

theorem Out.loopPost_mono {o : Out} {k k' : State → Out} (hk : ∀ σ, k σ ≠ .oof → k' σ = k σ)
    (h : o.loopPost k ≠ .oof) : o.loopPost k' = o.loopPost k := by
  cases o <;> first | rfl | exact hk _ h

theorem rangeRun_mono (b b' : State → Out) (k v : LV) (hb : ∀ σ, b σ ≠ .oof → b' σ = b σ) :
    ∀ (xs : List Val) (i : Nat) (σ : State), rangeRun b k v xs i σ ≠ .oof → rangeRun b' k v xs i σ = rangeRun b k v xs i σ
  | [], _, _, _ => rfl
  | x :: xs, i, σ, hne => by
    simp only [rangeRun] at hne ⊢
    have hx : b ((σ.assign1 k (.int i)).assign1 v x) ≠ .oof := fun e => hne (by rw [e])
    rw [hb _ hx]
    cases hbo : b ((σ.assign1 k (.int i)).assign1 v x) <;> first
      | rfl
      | (rw [hbo] at hne; exact rangeRun_mono b b' k v hb xs (i + 1) _ hne)

mutual
theorem execS_mono (X : Ctx) (r r' : Stmt → State → Out) (h : RecLe r r') :
    ∀ (s : Stmt) (σ : State), execS X r s σ ≠ .oof → execS X r' s σ = execS X r s σ
  | .skip, σ, _ => by simp
  | .brk, σ, _ => by simp
  | .cont, σ, _ => by simp
  | .assign lhs rhs, σ, _ => by simp only [execS_assign]
  | .callX lhs f args, σ, _ => by simp only [execS_callX]
  | .ret es, σ, _ => by simp only [execS_ret]
  | .seq a b, σ, hne => by
    rw [execS_seq] at hne ⊢
    rw [execS_seq, execS_mono X r r' h a σ fun e => hne (by rw [e]; rfl)]
    exact Out.andThen_mono (fun σ' => execS_mono X r r' h b σ') hne
  | .ite c t e, σ, hne => by
    rw [execS_ite] at hne ⊢
    rw [execS_ite]
    cases hc : evalE X σ c with
    | panic p => rfl
    | stuck w => rfl
    | ok v =>
      rw [hc] at hne
      cases v with
      | bool b =>
        cases b
        · exact execS_mono X r r' h e σ hne
        · exact execS_mono X r r' h t σ hne
      | int _ => rfl
      | bytes _ => rfl
      | list _ => rfl
  | .switch tag cs, σ, hne => by
    rw [execS_switch] at hne ⊢
    rw [execS_switch]
    cases hc : evalE X σ tag with
    | panic p => rfl
    | stuck w => rfl
    | ok v =>
      rw [hc] at hne
      show (execC X r' v cs σ).catchBrk = (execC X r v cs σ).catchBrk
      rw [execC_mono X r r' h v cs σ fun e => hne (by simp only [Res.out_ok]; rw [e]; rfl)]
  | .call lhs f args, σ, hne => by
    rw [execS_call] at hne ⊢
    rw [execS_call]
    cases hc : evalEs X σ args with
    | panic p => rfl
    | stuck w => rfl
    | ok vs =>
      rw [hc] at hne
      simp only [Res.out_ok] at hne ⊢
      cases hf : X.funs f with
      | none => rfl
      | some fn =>
        rw [hf] at hne
        by_cases hl : fn.params.length = vs.length
        · simp only [hl, if_true] at hne ⊢
          rw [h fn.body _ fun e => hne (by rw [e]; rfl)]
        · simp only [hl, if_false]
  | .loop c post body, σ, hne => by
    rw [execS_loop] at hne ⊢
    rw [execS_loop]
    cases hc : evalE X σ c with
    | panic p => rfl
    | stuck w => rfl
    | ok v =>
      rw [hc] at hne
      cases v with
      | int _ => rfl
      | bytes _ => rfl
      | list _ => rfl
      | bool b =>
        cases b
        · rfl
        · simp only [Res.out_ok, condK_bool, if_true] at hne ⊢
          rw [execS_mono X r r' h body σ fun e => hne (by rw [e]; rfl)]
          refine Out.loopBody_mono (fun σ' hne' => ?_) hne
          rw [execS_mono X r r' h post σ' fun e => hne' (by rw [e]; rfl)]
          exact Out.loopPost_mono (h _) hne'
  | .range k v xs body, σ, hne => by
    rw [execS_range] at hne ⊢
    rw [execS_range]
    cases hc : evalE X σ xs with
    | panic p => rfl
    | stuck w => rfl
    | ok val =>
      rw [hc] at hne
      cases val with
      | int _ => rfl
      | bool _ => rfl
      | list vs => exact rangeRun_mono _ _ k v (fun σ' => execS_mono X r r' h body σ') vs 0 σ hne
      | bytes bs => exact rangeRun_mono _ _ k v (fun σ' => execS_mono X r r' h body σ') _ 0 σ hne
theorem execC_mono (X : Ctx) (r r' : Stmt → State → Out) (h : RecLe r r') (tag : Val) :
    ∀ (cs : Cases) (σ : State), execC X r tag cs σ ≠ .oof → execC X r' tag cs σ = execC X r tag cs σ
  | .default body, σ, hne => by
    rw [execC_default] at hne ⊢
    rw [execC_default]
    exact execS_mono X r r' h body σ hne
  | .case vals body rest, σ, hne => by
    rw [execC_case] at hne ⊢
    rw [execC_case]
    cases hm : matchCase X σ tag vals with
    | panic p => rfl
    | stuck w => rfl
    | ok b =>
      rw [hm] at hne
      cases b
      · exact execC_mono X r r' h tag rest σ hne
      · exact execS_mono X r r' h body σ hne
end

theorem exec_succ_mono (X : Ctx) : ∀ fuel, RecLe (exec X fuel) (exec X (fuel + 1))
  | 0 => fun _ _ hne => absurd rfl hne
  | fuel + 1 => fun s σ hne => execS_mono X _ _ (exec_succ_mono X fuel) s σ hne

theorem exec_mono (X : Ctx) (fuel extra : Nat) (s : Stmt) (σ : State) (h : exec X fuel s σ ≠ .oof) :
    exec X (fuel + extra) s σ = exec X fuel s σ := by
  induction extra with
  | zero => rfl
  | succ n ih =>
    rw [← Nat.add_assoc, exec_succ_mono X (fuel + n) s σ (by rw [ih]; exact h), ih]

end ZapVerif.GoMini
