import ZapVerif.Proofs.GoMini
import ZapVerif.Model.TransMultiWSX
/-! Lookup facts and the pure list lemmas for the `…_matches_source` theorems of Props/C13.lean about
    Gen/TransMultiWS.lean.  Nothing here depends on the shape of the generated terms. -/
namespace ZapVerif.TransMultiWS
open ZapVerif ZapVerif.GoMini ZapVerif.Writers ZapVerif.Gen.TransMultiWS

@[simp] theorem X_funs : X.funs = funs := rfl
@[simp] theorem X_ext : X.ext = ext := rfl
@[simp] theorem ext_write (n : Int) (e s : List Val) (p : Bytes) :
    ext "sink.Write" [sinkV n e s, .bytes p] = some [.int n, .list e] := by
  table_lookup ext ext.match_1; rfl
@[simp] theorem ext_sync (n : Int) (e s : List Val) : ext "sink.Sync" [sinkV n e s] = some [.list s] := by
  table_lookup ext ext.match_1; rfl
@[simp] theorem bi_sync (a : List Val) : builtin "sink.Sync" a = none := builtin_none _ _ (by simp)

/-- the error list a scripted sink returns: sink `j` fails with the error id `j` -/
def errIf (b : Bool) (j : Nat) : List Val := if b then [.int j] else []

theorem sinksOf_eq (outs : List Writers.Out) :
    sinksOf outs = outs.zipIdx.map fun q => sinkV q.1.n (errIf q.1.err q.2) [] := rfl

theorem map_filter_errIf {α : Type} (b : α → Bool) (j : α → Nat) (l : List α) :
    ((l.filter b).map j).map (fun i : Nat => Val.int i) = l.flatMap fun q => errIf (b q) (j q) := by
  induction l with
  | nil => rfl
  | cons q l ih => cases h : b q <;> simp [errIf, h, ih]

/-- the loop of `multiWriteSyncer.Write` as a plain fold: (count, errors, call record) -/
def wstep (p : Bytes) (a : Nat × List Val × List Val) (i : Nat) (y : Writers.Out × Nat) : Nat × List Val × List Val :=
  (if i = 0 ∨ y.1.n < a.1 then y.1.n else a.1,
   a.2.1 ++ errIf y.1.err y.2,
   a.2.2 ++ [.list [traceName, sinkV y.1.n (errIf y.1.err y.2) [], .bytes p]])

/-- the fold the interpreter performs, started at position `k` -/
def wfold (p : Bytes) (outs : List Writers.Out) (k : Nat) (s : Nat × List Val × List Val) : Nat × List Val × List Val :=
  ((outs.zipIdx k).zipIdx k).foldl (fun a q => wstep p a q.2 q.1) s

theorem wfold_cons (p : Bytes) (o : Writers.Out) (outs : List Writers.Out) (k : Nat) (s : Nat × List Val × List Val) :
    wfold p (o :: outs) k s = wfold p outs (k + 1) (wstep p s k (o, k)) := by
  simp [wfold, List.zipIdx_cons]

/-- after `k` sinks the interpreter's loop variables `s` describe the model's accumulator `a`: Go's `i == 0` test
    stands for "no count yet", and the sink's position is the error id -/
def Sim (k : Nat) (a : Acc) (s : Nat × List Val × List Val) : Prop :=
  a.idx = k ∧ a.count = (if k = 0 then none else some s.1) ∧ a.errs.map (fun i : Nat => Val.int i) = s.2.1

theorem Sim.step {p : Bytes} {k : Nat} {a : Acc} {s : Nat × List Val × List Val} (h : Sim k a s) (o : Writers.Out) :
    Sim (k + 1) (multiStep p a o) (wstep p s k (o, k)) := by
  obtain ⟨hi, hc, he⟩ := h
  refine ⟨by simp [multiStep, hi], ?_, ?_⟩
  · by_cases hk : k = 0
    · simp [multiStep, wstep, hc, hk]
    · simp only [multiStep, wstep, hc, hk, if_false, false_or, Nat.succ_ne_zero, Option.some.injEq]
      split <;> omega
  · cases ho : o.err <;> simp [multiStep, wstep, errIf, ho, he, hi]

theorem Sim.fold (p : Bytes) : ∀ (outs : List Writers.Out) {k : Nat} {a : Acc} {s : Nat × List Val × List Val},
    Sim k a s → Sim (k + outs.length) (outs.foldl (multiStep p) a) (wfold p outs k s)
  | [], _, _, _, h => h
  | o :: outs, k, _, _, h => by
    rw [wfold_cons, List.foldl_cons, List.length_cons, ← Nat.add_assoc, Nat.add_right_comm]
    exact Sim.fold p outs (h.step o)

theorem wfold_writes (p : Bytes) : ∀ (outs : List Writers.Out) (k : Nat) (s : Nat × List Val × List Val),
    (wfold p outs k s).2.2 = s.2.2 ++ (outs.zipIdx k).map fun q =>
      Val.list [traceName, sinkV q.1.n (errIf q.1.err q.2) [], .bytes p]
  | [], _, _ => by simp [wfold]
  | o :: outs, k, s => by
    rw [wfold_cons, wfold_writes p outs (k + 1)]
    simp [wstep, List.zipIdx_cons]

theorem wfold_multiWrite (p : Bytes) (outs : List Writers.Out) :
    (wfold p outs 0 (0, [], [])).1 = (multiWrite p outs).1 ∧
    (wfold p outs 0 (0, [], [])).2.1 = (multiWrite p outs).2.map (fun i : Nat => Val.int i) ∧
    (wfold p outs 0 (0, [], [])).2.2 = (sinksOf outs).map fun s => Val.list [traceName, s, .bytes p] := by
  obtain ⟨_, hc, he⟩ := Sim.fold p outs (k := 0) (a := {}) (s := (0, [], [])) ⟨rfl, rfl, rfl⟩
  refine ⟨?_, he.symm, ?_⟩
  · simp only [multiWrite, multiRun, hc]
    cases outs with
    | nil => rfl
    | cons o r => simp
  · rw [wfold_writes, sinksOf_eq]; simp [List.map_map, Function.comp_def]

end ZapVerif.TransMultiWS
