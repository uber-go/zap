import ZapVerif.Proofs.Pools
/-! C08: ownership of buffers across whole operations (`Fresh`, `Pooled`, `Quiet`); the bodies of `EncodeEntry` and
    `Clone` against their pure counterparts. -/
namespace ZapVerif.Pools
open ZapVerif ZapVerif.Json ZapVerif.Enc ZapVerif.Entry

/-- the ids in `pool` and `owned` are pairwise distinct and below `next`: the discipline of a heap whose objects are
    either pooled or held by one owner (buffers: `Owns`; checked entries: the pool and the running hooks) -/
def Fresh (pool owned : List Nat) (next : Nat) : Prop :=
  (pool ++ owned).Nodup ∧ ∀ x ∈ pool ++ owned, x < next

theorem fresh_iff {pool owned : List Nat} {next : Nat} :
    Fresh pool owned next ↔
      (pool.Nodup ∧ ∀ x ∈ pool, x < next) ∧ owned.Nodup ∧ ∀ x ∈ owned, x ∉ pool ∧ x < next := by
  simp only [Fresh, List.nodup_append, List.mem_append]
  constructor
  · rintro ⟨⟨n1, n2, n3⟩, lt⟩
    exact ⟨⟨n1, fun x hx => lt x (Or.inl hx)⟩, n2, fun x hx => ⟨fun hp => n3 x hp x hx rfl, lt x (Or.inr hx)⟩⟩
  · rintro ⟨⟨n1, lt⟩, n2, ho⟩
    exact ⟨⟨n1, n2, fun x hp y hy e => (ho y hy).1 (e ▸ hp)⟩, fun x hx => hx.elim (lt x) fun hx => (ho x hx).2⟩

theorem Fresh.perm {p o p' o' : List Nat} {n n' : Nat} (h : Fresh p o n) (hp : (p' ++ o').Perm (p ++ o)) (hn : n ≤ n') :
    Fresh p' o' n' :=
  ⟨hp.symm.nodup h.1, fun x hx => Nat.lt_of_lt_of_le (h.2 x (hp.mem_iff.1 hx)) hn⟩

theorem Fresh.sublist {p o p' o' : List Nat} {n n' : Nat} (h : Fresh p o n) (hs : (p' ++ o').Sublist (p ++ o)) (hn : n ≤ n') :
    Fresh p' o' n' :=
  ⟨h.1.sublist hs, fun x hx => Nat.lt_of_lt_of_le (h.2 x (hs.subset hx)) hn⟩

theorem Fresh.put {p l1 l2 : List Nat} {b n : Nat} (h : Fresh p (l1 ++ b :: l2) n) : Fresh (b :: p) (l1 ++ l2) n := by
  refine h.perm ?_ (Nat.le_refl _)
  show (b :: p ++ (l1 ++ l2)).Perm (p ++ (l1 ++ b :: l2))
  rw [← List.append_assoc, ← List.append_assoc]
  exact List.perm_middle.symm

theorem Fresh.take {p o : List Nat} {b n : Nat} (h : Fresh p o n) (hb : b ∈ p) : Fresh (p.erase b) (b :: o) n :=
  h.perm (List.perm_middle.trans ((List.perm_cons_erase hb).symm.append_right o)) (Nat.le_refl _)

theorem Fresh.alloc {p o : List Nat} {n : Nat} (h : Fresh p o n) : Fresh p (n :: o) (n + 1) :=
  ⟨List.perm_middle.symm.nodup (List.nodup_cons.2 ⟨fun hm => Nat.lt_irrefl _ (h.2 n hm), h.1⟩), fun x hx => by
    rcases List.mem_cons.1 (List.perm_middle.mem_iff.1 hx) with rfl | hx
    · exact Nat.lt_succ_self _
    · exact Nat.lt_succ_of_lt (h.2 x hx)⟩

theorem owns_iff {h : H} {owned : List Nat} :
    Owns h owned ↔ PoolOK h ∧ owned.Nodup ∧ ∀ x ∈ owned, x ∉ h.bufPool ∧ x < h.next := fresh_iff

theorem Owns.poolOK {h : H} {owned : List Nat} (o : Owns h owned) : PoolOK h := (owns_iff.1 o).1

theorem owns_bufGet (orc : Orc) (h : H) (owned : List Nat) (ho : Owns h owned) :
    Owns (bufGet orc h).2 ((bufGet orc h).1 :: owned) ∧ (∀ i ∈ owned, (bufGet orc h).2.mem i = h.mem i) ∧
    (bufGet orc h).2.mem (bufGet orc h).1 = [] ∧ SameRest h (bufGet orc h).2 ∧ (bufGet orc h).2.fault = h.fault := by
  have g := bufGet_spec orc h ho.poolOK
  generalize (bufGet orc h).1 = b at g
  generalize (bufGet orc h).2 = h' at g
  obtain ⟨-, nd, hx⟩ := owns_iff.1 ho
  have hbo : b ∉ owned := fun hb => g.src.elim (hx b hb).1 fun e => Nat.lt_irrefl _ (e ▸ (hx b hb).2)
  refine ⟨owns_iff.2 ⟨g.ok, List.nodup_cons.2 ⟨hbo, nd⟩, ?_⟩, fun i hi => g.frame i fun e => hbo (e ▸ hi), g.empty, g.rest,
    g.fault⟩
  intro x hx'
  rcases List.mem_cons.1 hx' with rfl | hx'
  · exact ⟨g.notPooled, g.alloc⟩
  · exact ⟨fun hc => (hx x hx').1 (g.sub x hc), Nat.lt_of_lt_of_le (hx x hx').2 g.next_le⟩

theorem owns_bufFree (h : H) (b : Nat) (l1 l2 : List Nat) (ho : Owns h (l1 ++ b :: l2)) : Owns (bufFree h b) (l1 ++ l2) :=
  Fresh.put ho

/-- what an operation on pooled objects works under -/
structure Pooled (h : H) (owned : List Nat) : Prop where
  json : ∀ o ∈ h.jsonPool, o.PutInv
  slice : ∀ a ∈ h.slicePool, a.PutInv
  owns : Owns h owned
  nofault : h.fault = false

/-- what a history sees of a heap besides the buffers -/
def hist (h : H) := (h.ceh, h.stackPool, h.inflight, h.live, h.out, h.liveMeta)

def Quiet (h h' : H) : Prop := hist h' = hist h

theorem Quiet.trans {a b c : H} (p : Quiet a b) (q : Quiet b c) : Quiet a c := Eq.trans q p
theorem Quiet.ceh {h h' : H} (q : Quiet h h') : h'.ceh = h.ceh := congrArg (·.1) q
theorem Quiet.stackPool {h h' : H} (q : Quiet h h') : h'.stackPool = h.stackPool := congrArg (·.2.1) q
theorem Quiet.inflight {h h' : H} (q : Quiet h h') : h'.inflight = h.inflight := congrArg (·.2.2.1) q
theorem Quiet.live {h h' : H} (q : Quiet h h') : h'.live = h.live := congrArg (·.2.2.2.1) q
theorem Quiet.out {h h' : H} (q : Quiet h h') : h'.out = h.out := congrArg (·.2.2.2.2.1) q
theorem Quiet.liveMeta {h h' : H} (q : Quiet h h') : h'.liveMeta = h.liveMeta := congrArg (·.2.2.2.2.2) q

theorem SameRest.quiet {h h' : H} (r : SameRest h h') : Quiet h h' := by
  obtain ⟨-, -, r3, -, -, r6, r7, r8, r9, r10⟩ := r
  unfold Quiet hist
  rw [r3, r6, r7, r8, r9, r10]

theorem pooled_bufGet (orc : Orc) {h : H} {owned : List Nat} (hp : Pooled h owned) :
    Pooled (bufGet orc h).2 ((bufGet orc h).1 :: owned) ∧ Quiet h (bufGet orc h).2 ∧
    (bufGet orc h).2.mem (bufGet orc h).1 = [] ∧ ∀ i ∈ owned, (bufGet orc h).2.mem i = h.mem i := by
  obtain ⟨o1, fr, em, rest, fl⟩ := owns_bufGet orc h owned hp.owns
  exact ⟨⟨rest.1 ▸ hp.json, rest.2.1 ▸ hp.slice, o1, fl.trans hp.nofault⟩, rest.quiet, em, fr⟩

theorem cloneFrom_facts (orc : Orc) (h : H) (g : JsonObj) (p : Parent) (owned : List Nat) (ho : Owns h owned)
    (hinv : g.PutInv) (hf : h.fault = false) :
    ∃ b, Sim b p.spaced (cfgCheck (cloneFrom Code.real orc h g p) p) ⟨[], p.openNs⟩ ∧
      (cfgCheck (cloneFrom Code.real orc h g p) p).o.reflectBuf = none ∧
      Owns (cfgCheck (cloneFrom Code.real orc h g p) p).h (b :: owned) ∧
      (∀ i ∈ owned, (cfgCheck (cloneFrom Code.real orc h g p) p).h.mem i = h.mem i) ∧
      SameRest h (cfgCheck (cloneFrom Code.real orc h g p) p).h := by
  obtain ⟨o2, fr, em, rest, fl⟩ := owns_bufGet orc h owned ho
  have hc : cfgCheck (cloneFrom Code.real orc h g p) p = ⟨(bufGet orc h).2,
      { g with cfg := some p.cfg, spaced := p.spaced, openNs := p.openNs, buf := some (bufGet orc h).1 }⟩ := by
    simp [cfgCheck, cloneFrom, Code.real]
  rw [hc]
  obtain ⟨hnp, hlt⟩ := (owns_iff.1 o2).2.2 _ (List.mem_cons_self ..)
  exact ⟨_, ⟨⟨rfl, hlt, hnp, fun rb hrb => by simp [hinv.2] at hrb, o2.poolOK, fl.trans hf⟩, rfl, em, rfl⟩, hinv.2, o2, fr, rest⟩

theorem ext_owned {b : Nat} {s0 s : ES} {owned : List Nat} (ho : Owns s0.h (b :: owned))
    (hr : s0.o.reflectBuf = none) (e : Ext b s0 s) :
    Owns s.h (s.o.reflectBuf.toList ++ b :: owned) ∧ ∀ i ∈ owned, s.h.mem i = s0.h.mem i := by
  obtain ⟨-, nd, hx⟩ := owns_iff.1 ho
  have hbo : b ∉ owned := (List.nodup_cons.1 nd).1
  have hx0 : ∀ i ∈ owned, i ∉ s0.h.bufPool ∧ i < s0.h.next := fun i hi => hx i (List.mem_cons_of_mem _ hi)
  have hx1 : ∀ i ∈ b :: owned, i ∉ s.h.bufPool ∧ i < s.h.next := by
    intro i hi
    rcases List.mem_cons.1 hi with rfl | hi
    · exact ⟨e.sep'.notPooled, e.sep'.alloc⟩
    · exact ⟨fun hc => (hx0 i hi).1 (e.pool_sub i hc), Nat.lt_of_lt_of_le (hx0 i hi).2 e.next_le⟩
  refine ⟨?_, fun i hi => e.frame i (hx0 i hi).2 (hx0 i hi).1 (fun e => hbo (e ▸ hi)) (by simp [hr])⟩
  cases hrb : s.o.reflectBuf with
  | none => exact owns_iff.2 ⟨e.sep'.ok, nd, hx1⟩
  | some rb =>
    obtain ⟨-, q2, q3, q4⟩ := e.sep'.refl rb hrb
    -- a reflection buffer was taken from the pool or from fresh memory during the run
    have q5 : rb ∉ owned := fun hi =>
      (e.refl_src rb hrb).elim (fun h => by rw [hr] at h; cases h)
        fun h => h.elim (hx0 rb hi).1 fun h => Nat.lt_irrefl _ (Nat.lt_of_lt_of_le (hx0 rb hi).2 h)
    refine owns_iff.2 ⟨e.sep'.ok, List.nodup_cons.2 ⟨fun hm => ?_, nd⟩, fun x hx' => ?_⟩
    · exact (List.mem_cons.1 hm).elim q2 q5
    · rcases List.mem_cons.1 hx' with rfl | hx'
      · exact ⟨q4, q3⟩
      · exact hx1 x hx'

theorem clone_run (orc : Orc) (h : H) (p : Parent) (owned : List Nat) (hp : Pooled h owned) :
    ∃ b, Sim b p.spaced (cfgCheck (clone Code.real orc h p) p) ⟨[], p.openNs⟩ ∧
      ∀ s, Ext b (cfgCheck (clone Code.real orc h p) p) s →
        s.o.buf = some b ∧ Pooled s.h (s.o.reflectBuf.toList ++ b :: owned) ∧ Quiet h s.h ∧
        ∀ i ∈ owned, s.h.mem i = h.mem i := by
  have hg := takeAt_fst JsonObj.fresh h.jsonPool (orc h.tick)
  have hg2 := takeAt_snd JsonObj.fresh h.jsonPool (orc h.tick)
  unfold clone
  simp only []
  generalize takeAt JsonObj.fresh h.jsonPool (orc h.tick) = g at hg hg2
  have hinv : g.1.PutInv := by
    rcases hg with e | e
    · rw [e]; exact ⟨rfl, rfl⟩
    · exact hp.json _ e
  obtain ⟨b, hs0, r0, o0, fr0, rest0⟩ :=
    cloneFrom_facts orc { h with jsonPool := g.2, tick := h.tick + 1 } g.1 p owned hp.owns hinv hp.nofault
  refine ⟨b, hs0, fun s e => ?_⟩
  obtain ⟨o7, fr7⟩ := ext_owned o0 r0 e
  have rest := rest0.trans e.rest
  refine ⟨e.sep'.buf, ⟨fun o ho => ?_, rest.2.1 ▸ hp.slice, o7, e.sep'.nofault⟩, rest.quiet,
    fun i hi => (fr7 i hi).trans (fr0 i hi)⟩
  rw [rest.1] at ho
  exact hp.json o (hg2 o ho)

theorem putJson_real (h : H) (o : JsonObj) :
    putJson Code.real h o =
      { (match o.reflectBuf with | some rb => bufFree h rb | none => h) with
        jsonPool := JsonObj.fresh :: h.jsonPool } := by
  cases hrb : o.reflectBuf <;> simp [putJson, hrb, Code.real, JsonObj.fresh, bufFree]

theorem pooled_putJson {h : H} {o : JsonObj} {owned : List Nat} (hp : Pooled h (o.reflectBuf.toList ++ owned)) :
    Pooled (putJson Code.real h o) owned ∧ Quiet h (putJson Code.real h o) ∧ (putJson Code.real h o).mem = h.mem := by
  have hj : ∀ x ∈ JsonObj.fresh :: h.jsonPool, x.PutInv := fun x hx =>
    (List.mem_cons.1 hx).elim (fun e => e ▸ ⟨rfl, rfl⟩) (hp.json x)
  have ho := hp.owns
  rw [putJson_real]
  cases hrb : o.reflectBuf with
  | none => rw [hrb] at ho; exact ⟨⟨hj, hp.slice, ho, hp.nofault⟩, rfl, rfl⟩
  | some rb =>
    rw [hrb] at ho
    exact ⟨⟨hj, hp.slice, owns_bufFree h rb [] owned ho, hp.nofault⟩, rfl, rfl⟩

theorem ite_ok {b : Nat} {sp : Bool} {s s' : ES} {e e' : Enc.Enc} (c : Prop) [Decidable c] (hs : Sim b sp s e)
    (r : RunOK b s s' e') : RunOK b s (if c then s else s') (if c then e else e') := by
  split
  · exact ⟨Ext.refl' hs.sep, hs.buf, hs.ns⟩
  · exact r

theorem encodeBody_spec (orc : Orc) {b : Nat} {s0 : ES} (p : Parent) (j : Job) (hs : Sim b p.spaced s0 ⟨[], p.openNs⟩) :
    Ext b s0 (encodeBody orc s0 p j) ∧ (encodeBody orc s0 p j).h.mem b = pureJson p j := by
  unfold encodeBody pureJson encodeEntry
  simp only []
  generalize p.spaced = sp at hs ⊢
  have r2 : RunOK b s0 _ (runO sp ⟨[123], p.openNs⟩ (eraseO j.metaCalls)) :=
    (wr_ok hs (· ++ [123])).andThen hs (runOH_ok orc j.metaCalls)
  generalize runOH orc (wr s0 (· ++ [123])) j.metaCalls = s2 at r2 ⊢
  -- the context bytes are written with the spacing of the object
  obtain rfl := (r2.sim hs).spaced
  have r3 := r2.andThen hs fun q => ite_ok p.ctx.isEmpty q (wr_ok q fun x => sep s2.o.spaced x ++ p.ctx)
  have r7 := (((r3.andThen hs (runOH_ok orc j.fields)).andThen hs closeNs_ok).andThen hs (runOH_ok orc j.stack)).andThen hs
    (wr_ok · (· ++ 125 :: j.ending))
  exact ⟨r7.1, r7.2.1⟩

theorem cloneBody_spec (orc : Orc) {b : Nat} {s0 : ES} (p : Parent) (fields : List RO)
    (hs : Sim b p.spaced s0 ⟨[], p.openNs⟩) : RunOK b s0 (cloneBody orc s0 p fields) (pureCtx p fields) :=
  (wr_ok hs (· ++ p.ctx)).andThen hs (runOH_ok orc fields)

end ZapVerif.Pools
