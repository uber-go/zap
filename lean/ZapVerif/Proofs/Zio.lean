import ZapVerif.Model.Zio
/-! The fuelled scan `feed` is the line splitter `lines`, and `lines` distributes over `++` (`lines_append`): so a session
depends on the concatenated stream only.  `specT` is the specification when the level may change between calls. -/
namespace ZapVerif.Zio

theorem lines_nl (cur r : Bytes) :
    lines cur (10 :: r) = ((cur :: (lines [] r).1), (lines [] r).2) := by
  simp [lines]

theorem lines_other (cur r : Bytes) (x : UInt8) (hx : x ≠ 10) :
    lines cur (x :: r) = lines (cur ++ [x]) r := by
  simp [lines, hx]

theorem lines_no_nl (cur l s : Bytes) (h : ∀ b ∈ l, b ≠ 10) : lines cur (l ++ s) = lines (cur ++ l) s := by
  induction l generalizing cur with
  | nil => simp
  | cons x r ih =>
    have hx : x ≠ 10 := h x (by simp)
    rw [List.cons_append, lines_other _ _ _ hx, ih _ (fun b hb => h b (by simp [hb]))]
    simp

theorem takeWhile_no_nl (bs : Bytes) : ∀ b ∈ bs.takeWhile (fun b => b != 10), b ≠ 10 := by
  induction bs with
  | nil => simp
  | cons x r ih =>
    intro b hb
    by_cases hx : x = 10
    · subst hx; simp [List.takeWhile] at hb
    · have : (x != 10) = true := by simpa using hx
      simp only [List.takeWhile, this] at hb
      rcases List.mem_cons.mp hb with rfl | hb
      · exact hx
      · exact ih b hb

theorem dropWhile_head_nl (bs : Bytes) : ∀ c r, bs.dropWhile (fun b => b != 10) = c :: r → c = 10 := by
  induction bs with
  | nil => simp
  | cons x t ih =>
    intro c r h
    by_cases hx : x = 10
    · subst hx
      simp [List.dropWhile] at h
      exact h.1.symm
    · have : (x != 10) = true := by simpa using hx
      simp only [List.dropWhile, this] at h
      exact ih c r h

theorem span_spec (bs : Bytes) :
    bs = bs.takeWhile (fun b => b != 10) ++ bs.dropWhile (fun b => b != 10) ∧
    (∀ b ∈ bs.takeWhile (fun b => b != 10), b ≠ 10) ∧
    (∀ c r, bs.dropWhile (fun b => b != 10) = c :: r → c = 10) :=
  ⟨(List.takeWhile_append_dropWhile).symm, takeWhile_no_nl bs, dropWhile_head_nl bs⟩

theorem feed_eq_lines (fuel : Nat) (buff s : Bytes) (hf : s.length < fuel) : feed fuel buff s = lines buff s := by
  induction fuel generalizing buff s with
  | zero => omega
  | succ f ih =>
    obtain ⟨hsplit, hno, hhead⟩ := span_spec s
    simp only [feed]
    generalize s.takeWhile (fun b => b != 10) = l at hsplit hno
    cases hd : s.dropWhile (fun b => b != 10) with
    | nil =>
      rw [hd] at hsplit
      simp only []
      rw [hsplit, List.append_nil]
      have := lines_no_nl buff l [] hno
      simp only [List.append_nil] at this
      rw [this]; simp [lines]
    | cons c r =>
      rw [hd] at hsplit
      have hc : c = 10 := hhead c r hd
      subst hc
      have hlen : r.length < f := by
        have : s.length = l.length + (r.length + 1) := by rw [hsplit]; simp
        omega
      simp only []
      rw [ih [] r hlen]
      conv => rhs; rw [hsplit]
      rw [lines_no_nl buff l _ hno, lines_nl]
      cases buff <;> simp

theorem lines_append (cur a b : Bytes) :
    lines cur (a ++ b) = ((lines cur a).1 ++ (lines (lines cur a).2 b).1, (lines (lines cur a).2 b).2) := by
  induction a generalizing cur with
  | nil => simp [lines]
  | cons x r ih =>
    simp only [List.cons_append]
    by_cases hx : x = 10
    · subst hx; rw [lines_nl, lines_nl, ih]; simp
    · rw [lines_other _ _ _ hx, lines_other _ _ _ hx, ih]

theorem run_eq_lines (buff : Bytes) (chunks : List Bytes) :
    run buff chunks = lines buff chunks.flatten := by
  induction chunks generalizing buff with
  | nil => simp [run, lines]
  | cons c cs ih =>
    simp only [run, write, List.flatten_cons]
    rw [feed_eq_lines _ _ _ (Nat.lt_succ_self _), lines_append, ih]

theorem linesEv_nl (cur : Bytes) (r : List Ev) :
    linesEv cur (.byte 10 :: r) = ((cur :: (linesEv [] r).1), (linesEv [] r).2) := by
  simp [linesEv]

theorem linesEv_other (cur : Bytes) (r : List Ev) (x : UInt8) (hx : x ≠ 10) :
    linesEv cur (.byte x :: r) = linesEv (cur ++ [x]) r := by
  simp [linesEv, hx]

theorem linesEv_mark (cur : Bytes) (r : List Ev) :
    linesEv cur (.mark :: r) = ((if cur.isEmpty then [] else [cur]) ++ (linesEv [] r).1, (linesEv [] r).2) := by
  simp [linesEv]

theorem linesEv_bytes_append (cur bs : Bytes) (r : List Ev) :
    linesEv cur (bs.map Ev.byte ++ r) =
      ((lines cur bs).1 ++ (linesEv (lines cur bs).2 r).1, (linesEv (lines cur bs).2 r).2) := by
  induction bs generalizing cur with
  | nil => simp [lines]
  | cons x t ih =>
    simp only [List.map_cons, List.cons_append]
    by_cases hx : x = 10
    · subst hx; rw [linesEv_nl, lines_nl, ih]; simp
    · rw [linesEv_other _ _ _ hx, lines_other _ _ _ hx, ih]

theorem events_append (a b : List Step) : events (a ++ b) = events a ++ events b := by
  induction a with
  | nil => simp [events]
  | cons s r ih => cases s <;> simp [events, ih]

theorem allEnabled_append (a b : List Step) : allEnabled (a ++ b) = (allEnabled a && allEnabled b) := by
  induction a with
  | nil => simp [allEnabled]
  | cons s r ih => cases s <;> simp [allEnabled, ih]

/-- every Write reports all bytes, nil error -/
theorem runSteps_rets (w : W) (steps : List Step) :
    ∀ r ∈ (runSteps w steps).2.2, r.2 = false := by
  induction steps generalizing w with
  | nil => simp [runSteps]
  | cons s r ih =>
    intro x hx
    simp only [runSteps] at hx
    rcases List.mem_append.mp hx with h | h
    · cases s with
      | write bs =>
        simp only [step] at h
        split at h <;> simp at h <;> simp [h]
      | sync => simp [step] at h
      | enable on => simp [step] at h
    · exact ih _ x h

/-- events of a session when the level may change under the writer -/
inductive EvT where
  | byte (b : UInt8)
  | mark
  | toggle (on : Bool)

def eventsT : List Step → List EvT
  | [] => []
  | .write bs :: r => bs.map EvT.byte ++ eventsT r
  | .sync :: r => EvT.mark :: eventsT r
  | .enable on :: r => EvT.toggle on :: eventsT r

/-- messages of an event stream: bytes arriving while the level is disabled are not part of the stream at all;
    a mark ends the current line (logged iff non-empty and the level is enabled at that moment) -/
def specT (en : Bool) (cur : Bytes) : List EvT → List Bytes × (Bytes × Bool)
  | [] => ([], (cur, en))
  | .byte b :: r =>
    if en then
      if b = 10 then let p := specT en [] r; (cur :: p.1, p.2) else specT en (cur ++ [b]) r
    else specT en cur r
  | .mark :: r =>
    let p := specT en [] r
    ((if en && !cur.isEmpty then [cur] else []) ++ p.1, p.2)
  | .toggle on :: r => specT on cur r

theorem specT_bytes_enabled (cur bs : Bytes) (r : List EvT) :
    specT true cur (bs.map EvT.byte ++ r) =
      ((lines cur bs).1 ++ (specT true (lines cur bs).2 r).1, (specT true (lines cur bs).2 r).2) := by
  induction bs generalizing cur with
  | nil => simp [lines]
  | cons x t ih =>
    simp only [List.map_cons, List.cons_append]
    by_cases hx : x = 10
    · subst hx; simp only [specT, if_true]; rw [ih, lines_nl]; simp
    · simp only [specT, if_true, hx, if_false]; rw [ih, lines_other _ _ _ hx]

theorem specT_eq_linesEv (cur : Bytes) (steps : List Step) (h : allEnabled steps = true) :
    specT true cur (eventsT steps) = ((linesEv cur (events steps)).1, ((linesEv cur (events steps)).2, true)) := by
  induction steps generalizing cur with
  | nil => rfl
  | cons s r ih =>
    cases s with
    | write bs => simp only [eventsT, events]; rw [specT_bytes_enabled, linesEv_bytes_append, ih _ h]
    | sync => simp only [eventsT, events, specT]; rw [linesEv_mark, ih [] h]; cases cur <;> rfl
    | enable on => cases h

theorem specT_bytes_disabled (cur bs : Bytes) (r : List EvT) :
    specT false cur (bs.map EvT.byte ++ r) = specT false cur r := by
  induction bs with
  | nil => simp
  | cons x t ih => simp only [List.map_cons, List.cons_append, specT]; simpa using ih

theorem runSteps_eq_specT (w : W) (steps : List Step) :
    (runSteps w steps).2.1 = (specT w.enabled w.buff (eventsT steps)).1 ∧
    ((runSteps w steps).1.buff, (runSteps w steps).1.enabled) = (specT w.enabled w.buff (eventsT steps)).2 := by
  induction steps generalizing w with
  | nil => simp [runSteps, eventsT, specT]
  | cons s r ih =>
    obtain ⟨buff, en⟩ := w
    cases s with
    | write bs =>
      cases en with
      | true =>
        simp only [runSteps, step, eventsT, write, if_true]
        rw [feed_eq_lines _ _ _ (Nat.lt_succ_self _), specT_bytes_enabled]
        have := ih ⟨(lines buff bs).2, true⟩
        exact ⟨by rw [this.1], this.2⟩
      | false =>
        simp only [runSteps, step, eventsT, Bool.false_eq_true, if_false]
        rw [specT_bytes_disabled]
        simpa using ih ⟨buff, false⟩
    | sync =>
      simp only [runSteps, step, eventsT, sync, specT]
      have := ih ⟨[], en⟩
      constructor
      · rw [this.1]; cases en <;> cases buff.isEmpty <;> simp
      · exact this.2
    | enable on =>
      simp only [runSteps, step, eventsT, specT]
      simpa using ih ⟨buff, on⟩

theorem eventsT_append (a b : List Step) : eventsT (a ++ b) = eventsT a ++ eventsT b := by
  induction a with
  | nil => simp [eventsT]
  | cons s r ih => cases s <;> simp [eventsT, ih]

end ZapVerif.Zio
