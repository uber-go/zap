import ZapVerif.Model.Sugar
/-! For C14: the event trace of `sweetenFields` (`sweep = split ∘ trace`, every argument in exactly one event), facts about
    arbitrary event lists, and the index loop `loopGo`. -/
namespace ZapVerif.Sugar

theorem sweep_eq_split (i : Nat) (seen : Bool) (args : List Arg) :
    sweep i seen args = split (trace i seen args) := by
  fun_induction sweep i seen args <;>
    simp_all [trace, split, Res.cons1, Res.cons2, Res.cons3, Ev.out?, Ev.ldiag?, Ev.inv?, List.filterMap_cons]

theorem trace_args (i : Nat) (seen : Bool) (args : List Arg) :
    (trace i seen args).flatMap Ev.args = args := by
  fun_induction trace i seen args <;> simp_all [Ev.args]

theorem invalid_pos_cons (x : Ev) (t : List Ev) (i : Nat)
    (ht : ∀ pre p k v post, t = pre ++ Ev.invalid p k v :: post → p = i + x.args.length + (pre.flatMap Ev.args).length)
    (hx : ∀ p k v, x = Ev.invalid p k v → p = i) :
    ∀ pre p k v post, x :: t = pre ++ Ev.invalid p k v :: post → p = i + (pre.flatMap Ev.args).length := by
  intro pre p k v post h
  rcases List.cons_eq_append_iff.mp h with ⟨rfl, h2⟩ | ⟨pre', rfl, h2⟩
  · exact hx p k v (List.cons.inj h2).1.symm
  · rw [ht pre' p k v post h2, List.flatMap_cons, List.length_append, Nat.add_assoc]

theorem trace_invalid_pos (i : Nat) (seen : Bool) (args : List Arg) :
    ∀ pre p k v post, trace i seen args = pre ++ Ev.invalid p k v :: post →
      p = i + (pre.flatMap Ev.args).length := by
  fun_induction trace i seen args with
  | case1 => exact fun pre _ _ _ post h => absurd h (by simp)
  | case2 i seen ty k t r ih => exact invalid_pos_cons _ _ i ih (fun _ _ _ h => Ev.noConfusion h)
  | case3 i e r ih => exact invalid_pos_cons _ _ i ih (fun _ _ _ h => Ev.noConfusion h)
  | case4 i seen e r _ ih => exact invalid_pos_cons _ _ i ih (fun _ _ _ h => Ev.noConfusion h)
  | case5 i seen a => exact invalid_pos_cons _ _ i (fun pre _ _ _ post h => absurd h (by simp)) (fun _ _ _ h => Ev.noConfusion h)
  | case6 i seen v r s _ _ ih => exact invalid_pos_cons _ _ i ih (fun _ _ _ h => Ev.noConfusion h)
  | case7 i seen k v r _ _ _ ih => exact invalid_pos_cons _ _ i ih (fun _ _ _ h => (Ev.invalid.inj h).1.symm)

theorem Res.append_empty (a : Res) : a.append {} = a := by
  cases a; simp [Res.append]
theorem Res.snoc1_append (a r : Res) (o : Out) : (a.snoc1 o).append r = a.append (r.cons1 o) := by
  simp [Res.append, Res.snoc1, Res.cons1]
theorem Res.snoc2_append (a r : Res) (d : LDiag) : (a.snoc2 d).append r = a.append (r.cons2 d) := by
  simp [Res.append, Res.snoc2, Res.cons2]
theorem Res.snoc3_append (a r : Res) (p : Inv) : (a.snoc3 p).append r = a.append (r.cons3 p) := by
  simp [Res.append, Res.snoc3, Res.cons3]
theorem Res.snoc2_eq (a : Res) (d : LDiag) : a.snoc2 d = a.append { diags := [d] } := by
  simp [Res.append, Res.snoc2]

/-- the index loop of the Go source computes `sweep`: with fuel for the arguments that remain it neither indexes out of
    range (`.panic`) nor runs out of fuel -/
theorem loopGo_eq (args : List Arg) : ∀ (fuel i : Nat) (seen : Bool) (acc : Res), args.length - i ≤ fuel →
    loopGo args fuel i seen acc = .ok (acc.append (sweep i seen (args.drop i))) := by
  intro fuel
  induction fuel with
  | zero =>
    intro i seen acc h
    have hi : ¬ i < args.length := by omega
    rw [List.drop_eq_nil_of_le (by omega), loopGo, if_neg hi, sweep, Res.append_empty]
  | succ f ih =>
    intro i seen acc h
    cases hd : args.drop i with
    | nil =>
      have hi : ¬ i < args.length := by have := List.drop_eq_nil_iff.mp hd; omega
      rw [loopGo, if_neg hi, sweep, Res.append_empty]
    | cons a r =>
      have hlen : args.length - i = r.length + 1 := by rw [← List.length_drop, hd]; rfl
      have hi : i < args.length := by omega
      have hg : args[i]? = some a := by rw [← List.head?_drop, hd]; rfl
      have hr : args.drop (i + 1) = r := by rw [← List.drop_drop, hd]; rfl
      have ih1 := fun seen acc => ih (i + 1) seen acc (by omega)
      rw [hr] at ih1
      have ih2 := fun seen acc => ih (i + 2) seen acc (by omega)
      have hlast : i = args.length - 1 ↔ r.length = 0 := by omega
      rw [loopGo, if_pos hi, hg]
      cases a with
      | field ty k t => exact (ih1 seen _).trans (by rw [Res.snoc1_append]; rfl)
      | err e =>
        cases seen
        · exact (ih1 true _).trans (by rw [Res.snoc1_append]; rfl)
        · exact (ih1 true _).trans (by rw [Res.snoc2_append]; rfl)
      | str _ | int _ | nil | val _ _ =>
        show (if i = args.length - 1 then _ else _) = _
        cases r with
        | nil => rw [if_pos (hlast.2 rfl), Res.snoc2_eq]; rfl
        | cons v r' =>
          have hg1 : args[i+1]? = some v := by rw [← List.head?_drop, hr]; rfl
          have hr' : args.drop (i + 2) = r' := by rw [← List.drop_drop (i := 1), hr]; rfl
          rw [if_neg (fun h => nomatch hlast.1 h), hg1]
          show loopGo args f (i + 2) seen _ = _
          refine (ih2 seen _).trans ?_
          simp only [hr', Res.snoc1_append, Res.snoc3_append]
          rfl

def Ev.isErrEv : Ev → Bool
  | .error _ => true | .multiple _ => true | _ => false

def Ev.isMultiple : Ev → Bool
  | .multiple _ => true | _ => false

theorem trace_seen_all_multiple (i : Nat) (args : List Arg) :
    ∀ e ∈ (trace i true args).filter Ev.isErrEv, e.isMultiple = true := by
  generalize hs : true = seen
  -- `filter` evaluates on the head event of each case
  fun_induction trace i seen args with
  | case1 => intro e he; cases he
  | case2 i seen ty k t r ih => exact ih hs
  | case3 i e r ih => exact List.forall_mem_cons.2 ⟨rfl, ih rfl⟩
  | case4 i seen e r h => exact absurd hs.symm h
  | case5 => intro e he; cases he
  | case6 i seen v r s _ _ ih => exact ih hs
  | case7 i seen k v r _ _ _ ih => exact ih hs

theorem trace_first_error (i : Nat) (args : List Arg) :
    (trace i false args).filter Ev.isErrEv = [] ∨
    ∃ e rest, (trace i false args).filter Ev.isErrEv = Ev.error e :: rest ∧ ∀ x ∈ rest, x.isMultiple = true := by
  generalize hs : false = seen
  fun_induction trace i seen args with
  | case1 => exact .inl rfl
  | case2 i seen ty k t r ih => exact ih hs
  | case3 => cases hs
  | case4 i seen e r h ih => exact .inr ⟨e, _, rfl, trace_seen_all_multiple (i + 1) r⟩
  | case5 => exact .inl rfl
  | case6 i seen v r s _ _ ih => exact ih hs
  | case7 i seen k v r _ _ _ ih => exact ih hs

theorem trace_clean (i : Nat) (seen : Bool) (args : List Arg) : ∀ j,
    trace j seen (((trace i seen args).filter Ev.isOut).flatMap Ev.args) = (trace i seen args).filter Ev.isOut := by
  fun_induction trace i seen args <;> intro j <;>
    simp_all [Ev.isOut, Ev.out?, Ev.args, List.filter_cons, trace]

theorem sublist_flatMap {α β : Type} (f : α → List β) {l₁ l₂ : List α} (h : l₁.Sublist l₂) :
    (l₁.flatMap f).Sublist (l₂.flatMap f) := by
  induction h with
  | slnil => exact .slnil
  | cons a _ ih => exact ih.trans (List.sublist_append_right _ _)
  | cons_cons a _ ih => exact ih.append_left _

theorem Ev.ldiag?_of_isOut (e : Ev) (h : e.isOut = true) : e.ldiag? = none := by cases e <;> first | rfl | cases h
theorem Ev.inv?_of_isOut (e : Ev) (h : e.isOut = true) : e.inv? = none := by cases e <;> first | rfl | cases h

theorem split_filter_isOut (t : List Ev) : split (t.filter Ev.isOut) = ⟨(split t).fields, [], []⟩ := by
  have h1 : (t.filter Ev.isOut).filterMap Ev.out? = t.filterMap Ev.out? := by
    rw [List.filterMap_filter]; congr 1; funext e; cases e <;> rfl
  have h2 : (t.filter Ev.isOut).filterMap Ev.ldiag? = [] :=
    List.filterMap_eq_nil_iff.2 fun e he => e.ldiag?_of_isOut (List.mem_filter.1 he).2
  have h3 : (t.filter Ev.isOut).filterMap Ev.inv? = [] :=
    List.filterMap_eq_nil_iff.2 fun e he => e.inv?_of_isOut (List.mem_filter.1 he).2
  rw [split, h1, h2, h3]; rfl

end ZapVerif.Sugar
