import ZapVerif.Model.Json
/-! `parse_render`: decode ∘ encode = id on well-formed emitted trees. -/
namespace ZapVerif.Json
open ZapVerif ZapVerif.Esc

theorem sep44 (r : Bytes) : sepNext (44 :: r) := Or.inr ⟨44, r, rfl, by decide⟩
theorem sep93 (r : Bytes) : sepNext (93 :: r) := Or.inr ⟨93, r, rfl, by decide⟩
theorem sep125 (r : Bytes) : sepNext (125 :: r) := Or.inr ⟨125, r, rfl, by decide⟩

theorem size_pos : ∀ j : J, 1 ≤ size j
  | .str _ => by simp [size]
  | .atom _ => by simp [size]
  | .arr _ => by simp [size]; omega
  | .obj _ => by simp [size]; omega

theorem skipSp_cons (c : UInt8) (r : Bytes) (h : c ≠ 32) : skipSp (c :: r) = c :: r := by
  unfold skipSp
  split
  · rename_i heq; injection heq with h1 _; exact absurd h1 h
  · rfl

theorem tokenChar_ne {c : UInt8} (h : tokenChar c = true) :
    c ≠ 44 ∧ c ≠ 93 ∧ c ≠ 125 ∧ c ≠ 34 ∧ c ≠ 91 ∧ c ≠ 123 ∧ c ≠ 58 ∧ c ≠ 32 := by
  refine ⟨?_, ?_, ?_, ?_, ?_, ?_, ?_, ?_⟩ <;> (rintro rfl; cases h)

theorem render_head (j : J) (h : WFj j) : ∃ c r, render j = c :: r ∧ c ≠ 93 ∧ c ≠ 125 ∧ c ≠ 32 := by
  cases j with
  | str b => exact ⟨34, b ++ [34], by simp [render], by decide, by decide, by decide⟩
  | atom t =>
    obtain ⟨hne, hall⟩ := (by simpa [WFj] using h : atomOK t)
    cases t with
    | nil => exact absurd rfl hne
    | cons c r =>
      obtain ⟨-, h93, h125, -, -, -, -, h32⟩ := tokenChar_ne (hall c (by simp))
      exact ⟨c, r, by simp [render], h93, h125, h32⟩
  | arr xs => exact ⟨91, renderElems xs ++ [93], by simp [render], by decide, by decide, by decide⟩
  | obj kvs => exact ⟨123, renderMembers kvs ++ [125], by simp [render], by decide, by decide, by decide⟩

theorem renderElems_head (x : J) (r : List J) (rest : Bytes) (hx : WFj x) :
    ∃ c tl, renderElems (x :: r) ++ rest = c :: tl ∧ c ≠ 93 ∧ c ≠ 32 := by
  obtain ⟨c, tl, hr, h93, _, h32⟩ := render_head x hx
  cases r with
  | nil => exact ⟨c, tl ++ rest, by simp [renderElems, hr], h93, h32⟩
  | cons y r' => exact ⟨c, tl ++ 44 :: (renderElems (y :: r') ++ rest), by simp [renderElems, hr], h93, h32⟩

theorem renderMembers_head (kv : Bytes × J) (r : List (Bytes × J)) (rest : Bytes) :
    ∃ tl, renderMembers (kv :: r) ++ rest = 34 :: tl := by
  obtain ⟨k, v⟩ := kv
  cases r with
  | nil => exact ⟨_, by simp only [renderMembers, List.cons_append]; rfl⟩
  | cons y r' => exact ⟨_, by simp only [renderMembers, List.cons_append]; rfl⟩

theorem skipSp_render (v : J) (hw : WFj v) (rest : Bytes) : skipSp (render v ++ rest) = render v ++ rest := by
  obtain ⟨c, r, hr, _, _, h32⟩ := render_head v hw
  rw [hr, List.cons_append]; exact skipSp_cons c _ h32

theorem skipSp_elems (y : J) (r : List J) (hw : WFj y) (rest : Bytes) :
    skipSp (renderElems (y :: r) ++ rest) = renderElems (y :: r) ++ rest := by
  obtain ⟨c, tl, h, _, h32⟩ := renderElems_head y r rest hw
  rw [h]; exact skipSp_cons c tl h32

theorem skipSp_members (y : Bytes × J) (r : List (Bytes × J)) (rest : Bytes) :
    skipSp (renderMembers (y :: r) ++ rest) = renderMembers (y :: r) ++ rest := by
  obtain ⟨tl, h⟩ := renderMembers_head y r rest
  rw [h]; exact skipSp_cons 34 tl (by decide)

/-! Step equations of the parser: what one unfolding does, given what the sub-parsers return. -/

theorem parseV_arr (f : Nat) (c : UInt8) (r : Bytes) (h : c ≠ 93) :
    parseV (f + 1) (91 :: c :: r) = parseElems f [] (c :: r) := by simp [parseV, h]

theorem parseV_obj (f : Nat) (c : UInt8) (r : Bytes) (h : c ≠ 125) :
    parseV (f + 1) (123 :: c :: r) = parseMembers f [] (c :: r) := by simp [parseV, h]

theorem parseElems_more {f : Nat} {acc : List J} {s r : Bytes} {v : J} (h : parseV f s = some (v, 44 :: r)) :
    parseElems (f + 1) acc s = parseElems f (acc ++ [v]) (skipSp r) := by simp [parseElems, h]

theorem parseElems_last {f : Nat} {acc : List J} {s r : Bytes} {v : J} (h : parseV f s = some (v, 93 :: r)) :
    parseElems (f + 1) acc s = some (.arr (acc ++ [v]), r) := by simp [parseElems, h]

theorem parseMembers_more {f : Nat} {acc : List (Bytes × J)} {k r r2 r3 : Bytes} {v : J}
    (hk : scanStr 0 [] r = some (k, 58 :: r2)) (hv : parseV f (skipSp r2) = some (v, 44 :: r3)) :
    parseMembers (f + 1) acc (34 :: r) = parseMembers f (acc ++ [(k, v)]) (skipSp r3) := by
  simp [parseMembers, hk, hv]

theorem parseMembers_last {f : Nat} {acc : List (Bytes × J)} {k r r2 r3 : Bytes} {v : J}
    (hk : scanStr 0 [] r = some (k, 58 :: r2)) (hv : parseV f (skipSp r2) = some (v, 125 :: r3)) :
    parseMembers (f + 1) acc (34 :: r) = some (.obj (acc ++ [(k, v)]), r3) := by
  simp [parseMembers, hk, hv]

theorem scanStr_key (k rest : Bytes) (h : runD 0 k = some 0) : scanStr 0 [] (k ++ 34 :: rest) = some (k, rest) := by
  simpa using scanStr_body 0 [] k rest h

mutual
theorem parseV_render : ∀ (j : J) (fuel : Nat) (rest : Bytes),
    WFj j → sepNext rest → size j ≤ fuel → parseV fuel (render j ++ rest) = some (j, rest)
  | .str b, fuel, rest, hw, _, hf => by
      cases fuel with
      | zero => simp [size] at hf
      | succ f =>
        have := scanStr_body 0 [] b rest (by simpa [WFj] using hw)
        simp only [render, List.cons_append, List.append_assoc, List.nil_append, parseV, if_true] at this ⊢
        rw [this]; rfl
  | .atom t, fuel, rest, hw, hs, hf => by
      obtain ⟨hne, hall⟩ := (by simpa [WFj] using hw : atomOK t)
      cases fuel with
      | zero => simp [size] at hf
      | succ f =>
        cases t with
        | nil => exact absurd rfl hne
        | cons c r =>
          have hc := hall c (by simp)
          obtain ⟨-, -, -, h34, h91, h123, -, -⟩ := tokenChar_ne hc
          have := spanTok_atom [] (c :: r) rest hall hs
          simp only [render, List.cons_append, List.nil_append, parseV, h34, h91, h123, if_false, hc, if_true] at this ⊢
          rw [this]
  | .arr xs, fuel, rest, hw, _, hf => by
      cases fuel with
      | zero => simp [size] at hf
      | succ f =>
        have hwl : WFl xs := by simpa [WFj] using hw
        cases xs with
        | nil => simp [render, renderElems, parseV]
        | cons x r =>
          obtain ⟨c, tl, hre, hc, _⟩ := renderElems_head x r (93 :: rest) (by simp [WFl] at hwl; exact hwl.1)
          have key := parseElems_render (x :: r) (by simp) f [] rest hwl (by simp [size] at hf; omega)
          rw [render, List.cons_append, List.append_assoc, List.singleton_append, hre, parseV_arr f c tl hc, ← hre]
          simpa using key
  | .obj kvs, fuel, rest, hw, _, hf => by
      cases fuel with
      | zero => simp [size] at hf
      | succ f =>
        have hwm : WFm kvs := by simpa [WFj] using hw
        cases kvs with
        | nil => simp [render, renderMembers, parseV]
        | cons kv r =>
          obtain ⟨tl, hre⟩ := renderMembers_head kv r (125 :: rest)
          have key := parseMembers_render (kv :: r) (by simp) f [] rest hwm (by simp [size] at hf; omega)
          rw [render, List.cons_append, List.append_assoc, List.singleton_append, hre,
            parseV_obj f 34 tl (by decide), ← hre]
          simpa using key
theorem parseElems_render : ∀ (xs : List J) (_ : xs ≠ []) (fuel : Nat) (acc : List J) (rest : Bytes),
    WFl xs → sizeL xs ≤ fuel →
    parseElems fuel acc (renderElems xs ++ 93 :: rest) = some (.arr (acc ++ xs), rest)
  | [], hne, _, _, _, _, _ => absurd rfl hne
  | [x], _, fuel, acc, rest, hw, hf => by
      cases fuel with
      | zero => simp [sizeL] at hf
      | succ f =>
        have hx : WFj x := by simp [WFl] at hw; exact hw
        have hsz : size x ≤ f := by simp [sizeL] at hf; omega
        rw [renderElems]
        exact parseElems_last (parseV_render x f (93 :: rest) hx (sep93 rest) hsz)
  | x :: y :: r, _, fuel, acc, rest, hw, hf => by
      cases fuel with
      | zero => simp [sizeL] at hf
      | succ f =>
        have hw' : WFj x ∧ WFl (y :: r) := by simpa [WFl] using hw
        have h1 : size x ≤ f := by simp [sizeL] at hf ⊢; omega
        have h2 : sizeL (y :: r) ≤ f := by simp [sizeL] at hf ⊢; omega
        rw [renderElems, List.append_assoc, List.cons_append,
          parseElems_more (parseV_render x f _ hw'.1 (sep44 _) h1),
          skipSp_elems y r (by simpa [WFl] using hw'.2.1) _,
          parseElems_render (y :: r) (by simp) f (acc ++ [x]) rest hw'.2 h2]
        simp
theorem parseMembers_render : ∀ (kvs : List (Bytes × J)) (_ : kvs ≠ []) (fuel : Nat)
    (acc : List (Bytes × J)) (rest : Bytes),
    WFm kvs → sizeM kvs ≤ fuel →
    parseMembers fuel acc (renderMembers kvs ++ 125 :: rest) = some (.obj (acc ++ kvs), rest)
  | [], hne, _, _, _, _, _ => absurd rfl hne
  | [(k, v)], _, fuel, acc, rest, hw, hf => by
      cases fuel with
      | zero => simp [sizeM] at hf
      | succ f =>
        have hw' : runD 0 k = some 0 ∧ WFj v := by simpa [WFm] using hw
        have hsz : size v ≤ f := by simp [sizeM] at hf; omega
        rw [renderMembers, List.cons_append, List.append_assoc, List.cons_append, List.cons_append]
        refine parseMembers_last (scanStr_key k _ hw'.1) ?_
        rw [skipSp_render v hw'.2]
        exact parseV_render v f (125 :: rest) hw'.2 (sep125 rest) hsz
  | (k, v) :: y :: r, _, fuel, acc, rest, hw, hf => by
      cases fuel with
      | zero => simp [sizeM] at hf
      | succ f =>
        have hw' : runD 0 k = some 0 ∧ WFj v ∧ WFm (y :: r) := by simpa [WFm] using hw
        have h1 : size v ≤ f := by simp [sizeM] at hf ⊢; omega
        have h2 : sizeM (y :: r) ≤ f := by simp [sizeM] at hf ⊢; omega
        rw [renderMembers, List.cons_append, List.append_assoc, List.cons_append, List.cons_append, List.append_assoc,
          List.cons_append,
          parseMembers_more (scanStr_key k _ hw'.1)
            (by rw [skipSp_render v hw'.2.1]; exact parseV_render v f _ hw'.2.1 (sep44 _) h1),
          skipSp_members y r _,
          parseMembers_render (y :: r) (by simp) f (acc ++ [(k, v)]) rest hw'.2.2 h2]
        simp
end

/-- C02 core: decoding what was rendered yields exactly the tree, in order, at the right nesting,
    duplicates preserved -/
theorem parse_render (j : J) (h : WFj j) : parseV (size j) (render j) = some (j, []) := by
  have := parseV_render j (size j) [] h (Or.inl rfl) (Nat.le_refl _)
  simpa using this

end ZapVerif.Json
