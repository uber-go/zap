import ZapVerif.Proofs.GoMini
import ZapVerif.Model.TransCallerX
/-! Lookup facts and list lemmas for the `…_matches_source` theorems of Props/C15.lean about Gen/TransCaller.lean. -/
namespace ZapVerif.TransCaller
open ZapVerif ZapVerif.GoMini ZapVerif.Callers ZapVerif.Gen.TransCaller

@[simp] theorem X_funs : X.funs = funs := id rfl
@[simp] theorem X_ext : X.ext = ext := id rfl
@[simp] theorem ext_appendInt (b : Bytes) (n : Int) :
    ext "Buffer.AppendInt" [.bytes b, .int n] = some [.bytes (b ++ itoa n.toNat)] := by
  unfold ext ext.match_1
  simp only [↓reduceDIte]
@[simp] theorem bi_appendInt (a : List Val) : builtin "Buffer.AppendInt" a = none := builtin_none _ _ (by simp)

theorem lastIndexByte_eq (c : UInt8) (s : Bytes) :
    lastIndexByte s c = match lastIndexOf c s with | some i => (i : Int) | none => -1 := by
  induction s with
  | nil => rfl
  | cons b r ih =>
    simp only [lastIndexByte, lastIndexOf, ih]
    cases lastIndexOf c r with
    | some i => simp
    | none =>
      by_cases h : b = c
      · simp [h]
      · simp [h]

theorem lastIndexOf_lt (c : UInt8) (s : Bytes) (i : Nat) (h : lastIndexOf c s = some i) : i < s.length := by
  induction s generalizing i with
  | nil => simp [lastIndexOf] at h
  | cons b r ih =>
    simp only [lastIndexOf] at h
    cases hr : lastIndexOf c r with
    | some j => rw [hr] at h; simp at h; have := ih j hr; simp; omega
    | none => rw [hr] at h; by_cases hb : b = c <;> simp [hb] at h; simp; omega

end ZapVerif.TransCaller
