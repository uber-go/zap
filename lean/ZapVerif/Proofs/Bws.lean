import ZapVerif.Model.Bws
/-! The `bufio.Writer` / `BufferedWriteSyncer` model operation by operation: any scripted sink (one `…Spec` each, over `content`),
    then the reliable sink (`RInv`). -/
namespace ZapVerif.Bws
open ZapVerif

@[simp] theorem taken_append (a b : List Ev) : taken (a ++ b) = taken a ++ taken b := by
  induction a with
  | nil => rfl
  | cons e r ih => cases e <;> simp [taken, ih]

@[simp] theorem sinkWrites_append (a b : List Ev) : sinkWrites (a ++ b) = sinkWrites a ++ sinkWrites b := by
  induction a with
  | nil => rfl
  | cons e r ih => cases e <;> simp [sinkWrites, ih]

@[simp] theorem taken_write (p : Bytes) (k : Nat) : taken [.write p k] = p.take k := by simp [taken]
@[simp] theorem taken_sync : taken [.sync] = [] := rfl
@[simp] theorem taken_nil : taken [] = [] := rfl
@[simp] theorem sinkWrites_write (p : Bytes) (k : Nat) : sinkWrites [.write p k] = [p] := rfl
@[simp] theorem sinkWrites_sync : sinkWrites [.sync] = [] := rfl
@[simp] theorem sinkWrites_nil : sinkWrites [] = [] := rfl

/-- everything the syncer has accepted and not lost: what the sink took, then what is still buffered -/
def content (s : St) : Bytes := taken s.sink ++ s.buf

/-- frame: the fields no operation of the bufio layer touches -/
structure Frame (s s' : St) : Prop where
  size : s'.size = s.size
  init : s'.init = s.init
  stopped : s'.stopped = s.stopped
  sscript : s'.sscript = s.sscript
  grows : ∃ evs, s'.sink = s.sink ++ evs ∧ ∀ e ∈ evs, e ≠ .sync

theorem Frame.refl (s : St) : Frame s s := ⟨rfl, rfl, rfl, rfl, [], by simp, by simp⟩

theorem Frame.trans {a b c : St} (h1 : Frame a b) (h2 : Frame b c) : Frame a c := by
  obtain ⟨e1, h1s, h1n⟩ := h1.grows
  obtain ⟨e2, h2s, h2n⟩ := h2.grows
  refine ⟨h2.size.trans h1.size, h2.init.trans h1.init, h2.stopped.trans h1.stopped, h2.sscript.trans h1.sscript,
    e1 ++ e2, by rw [h2s, h1s, List.append_assoc], ?_⟩
  intro e he
  rcases List.mem_append.mp he with h | h
  · exact h1n e h
  · exact h2n e h

theorem sinkWrite_took_le (s : St) (p : Bytes) : (sinkWrite s p).2.1 ≤ p.length := by
  simp only [sinkWrite]; exact Nat.min_le_right _ _

theorem sinkWrite_sink (s : St) (p : Bytes) :
    (sinkWrite s p).1.sink = s.sink ++ [.write p (sinkWrite s p).2.1] := rfl

theorem sinkWrite_zero_fails (s : St) (p : Bytes) (hp : 0 < p.length) (h0 : (sinkWrite s p).2.1 = 0) :
    (sinkWrite s p).2.2 = true := by
  simp only [sinkWrite] at h0 ⊢
  rw [h0]
  have : p.length > 0 := hp
  simp [this]

@[simp] theorem sinkWrite_buf (s : St) (p : Bytes) : (sinkWrite s p).1.buf = s.buf := rfl
@[simp] theorem sinkWrite_size (s : St) (p : Bytes) : (sinkWrite s p).1.size = s.size := rfl
@[simp] theorem sinkWrite_err (s : St) (p : Bytes) : (sinkWrite s p).1.err = s.err := rfl
@[simp] theorem sinkWrite_init (s : St) (p : Bytes) : (sinkWrite s p).1.init = s.init := rfl
@[simp] theorem sinkWrite_stopped (s : St) (p : Bytes) : (sinkWrite s p).1.stopped = s.stopped := rfl
@[simp] theorem sinkWrite_sscript (s : St) (p : Bytes) : (sinkWrite s p).1.sscript = s.sscript := rfl

/-- the error `Flush` derives from the outcome of its one sink write -/
def flushErr (failed : Bool) (took len : Nat) : Option EK :=
  if failed then some .sink else if took < len then some .short else none

theorem flush_eq (s : St) :
    flush s =
      match s.err with
      | some e => (s, some e)
      | none =>
        if s.buf.isEmpty then (s, none)
        else
          match flushErr (sinkWrite s s.buf).2.2 (sinkWrite s s.buf).2.1 s.buf.length with
          | some k => ({ (sinkWrite s s.buf).1 with buf := s.buf.drop (sinkWrite s s.buf).2.1, err := some k }, some k)
          | none => ({ (sinkWrite s s.buf).1 with buf := [] }, none) := by
  unfold flush flushErr
  cases s.err <;> rfl

theorem flushErr_none {f : Bool} {k l : Nat} (h : flushErr f k l = none) (hk : k ≤ l) : f = false ∧ k = l := by
  unfold flushErr at h
  split at h
  · cases h
  · split at h
    · cases h
    · constructor
      · simpa using ‹¬f = true›
      · omega

structure FlushSpec (s : St) (r : St × Option EK) : Prop where
  frame : Frame s r.1
  content : content r.1 = content s
  shrink : r.1.buf.length ≤ s.buf.length
  err_eq : r.2 = r.1.err
  ok_empty : r.2 = none → r.1.buf = []
  sticky : ∀ e, s.err = some e → r = (s, some e)
  clean : s.buf = [] → s.err = none → r = (s, none)

theorem flush_spec (s : St) : FlushSpec s (flush s) := by
  rw [flush_eq]
  cases he : s.err with
  | some e =>
    exact ⟨Frame.refl s, rfl, Nat.le_refl _, by simp [he], by simp,
      fun e' h => (by rw [he] at h; injection h with h; rw [h]), fun _ h => (by rw [he] at h; cases h)⟩
  | none =>
    cases hb : s.buf.isEmpty with
    | true =>
      have hnil : s.buf = [] := by simpa using hb
      simp only [if_true]
      exact ⟨Frame.refl s, rfl, Nat.le_refl _, by simp [he], fun _ => hnil,
        fun e' h => (by rw [he] at h; cases h), fun _ _ => rfl⟩
    | false =>
      have hne : s.buf ≠ [] := by simpa using hb
      simp only [Bool.false_eq_true, if_false]
      have hle := sinkWrite_took_le s s.buf
      cases hf : flushErr (sinkWrite s s.buf).2.2 (sinkWrite s s.buf).2.1 s.buf.length with
      | some k =>
        refine ⟨⟨rfl, rfl, rfl, rfl, [.write s.buf (sinkWrite s s.buf).2.1], rfl, by simp⟩, ?_, ?_, rfl, by simp,
          fun e' h => (by rw [he] at h; cases h), fun h => absurd h hne⟩
        · simp [content, sinkWrite_sink, List.append_assoc]
        · simp
      | none =>
        obtain ⟨_, hk⟩ := flushErr_none hf hle
        refine ⟨⟨rfl, rfl, rfl, rfl, [.write s.buf (sinkWrite s s.buf).2.1], rfl, by simp⟩, ?_, by simp, by simp [he],
          fun _ => rfl, fun e' h => (by rw [he] at h; cases h), fun h => absurd h hne⟩
        simp [content, sinkWrite_sink, hk]

/-- an upper bound on the number of passes through `bwrite` still needed -/
def need (s : St) (p : Bytes) : Nat :=
  p.length + (if s.buf.isEmpty then 0 else 1) + (if s.err.isNone then 1 else 0) + 1

structure BodySpec (s : St) (p : Bytes) (r : St × Nat) : Prop where
  frame : Frame s r.1
  n_le : r.2 ≤ p.length
  content : content r.1 = content s ++ p.take r.2
  bound : r.1.buf.length ≤ s.size
  need_lt : need r.1 (p.drop r.2) < need s p

theorem need_le_fuelFor (s : St) (p : Bytes) : need s p ≤ fuelFor p := by
  unfold need fuelFor; split <;> split <;> omega

theorem need_le_of_done {s : St} (p : Bytes) (h : s.buf = [] ∨ s.err ≠ none) : need s p ≤ p.length + 2 := by
  unfold need
  rcases h with h | h
  · simp only [h, List.isEmpty_nil, ↓reduceIte]
    split <;> omega
  · have : s.err.isNone = false := by
      cases he : s.err
      · exact absurd he h
      · rfl
    simp only [this, Bool.false_eq_true, ↓reduceIte]
    split <;> omega

theorem need_stuck {s : St} (p : Bytes) (hb : s.buf = []) (e : EK) (he : s.err = some e) : need s p = p.length + 1 := by
  simp [need, hb, he]

theorem need_full {s : St} (p : Bytes) (hb : s.buf.isEmpty = false) (he : s.err = none) : need s p = p.length + 3 := by
  simp [need, hb, he]

theorem FlushSpec.done {s : St} {r : St × Option EK} (F : FlushSpec s r) : r.1.buf = [] ∨ r.1.err ≠ none := by
  cases hr : r.2
  · exact .inl (F.ok_empty hr)
  · exact .inr (by rw [← F.err_eq, hr]; nofun)

theorem loopBody_spec (s : St) (p : Bytes) (hc : p.length > s.avail) (he : s.err = none) (hb : s.buf.length ≤ s.size) :
    BodySpec s p (loopBody s p) := by
  unfold loopBody
  cases hbe : s.buf.isEmpty with
  | true =>
    -- large write, empty buffer: straight to the sink; a sink that takes nothing fails, which ends the loop
    have hnil : s.buf = [] := by simpa using hbe
    simp only [if_true]
    have hle := sinkWrite_took_le s p
    refine ⟨⟨rfl, rfl, rfl, rfl, [.write p (sinkWrite s p).2.1], rfl, by simp⟩, hle, ?_, by simp [hnil], ?_⟩
    · simp [content, sinkWrite_sink, hnil]
    · have hp : 0 < p.length := Nat.lt_of_le_of_lt (Nat.zero_le _) hc
      have hs : need s p = p.length + 2 := by simp [need, hnil, he]
      rw [hs]
      dsimp only
      generalize hr : ({ (sinkWrite s p).1 with err := if (sinkWrite s p).2.2 then some EK.sink else none } : St) = r
      have hrb : r.buf = [] := by rw [← hr]; exact hnil
      by_cases h0 : (sinkWrite s p).2.1 = 0
      · have hre : r.err = some .sink := by rw [← hr]; simp [sinkWrite_zero_fails s p hp h0]
        rw [need_stuck _ hrb .sink hre, h0]
        simp
      · have := need_le_of_done (p.drop (sinkWrite s p).2.1) (.inl hrb)
        rw [List.length_drop] at this
        have hpos := Nat.pos_of_ne_zero h0
        exact Nat.lt_of_le_of_lt this (Nat.add_lt_add_right (Nat.sub_lt (Nat.lt_of_lt_of_le hpos hle) hpos) 2)
  | false =>
    -- fill the buffer, flush: afterwards the buffer is empty or the error has stuck
    simp only [Bool.false_eq_true, if_false]
    generalize hs1 : ({ s with buf := s.buf ++ p.take s.avail } : St) = s1
    have F := flush_spec s1
    have f1 : Frame s s1 := by
      rw [← hs1]; exact ⟨rfl, rfl, rfl, rfl, [], by simp, by simp⟩
    have hlen : s1.buf.length = s.size := by
      rw [← hs1]
      show (s.buf ++ p.take s.avail).length = s.size
      rw [List.length_append, List.length_take, Nat.min_eq_left (Nat.le_of_lt hc)]
      exact Nat.add_sub_cancel' hb
    refine ⟨f1.trans F.frame, Nat.le_of_lt hc, ?_, ?_, ?_⟩
    · rw [F.content]; simp [content, ← hs1, List.append_assoc]
    · exact Nat.le_trans F.shrink (Nat.le_of_eq hlen)
    · have := need_le_of_done (p.drop s.avail) F.done
      rw [need_full p hbe he]
      rw [List.length_drop] at this
      exact Nat.lt_succ_of_le (Nat.le_trans this (Nat.add_le_add_right (Nat.sub_le _ _) 2))

structure BwriteSpec (fuel : Nat) (s : St) (p : Bytes) (nn : Nat) (r : St × Nat × Option EK) : Prop where
  frame : Frame s r.1
  bound : r.1.buf.length ≤ s.size
  err_eq : r.2.2 = r.1.err
  count : ∃ k, r.2.1 = nn + k ∧ k ≤ p.length ∧ content r.1 = content s ++ p.take k ∧
    (need s p ≤ fuel → k < p.length → r.2.2 ≠ none)

theorem bwrite_spec (fuel : Nat) : ∀ (s : St) (p : Bytes) (nn : Nat), s.buf.length ≤ s.size →
    BwriteSpec fuel s p nn (bwrite fuel s p nn) := by
  induction fuel with
  | zero =>
    intro s p nn hb
    refine ⟨Frame.refl s, hb, rfl, 0, rfl, Nat.zero_le _, by simp [bwrite], ?_⟩
    intro h; simp [need] at h
  | succ fuel ih =>
    intro s p nn hb
    by_cases hc : p.length > s.avail ∧ s.err = none
    · have B := loopBody_spec s p hc.1 hc.2 hb
      have hb' : (loopBody s p).1.buf.length ≤ (loopBody s p).1.size := by rw [B.frame.size]; exact B.bound
      have I := ih (loopBody s p).1 (p.drop (loopBody s p).2) (nn + (loopBody s p).2) hb'
      have hbw : bwrite (fuel + 1) s p nn =
          bwrite fuel (loopBody s p).1 (p.drop (loopBody s p).2) (nn + (loopBody s p).2) := by
        rw [bwrite, if_pos hc]
      rw [hbw]
      obtain ⟨k, hk1, hk2, hk3, hk4⟩ := I.count
      refine ⟨B.frame.trans I.frame, by rw [← B.frame.size]; exact I.bound, I.err_eq,
        (loopBody s p).2 + k, by rw [hk1, Nat.add_assoc], ?_, ?_, ?_⟩
      · rw [List.length_drop] at hk2
        exact Nat.add_le_of_le_sub' B.n_le hk2
      · rw [hk3, B.content, List.append_assoc, ← List.take_add]
      · intro hn hlt
        apply hk4
        · exact Nat.le_of_lt_succ (Nat.lt_of_lt_of_le B.need_lt hn)
        · rw [List.length_drop]
          exact Nat.lt_sub_of_add_lt (Nat.add_comm _ _ ▸ hlt)
    · cases he : s.err with
      | some e =>
        have hbw : bwrite (fuel + 1) s p nn = (s, nn, some e) := by
          rw [bwrite, if_neg hc]; simp only [he]
        rw [hbw]
        exact ⟨Frame.refl s, hb, by simp [he], 0, rfl, Nat.zero_le _, by simp, by simp⟩
      | none =>
        have hbw : bwrite (fuel + 1) s p nn = ({ s with buf := s.buf ++ p }, nn + p.length, none) := by
          rw [bwrite, if_neg hc]; simp only [he]
        rw [hbw]
        have hfit : p.length ≤ s.size - s.buf.length := Nat.le_of_not_gt fun h => hc ⟨h, he⟩
        refine ⟨⟨rfl, rfl, rfl, rfl, [], by simp, by simp⟩, ?_, by simp [he], p.length, rfl, Nat.le_refl _, ?_, by simp⟩
        · rw [List.length_append]; exact Nat.add_le_of_le_sub' hb hfit
        · simp [content, List.append_assoc]

structure WriteSpec (s : St) (bs : Bytes) (r : St × Nat × Option EK) : Prop where
  size : r.1.size = s.size
  init : r.1.init = true
  stopped : r.1.stopped = s.stopped
  sscript : r.1.sscript = s.sscript
  grows : ∃ evs, r.1.sink = s.sink ++ evs ∧ ∀ e ∈ evs, e ≠ .sync
  bound : r.1.buf.length ≤ s.size
  err_eq : r.2.2 = r.1.err
  n_le : r.2.1 ≤ bs.length
  content : content r.1 = content s ++ bs.take r.2.1
  short_err : r.2.1 < bs.length → r.2.2 ≠ none

theorem bufioWrite_spec (s : St) (bs : Bytes) (hb : s.buf.length ≤ s.size) :
    Frame s (bufioWrite s bs).1 ∧ (bufioWrite s bs).1.buf.length ≤ s.size ∧
    (bufioWrite s bs).2.2 = (bufioWrite s bs).1.err ∧ (bufioWrite s bs).2.1 ≤ bs.length ∧
    content (bufioWrite s bs).1 = content s ++ bs.take (bufioWrite s bs).2.1 ∧
    ((bufioWrite s bs).2.1 < bs.length → (bufioWrite s bs).2.2 ≠ none) := by
  have S := bwrite_spec (fuelFor bs) s bs 0 hb
  obtain ⟨k, h1, h2, h3, h4⟩ := S.count
  unfold bufioWrite
  simp only [Nat.zero_add] at h1
  refine ⟨S.frame, S.bound, S.err_eq, by omega, by rw [h1]; exact h3, ?_⟩
  intro hlt
  exact h4 (need_le_fuelFor s bs) (by omega)

theorem write_spec (s : St) (bs : Bytes) (hb : s.buf.length ≤ s.size) : WriteSpec s bs (write s bs) := by
  -- `{ s with init := true }` differs from `s` in `init` only, so a frame over it is the frame `WriteSpec` asks for
  simp only [write]
  split
  · have F := flush_spec { s with init := true }
    cases hfl : flush { s with init := true } with
    | mk s1 oe =>
      rw [hfl] at F
      cases oe with
      | some e =>
        exact ⟨F.frame.size, F.frame.init, F.frame.stopped, F.frame.sscript, F.frame.grows, Nat.le_trans F.shrink hb, F.err_eq,
          Nat.zero_le _, by rw [List.take_zero, List.append_nil]; exact F.content, by simp⟩
      | none =>
        have hb1 : s1.buf.length ≤ s1.size := by rw [F.frame.size]; exact Nat.le_trans F.shrink hb
        obtain ⟨fr, b, ee, nl, ct, se⟩ := bufioWrite_spec s1 bs hb1
        have fr' := F.frame.trans fr
        exact ⟨fr'.size, fr'.init, fr'.stopped, fr'.sscript, fr'.grows, by rw [← F.frame.size]; exact b, ee, nl,
          by rw [ct, F.content]; rfl, se⟩
  · obtain ⟨fr, b, ee, nl, ct, se⟩ := bufioWrite_spec { s with init := true } bs hb
    exact ⟨fr.size, fr.init, fr.stopped, fr.sscript, fr.grows, b, ee, nl, ct, se⟩

structure SyncSpec (s : St) (r : St × Option EK × Bool) : Prop where
  size : r.1.size = s.size
  init : r.1.init = s.init
  stopped : r.1.stopped = s.stopped
  shrink : r.1.buf.length ≤ s.buf.length
  content : content r.1 = content s
  synced : ∃ evs, r.1.sink = s.sink ++ evs ++ [.sync] ∧ ∀ e ∈ evs, e ≠ .sync
  flushed : (s.init = false → s.buf = []) → r.2.1 = none → r.1.buf = []
  err_keep : s.init = false → r.1.err = s.err ∧ r.1.buf = s.buf
  err_eq : s.init = true → r.2.1 = r.1.err

theorem sync_spec (s : St) : SyncSpec s (sync s) := by
  unfold sync wsSync
  cases hi : s.init with
  | false =>
    simp only [Bool.false_eq_true, if_false]
    exact ⟨rfl, rfl, rfl, Nat.le_refl _, by simp [content], ⟨[], by simp, by simp⟩, fun h _ => h hi, fun _ => ⟨rfl, rfl⟩,
      fun h => (by rw [hi] at h; cases h)⟩
  | true =>
    simp only [if_true]
    have F := flush_spec s
    obtain ⟨evs, hg, hn⟩ := F.frame.grows
    refine ⟨F.frame.size, F.frame.init, F.frame.stopped, F.shrink, ?_, ⟨evs, by simp [hg], hn⟩,
      fun _ h => F.ok_empty h, fun h => (by rw [hi] at h; cases h), fun _ => F.err_eq⟩
    have := F.content
    simp only [Bws.content, taken_append, taken_sync, List.append_nil] at this ⊢
    exact this

structure Wf (s : St) : Prop where
  bound : s.buf.length ≤ s.size
  fresh : s.init = false → s.buf = [] ∧ s.stopped = false ∧ s.err = none

theorem wf_mk (size : Int) (ws : List WOut) (ss : List Bool) : Wf (mk size ws ss) :=
  ⟨Nat.zero_le _, fun _ => ⟨rfl, rfl, rfl⟩⟩

theorem wf_write (s : St) (bs : Bytes) (h : Wf s) : Wf (write s bs).1 := by
  have W := write_spec s bs h.bound
  exact ⟨by rw [W.size]; exact W.bound, fun hi => by rw [W.init] at hi; cases hi⟩

theorem wf_sync (s : St) (h : Wf s) : Wf (sync s).1 := by
  have S := sync_spec s
  refine ⟨by rw [S.size]; exact Nat.le_trans S.shrink h.bound, fun hi => ?_⟩
  rw [S.init] at hi
  obtain ⟨h1, h2, h3⟩ := h.fresh hi
  obtain ⟨k1, k2⟩ := S.err_keep hi
  exact ⟨by rw [k2]; exact h1, by rw [S.stopped]; exact h2, by rw [k1]; exact h3⟩

/-- every `WS.Write` from here on takes everything and returns nil, and no error has stuck so far -/
def Reliable (s : St) : Prop := s.wscript = [] ∧ s.err = none

theorem sinkWrite_reliable (s : St) (p : Bytes) (h : s.wscript = []) :
    (sinkWrite s p).2.1 = p.length ∧ (sinkWrite s p).2.2 = false ∧ (sinkWrite s p).1.wscript = [] ∧
    (sinkWrite s p).1.sink = s.sink ++ [.write p p.length] := by
  cases p <;> simp [sinkWrite, h]

/-- what a flush appends to the sink's event list -/
def flushEv (buf : Bytes) : List Ev := if buf = [] then [] else [.write buf buf.length]

theorem flush_reliable (s : St) (h : Reliable s) :
    (flush s).2 = none ∧ Reliable (flush s).1 ∧ (flush s).1.buf = [] ∧ (flush s).1.sink = s.sink ++ flushEv s.buf := by
  rw [flush_eq, h.2]
  cases hb : s.buf.isEmpty with
  | true =>
    have hnil : s.buf = [] := by simpa using hb
    simp [h, hnil, flushEv]
  | false =>
    have hne : s.buf ≠ [] := by simpa using hb
    obtain ⟨h1, h2, h3, h4⟩ := sinkWrite_reliable s s.buf h.1
    simp only [Bool.false_eq_true, if_false, h1, h2, flushErr, Nat.lt_irrefl]
    simp [Reliable, h3, h4, flushEv, hne, h.2]

/-- `bufio.Writer.Write` on a reliable sink when the write fits or the buffer is empty (which is all
    `BufferedWriteSyncer.Write` ever asks of it): buffered, or handed to the sink in one piece -/
theorem bufioWrite_reliable (s : St) (p : Bytes) (h : Reliable s) (hpre : p.length ≤ s.avail ∨ s.buf = []) :
    (bufioWrite s p).2.1 = p.length ∧ (bufioWrite s p).2.2 = none ∧ Reliable (bufioWrite s p).1 ∧
    (((bufioWrite s p).1.sink = s.sink ∧ (bufioWrite s p).1.buf = s.buf ++ p) ∨
     (s.buf = [] ∧ (bufioWrite s p).1.sink = s.sink ++ [.write p p.length] ∧ (bufioWrite s p).1.buf = [])) := by
  have hf : fuelFor p = (p.length + 1) + 2 := rfl
  rw [bufioWrite, hf]
  by_cases hfit : p.length ≤ s.avail
  · have hc : ¬(p.length > s.avail ∧ s.err = none) := fun hc => absurd hfit (Nat.not_le.mpr hc.1)
    rw [bwrite, if_neg hc]
    simp only [h.2]
    simp [Reliable, h.1]
  · have hnil : s.buf = [] := hpre.resolve_left hfit
    have hc : p.length > s.avail ∧ s.err = none := ⟨Nat.not_le.mp hfit, h.2⟩
    obtain ⟨h1, h2, h3, h4⟩ := sinkWrite_reliable s p h.1
    rw [bwrite, if_pos hc]
    have hbe : s.buf.isEmpty = true := by simp [hnil]
    have hlb1 : (loopBody s p).2 = p.length := by simp only [loopBody, hbe, if_true, h1]
    have hlb2 : (loopBody s p).1.err = none := by simp [loopBody, hbe, h2]
    have hlb3 : (loopBody s p).1.buf = [] := by simp [loopBody, hnil]
    have hlb4 : (loopBody s p).1.sink = s.sink ++ [.write p p.length] := by simp [loopBody, hbe, h4]
    have hlb5 : (loopBody s p).1.wscript = [] := by simp [loopBody, hbe, h3]
    rw [hlb1, List.drop_length]
    have hc2 : ¬(([] : Bytes).length > (loopBody s p).1.avail ∧ (loopBody s p).1.err = none) := by simp
    rw [bwrite, if_neg hc2]
    simp only [hlb2, List.append_nil, List.length_nil, Nat.add_zero]
    simp [Reliable, hlb5, hlb4, hlb3, hnil]

/-- `BufferedWriteSyncer.Write` on a reliable sink: the three cases (buffered; flush then buffered; flush then direct) -/
structure RelWrite (s : St) (bs : Bytes) (r : St × Nat × Option EK) : Prop where
  n : r.2.1 = bs.length
  err : r.2.2 = none
  rel : Reliable r.1
  cases : (r.1.sink = s.sink ∧ r.1.buf = s.buf ++ bs) ∨
    (r.1.sink = s.sink ++ flushEv s.buf ∧ r.1.buf = bs) ∨
    (r.1.sink = s.sink ++ flushEv s.buf ++ [.write bs bs.length] ∧ r.1.buf = [])

theorem write_reliable (s : St) (bs : Bytes) (h : Reliable s) : RelWrite s bs (write s bs) := by
  simp only [write]
  split
  · -- does not fit and something is buffered: flush first, which empties the buffer
    obtain ⟨f1, f2, f3, f4⟩ := flush_reliable { s with init := true } h
    cases hfl : flush { s with init := true } with
    | mk s1 oe =>
      rw [hfl] at f1 f2 f3 f4
      cases f1
      obtain ⟨b1, b2, b3, b4⟩ := bufioWrite_reliable s1 bs f2 (.inr f3)
      refine ⟨b1, b2, b3, ?_⟩
      rcases b4 with ⟨c2, c3⟩ | ⟨_, c2, c3⟩
      · exact .inr (.inl ⟨c2.trans f4, by rw [c3, f3]; rfl⟩)
      · exact .inr (.inr ⟨by rw [c2, f4], c3⟩)
  · rename_i hc
    have hpre : bs.length ≤ s.avail ∨ s.buf = [] := by
      cases hb : s.buf with
      | nil => exact .inr rfl
      | cons x r => exact .inl (Nat.le_of_not_gt fun hgt => hc ⟨hgt, by rw [hb]; exact Nat.succ_pos _⟩)
    obtain ⟨b1, b2, b3, b4⟩ := bufioWrite_reliable { s with init := true } bs h hpre
    refine ⟨b1, b2, b3, ?_⟩
    rcases b4 with c | ⟨hnil, c2, c3⟩
    · exact .inl c
    · have hnil : s.buf = [] := hnil
      exact .inr (.inr ⟨by rw [c2, hnil]; simp [flushEv], c3⟩)

theorem sync_reliable (s : St) (h : Reliable s) (hw : s.init = false → s.buf = []) :
    (sync s).2.1 = none ∧ Reliable (sync s).1 ∧ (sync s).1.buf = [] ∧ (sync s).1.sink = s.sink ++ flushEv s.buf ++ [.sync] := by
  unfold sync wsSync
  cases hi : s.init with
  | false =>
    have := hw hi
    simp only [Bool.false_eq_true, if_false]
    refine ⟨by trivial, h, this, ?_⟩
    simp [flushEv, this]
  | true =>
    obtain ⟨f1, f2, f3, f4⟩ := flush_reliable s h
    simp only [if_true]
    exact ⟨f1, f2, f3, by rw [f4]⟩

/-- the caller writes `ws` are cut into contiguous groups: every sink write is the concatenation of one group and the
    buffer holds the concatenation of the writes after the last group -/
def Aligned (ws : List Bytes) (sink : List Ev) (buf : Bytes) : Prop :=
  ∃ (groups : List (List Bytes)) (pending : List Bytes),
    ws = groups.flatten ++ pending ∧ sinkWrites sink = groups.map List.flatten ∧ buf = pending.flatten

/-- every sink write so far took all it was handed -/
def Full (sink : List Ev) : Prop := ∀ e ∈ sink, e = .sync ∨ ∃ p, e = .write p p.length

theorem aligned_buffer {ws sink buf} (bs : Bytes) (h : Aligned ws sink buf) : Aligned (ws ++ [bs]) sink (buf ++ bs) := by
  obtain ⟨g, p, h1, h2, h3⟩ := h
  exact ⟨g, p ++ [bs], by rw [h1, List.append_assoc], h2, by simp [h3]⟩

theorem aligned_flush {ws sink buf} (h : Aligned ws sink buf) : Aligned ws (sink ++ flushEv buf) [] := by
  obtain ⟨g, p, h1, h2, h3⟩ := h
  unfold flushEv
  by_cases hb : buf = []
  · rw [if_pos hb]
    exact ⟨g, p, h1, by simpa using h2, by rw [← h3, hb]⟩
  · rw [if_neg hb]
    exact ⟨g ++ [p], [], by simp [h1], by simp [h2, h3], rfl⟩

theorem aligned_direct {ws sink} (bs : Bytes) (k : Nat) (h : Aligned ws sink []) :
    Aligned (ws ++ [bs]) (sink ++ [.write bs k]) [] := by
  obtain ⟨g, p, h1, h2, h3⟩ := h
  exact ⟨g ++ [p ++ [bs]], [], by simp [h1], by simp [h2, ← h3], rfl⟩

theorem aligned_sync {ws sink buf} (h : Aligned ws sink buf) : Aligned ws (sink ++ [.sync]) buf := by
  obtain ⟨g, p, h1, h2, h3⟩ := h
  exact ⟨g, p, h1, by simpa using h2, h3⟩

theorem full_append {a b : List Ev} (ha : Full a) (hb : Full b) : Full (a ++ b) := by
  intro e he
  rcases List.mem_append.mp he with h | h
  · exact ha e h
  · exact hb e h

theorem full_flushEv (buf : Bytes) : Full (flushEv buf) := by
  unfold flushEv; split
  · intro e he; cases he
  · intro e he; simp at he; exact Or.inr ⟨buf, he⟩

theorem full_taken : ∀ {sink : List Ev}, Full sink → taken sink = (sinkWrites sink).flatten
  | [], _ => rfl
  | e :: r, h => by
    have hr : Full r := fun x hx => h x (List.mem_cons_of_mem _ hx)
    rcases h e (by simp) with he | ⟨p, he⟩
    · subst he; simp [taken, sinkWrites, full_taken hr]
    · subst he; simp [taken, sinkWrites, full_taken hr]

/-- the invariant of every run over a reliable sink; `ws` = the caller writes so far -/
structure RInv (ws : List Bytes) (s : St) : Prop where
  wf : Wf s
  rel : Reliable s
  aligned : Aligned ws s.sink s.buf
  full : Full s.sink

theorem rinv_mk (size : Int) (ss : List Bool) : RInv [] (mk size [] ss) :=
  ⟨wf_mk _ _ _, ⟨rfl, rfl⟩, ⟨[], [], rfl, rfl, rfl⟩, fun _ h => by cases h⟩

theorem rinv_write {ws s} (bs : Bytes) (h : RInv ws s) : RInv (ws ++ [bs]) (write s bs).1 := by
  have R := write_reliable s bs h.rel
  refine ⟨wf_write s bs h.wf, R.rel, ?_, ?_⟩
  · rcases R.cases with ⟨c2, c3⟩ | ⟨c2, c3⟩ | ⟨c2, c3⟩
    · rw [c2, c3]; exact aligned_buffer bs h.aligned
    · rw [c2, c3]
      have := aligned_buffer bs (aligned_flush h.aligned)
      simpa using this
    · rw [c2, c3]; exact aligned_direct bs _ (aligned_flush h.aligned)
  · rcases R.cases with ⟨c2, _⟩ | ⟨c2, _⟩ | ⟨c2, _⟩
    · rw [c2]; exact h.full
    · rw [c2]; exact full_append h.full (full_flushEv _)
    · rw [c2]
      refine full_append (full_append h.full (full_flushEv _)) ?_
      intro e he; simp at he; exact Or.inr ⟨bs, he⟩

theorem rinv_sync {ws s} (h : RInv ws s) : RInv ws (sync s).1 := by
  obtain ⟨_, r2, r3, r4⟩ := sync_reliable s h.rel (fun hi => (h.wf.fresh hi).1)
  refine ⟨wf_sync s h.wf, r2, ?_, ?_⟩
  · rw [r3, r4]; exact aligned_sync (aligned_flush h.aligned)
  · rw [r4]
    refine full_append (full_append h.full (full_flushEv _)) ?_
    intro e he; simp at he; exact Or.inl he

theorem writesOf_append (a b : List Op) : writesOf (a ++ b) = writesOf a ++ writesOf b := by
  induction a with
  | nil => rfl
  | cons o os ih => cases o <;> simp [writesOf, ih]

/-- what a crash can leave behind: the bytes of any prefix of the sink's event list are whole caller writes -/
theorem aligned_prefix {ws : List Bytes} {sink : List Ev} {buf : Bytes} (ha : Aligned ws sink buf) (hf : Full sink)
    (pre : List Ev) (hp : pre <+: sink) : ∃ k, taken pre = (ws.take k).flatten := by
  obtain ⟨g, p, h1, h2, _⟩ := ha
  obtain ⟨rest, hr⟩ := hp
  have hfp : Full pre := fun e he => hf e (by rw [← hr]; exact List.mem_append_left _ he)
  have hsw : sinkWrites pre ++ sinkWrites rest = g.map List.flatten := by rw [← h2, ← hr, sinkWrites_append]
  have hpre : sinkWrites pre = (g.take (sinkWrites pre).length).map List.flatten := by
    have : sinkWrites pre = (sinkWrites pre ++ sinkWrites rest).take (sinkWrites pre).length := by simp
    rw [hsw, ← List.map_take] at this
    exact this
  obtain ⟨j, hj⟩ : ∃ j, sinkWrites pre = (g.take j).map List.flatten := ⟨_, hpre⟩
  refine ⟨(g.take j).flatten.length, ?_⟩
  have hg : g.flatten = (g.take j).flatten ++ (g.drop j).flatten := by
    rw [← List.flatten_append, List.take_append_drop]
  rw [full_taken hfp, hj, h1, hg, List.append_assoc, List.take_left' rfl, List.flatten_flatten]

theorem run_append (a b : List Op) : ∀ s, run s (a ++ b) = run (run s a) b := by
  induction a with
  | nil => intro s; rfl
  | cons o os ih => intro s; simp only [List.cons_append, run]; exact ih _

theorem accepted_append (a b : List Op) : ∀ s, accepted s (a ++ b) = accepted s a ++ accepted (run s a) b := by
  induction a with
  | nil => intro s; simp [accepted, run]
  | cons o os ih =>
    intro s
    cases o <;> simp only [List.cons_append, accepted, run, step, ih, List.append_assoc]

/-- the sink only grows under a `Write` (also outside the well-formed states, where nothing is claimed about the bound) -/
theorem write_sink_prefix (s : St) (bs : Bytes) : s.sink <+: (write s bs).1.sink := by
  have key : ∀ (fuel : Nat) (s : St) (p : Bytes) (nn : Nat), s.sink <+: (bwrite fuel s p nn).1.sink := by
    intro fuel
    induction fuel with
    | zero => intro s p nn; exact List.prefix_refl _
    | succ f ih =>
      intro s p nn
      rw [bwrite]
      split
      · refine List.IsPrefix.trans ?_ (ih _ _ _)
        unfold loopBody
        split
        · exact ⟨_, (sinkWrite_sink s p).symm⟩
        · obtain ⟨evs, h, _⟩ := (flush_spec { s with buf := s.buf ++ p.take s.avail }).frame.grows
          exact ⟨evs, h.symm⟩
      · split <;> exact List.prefix_refl _
  simp only [write]
  split
  · obtain ⟨evs, h, _⟩ := (flush_spec { s with init := true }).frame.grows
    have hp : s.sink <+: (flush { s with init := true }).1.sink := ⟨evs, h.symm⟩
    cases hfl : flush { s with init := true } with
    | mk s1 oe =>
      rw [hfl] at hp
      cases oe with
      | some e => exact hp
      | none => exact hp.trans (key _ _ _ _)
  · exact key _ { s with init := true } _ _

theorem sync_sink_prefix (s : St) : s.sink <+: (sync s).1.sink := by
  obtain ⟨evs, h, _⟩ := (sync_spec s).synced
  exact ⟨evs ++ [.sync], by rw [h, List.append_assoc]⟩

theorem taken_prefix {a b : List Ev} (h : a <+: b) : taken a <+: taken b := by
  obtain ⟨r, hr⟩ := h
  exact ⟨taken r, by rw [← hr, taken_append]⟩

theorem write_sticky (s : St) (bs : Bytes) (e : EK) (he : s.err = some e) :
    write s bs = ({ s with init := true }, 0, some e) := by
  unfold write
  have hf : flush { s with init := true } = ({ s with init := true }, some e) := (flush_spec _).sticky e he
  have hb : bufioWrite { s with init := true } bs = ({ s with init := true }, 0, some e) := by
    unfold bufioWrite fuelFor
    rw [bwrite, if_neg (by simp [he])]
    simp only [he]
  simp only [hf, hb, ite_self]

/-- an operation that flushes: `Sync`; a tick or `Stop` while the syncer has not been stopped -/
def FlushOp (s : St) (o : Op) : Prop := o = .sync ∨ ((o = .tick ∨ o = .stop) ∧ s.stopped = false)

theorem flushop_empty (s : St) (o : Op) (hw : Wf s) (hf : FlushOp s o) (he : (step s o).1.err = none) :
    (step s o).1.buf = [] := by
  have key : ∀ t : St, Wf t → (sync t).1.err = none → (sync t).1.buf = [] := by
    intro t ht h
    have S := sync_spec t
    cases hi : t.init with
    | false => rw [(S.err_keep hi).2]; exact (ht.fresh hi).1
    | true => exact S.flushed (fun h' => by rw [hi] at h'; cases h') (by rw [S.err_eq hi]; exact h)
  rcases hf with rfl | ⟨rfl | rfl, hs⟩
  · exact key s hw he
  · simp only [step, tick] at he ⊢
    cases hi : s.init with
    | false => simp; exact (hw.fresh hi).1
    | true =>
      simp only [hi, hs, Bool.not_false, Bool.and_self, if_true] at he ⊢
      exact key s hw he
  · simp only [step, stop] at he ⊢
    cases hi : s.init with
    | false => simp; exact (hw.fresh hi).1
    | true =>
      simp only [hi, hs, Bool.not_true, Bool.or_self, Bool.false_eq_true, if_false] at he ⊢
      exact key _ ⟨hw.bound, fun h' => by simp at h'⟩ he

theorem flushop_accepts_nothing (s : St) (o : Op) (hf : FlushOp s o) : accepted s [o] = [] := by
  rcases hf with rfl | ⟨rfl | rfl, _⟩ <;> rfl

theorem flushop_synced (s : St) (o : Op) (hf : FlushOp s o) (hi : s.init = true) :
    (step s o).1.sink.getLast? = some .sync := by
  have key : ∀ t : St, (sync t).1.sink.getLast? = some .sync := by
    intro t
    obtain ⟨evs, h, _⟩ := (sync_spec t).synced
    rw [h]; simp
  rcases hf with rfl | ⟨rfl | rfl, hs⟩
  · exact key s
  · simp only [step, tick, hi, hs, Bool.not_false, Bool.and_self, if_true]; exact key s
  · simp only [step, stop, hi, hs, Bool.not_true, Bool.or_self, Bool.false_eq_true, if_false]; exact key _

theorem stop_twice (s : St) : stop (stop s).1 = ((stop s).1, none, false) := by
  unfold stop
  by_cases hc : (!s.init || s.stopped) = true
  · simp only [hc, if_true]
  · have hi : s.init = true := by cases h : s.init <;> simp [h] at hc ⊢
    simp only [hc]
    have S := sync_spec { s with stopped := true }
    have : (sync { s with stopped := true }).1.stopped = true := S.stopped
    simp [this]

end ZapVerif.Bws
