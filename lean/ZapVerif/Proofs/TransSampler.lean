import ZapVerif.Proofs.GoMini
import ZapVerif.Model.TransSamplerX
/-! Lookup facts and width arithmetic for the `…_matches_source` theorems of Props/C11.lean about
    Gen/TransSampler.lean.  Nothing here depends on the shape of the generated terms. -/
namespace ZapVerif.TransSampler
open ZapVerif ZapVerif.GoMini ZapVerif.Sampler ZapVerif.Gen.TransSampler

@[simp] theorem X_funs (en : Int → Bool) : (X en).funs = funs := rfl
@[simp] theorem X_ext (en : Int → Bool) : (X en).ext = ext en := rfl
@[simp] theorem bi_enabled (a : List Val) : builtin "Enabled" a = none := builtin_none _ _ (by simp)
@[simp] theorem bi_get (a : List Val) : builtin "counts.get" a = none := builtin_none _ _ (by simp)
@[simp] theorem ext_enabled (en : Int → Bool) (l : Int) : ext en "Enabled" [.int l] = some [.bool (en l)] := by
  table_lookup ext ext.match_1
@[simp] theorem ext_get (en : Int → Bool) (c : Val) (l : Int) (m : Bytes) :
    ext en "counts.get" [c, .int l, .bytes m] = some [.list [.int l, .int (Sampler.bucket m)]] := by
  table_lookup ext ext.match_1
@[simp] theorem ext_hook (en : Int → Bool) (tr : List Val) (e : Val) (d : Int) :
    ext en "hook" [.list tr, e, .int d] = some [.list (tr ++ [.int d])] := by
  table_lookup ext ext.match_1
@[simp] theorem ext_core (en : Int → Bool) (fw : List Val) (e ce : Val) :
    ext en "Core.Check" [.list fw, e, ce] = some [.list (fw ++ [e]), .list [ce]] := by
  table_lookup ext ext.match_1

/-- one round of FNV-1a on `Int`s as GoMini computes it = the `UInt32` round of `Model/Sampler.lean` -/
theorem fnv_round (h : UInt32) (b : UInt8) :
    wrap .u32 (((h.toNat ^^^ (wrap .u32 (b.toNat : Int)).toNat : Nat) : Int) * 16777619) =
      (((h ^^^ b.toUInt32) * fnvPrime).toNat : Int) := by
  have hb : wrap .u32 (b.toNat : Int) = b.toNat := wrap_u32_id _ (by omega) (by have := b.toNat_lt; omega)
  rw [hb, Int.toNat_natCast, UInt32.toNat_mul, UInt32.toNat_xor, UInt8.toNat_toUInt32]
  -- both sides are now the product of the same naturals modulo 2^32, once on `Int` and once on `Nat`
  rfl

/-- `(n - first) % thereafter` on uint64 as GoMini computes it: for `first < n` the subtraction does not wrap and the
    remainder is the one on naturals -/
theorem rem_u64_eq_zero (n N M : Nat) (hn : (n : Int) < 18446744073709551616) (hlt : N < n) :
    wrap .u64 ((wrap .u64 ((n : Int) - N)).tmod M) = 0 ↔ (n - N) % M = 0 := by
  have := Nat.mod_le (n - N) M
  rw [wrap_u64_id ((n : Int) - N) (by omega) (by omega), ← Int.natCast_sub (by omega), ← Int.ofNat_tmod,
    wrap_u64_id _ (Int.natCast_nonneg _) (by omega)]
  exact Int.natCast_eq_zero

end ZapVerif.TransSampler
