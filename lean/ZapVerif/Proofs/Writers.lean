import ZapVerif.Model.Writers
/-! What a fold of `Writers.multiStep` does to each component of the accumulator (count, delivered bytes, errors). -/
namespace ZapVerif.Writers
open ZapVerif

theorem fold_count_le (p : Bytes) (outs : List Out) (a : Acc) (c : Nat) (h : a.count = some c) :
    ∃ c', (outs.foldl (multiStep p) a).count = some c' ∧ c' ≤ c ∧ (∀ o ∈ outs, c' ≤ o.n) ∧
      (c' = c ∨ ∃ o ∈ outs, c' = o.n) := by
  induction outs generalizing a c with
  | nil => exact ⟨c, h, Nat.le_refl _, by simp, Or.inl rfl⟩
  | cons o r ih =>
    have hc : (multiStep p a o).count = some (min c o.n) := by simp [multiStep, h]
    obtain ⟨c', h1, h2, h3, h4⟩ := ih (multiStep p a o) (min c o.n) hc
    refine ⟨c', by simpa [List.foldl_cons] using h1, Nat.le_trans h2 (Nat.min_le_left _ _), ?_, ?_⟩
    · intro x hx
      rcases List.mem_cons.mp hx with rfl | hx
      · exact Nat.le_trans h2 (Nat.min_le_right _ _)
      · exact h3 x hx
    · rcases h4 with h4 | ⟨x, hx, hxe⟩
      · rcases Nat.le_total c o.n with hle | hle
        · left; rw [h4, Nat.min_eq_left hle]
        · right; exact ⟨o, by simp, by rw [h4, Nat.min_eq_right hle]⟩
      · right; exact ⟨x, List.mem_cons_of_mem _ hx, hxe⟩

theorem fold_delivered (p : Bytes) (outs : List Out) (a : Acc) :
    (outs.foldl (multiStep p) a).delivered = a.delivered ++ List.replicate outs.length p ∧
    (outs.foldl (multiStep p) a).idx = a.idx + outs.length := by
  induction outs generalizing a with
  | nil => simp
  | cons o r ih =>
    have := ih (multiStep p a o)
    simp only [List.foldl_cons, List.length_cons]
    rw [this.1, this.2]
    simp [multiStep, List.replicate_succ, Nat.add_assoc, Nat.add_comm 1]

theorem fold_errs (p : Bytes) (outs : List Out) (a : Acc) :
    (outs.foldl (multiStep p) a).errs =
      a.errs ++ ((outs.zipIdx a.idx).filter (·.1.err)).map (·.2) := by
  induction outs generalizing a with
  | nil => simp
  | cons o r ih =>
    simp only [List.foldl_cons, List.zipIdx_cons]
    rw [ih]
    by_cases he : o.err <;> simp [multiStep, he]

end ZapVerif.Writers
