import ZapVerif.Model.Enc
import ZapVerif.Proofs.Json
/-! The crux of C01/C02/C10/C16: the streaming encoder that decides separators from the LAST BYTE of its buffer
    equals the compositional output function, for every nested call tree, in compact and spaced mode. -/
namespace ZapVerif.Enc
open ZapVerif ZapVerif.Esc ZapVerif.Json

/-- Induction over call lists.  `OC`/`AC` are nested through `List`, so Lean compiles a `mutual` recursion over
    `List OC` / `List AC` by well-founded recursion, which is slow to check; the recursor of the nested inductive gives
    the same principle directly: one case per call constructor, with the hypothesis for the body and for the rest. -/
theorem calls_induct {P : List OC → Prop} {Q : List AC → Prop}
    (nil : P [])
    (prim : ∀ k v r, P r → P (OC.prim k v :: r))
    (obj : ∀ k body r, P body → P r → P (OC.obj k body :: r))
    (arr : ∀ k body r, Q body → P r → P (OC.arr k body :: r))
    (ns : ∀ k r, P r → P (OC.ns k :: r))
    (anil : Q [])
    (aprim : ∀ v r, Q r → Q (AC.prim v :: r))
    (aobj : ∀ body r, P body → Q r → Q (AC.obj body :: r))
    (aarr : ∀ body r, Q body → Q r → Q (AC.arr body :: r)) :
    (∀ l, P l) ∧ (∀ l, Q l) :=
  ⟨fun l => OC.rec_1 (motive_1 := fun c => ∀ r, P r → P (c :: r)) (motive_2 := fun a => ∀ r, Q r → Q (a :: r))
      (motive_3 := P) (motive_4 := Q)
      (fun k v r => prim k v r) (fun k body hb r => obj k body r hb) (fun k body hb r => arr k body r hb) (fun k r => ns k r)
      (fun v r => aprim v r) (fun body hb r => aobj body r hb) (fun body hb r => aarr body r hb)
      nil (fun _ tail hh ht => hh tail ht) anil (fun _ tail hh ht => hh tail ht) l,
   fun l => OC.rec_2 (motive_1 := fun c => ∀ r, P r → P (c :: r)) (motive_2 := fun a => ∀ r, Q r → Q (a :: r))
      (motive_3 := P) (motive_4 := Q)
      (fun k v r => prim k v r) (fun k body hb r => obj k body r hb) (fun k body hb r => arr k body r hb) (fun k r => ns k r)
      (fun v r => aprim v r) (fun body hb r => aobj body r hb) (fun body hb r => aarr body r hb)
      nil (fun _ tail hh ht => hh tail ht) anil (fun _ tail hh ht => hh tail ht) l⟩

/-- classification of a buffer by what `addElementSeparator` will do next:
    `first = true`: nothing is added (empty buffer, or last byte one of `{ [ : , space`) -/
def St (buf : Bytes) (first : Bool) : Prop :=
  (buf = [] ∧ first = true) ∨ (buf.getLast?.map skip) = some first

theorem sep_of_state {sp : Bool} {buf : Bytes} {first : Bool} (h : St buf first) :
    sep sp buf = buf ++ comma sp first := by
  rcases h with ⟨rfl, rfl⟩ | h
  · simp [sep, comma]
  · unfold sep comma
    cases hl : buf.getLast? with
    | none => simp [hl] at h
    | some c => cases first <;> cases sp <;> simp_all

theorem st_app (buf t : Bytes) (first : Bool) (h : (t.getLast?.map skip) = some first) : St (buf ++ t) first := by
  right
  rw [List.getLast?_append]
  cases ht : t.getLast? with
  | none => simp [ht] at h
  | some c => simpa [ht] using h

theorem st_snoc (t : Bytes) (c : UInt8) : St (t ++ [c]) (skip c) := by
  right; simp

theorem last_cons (c : UInt8) (t : Bytes) (b : Bool) (h : (t.getLast?.map skip) = some b) :
    ((c :: t).getLast?.map skip) = some b := by
  cases t with
  | nil => simp at h
  | cons x r => simpa [List.getLast?_cons_cons] using h

theorem last_app (a t : Bytes) (b : Bool) (h : (t.getLast?.map skip) = some b) :
    ((a ++ t).getLast?.map skip) = some b := by
  rw [List.getLast?_append]
  cases ht : t.getLast? with
  | none => simp [ht] at h
  | some c => simpa [ht] using h

theorem last_close (n : Nat) : ((125 :: List.replicate n 125 : Bytes).getLast?.map skip) = some false := by
  have : (125 :: List.replicate n 125 : Bytes) = List.replicate (n + 1) 125 := by simp [List.replicate_succ]
  rw [this, List.getLast?_replicate]; simp; decide

theorem skip_of_tokenChar (c : UInt8) (h : tokenChar c = true) : skip c = false := by
  cases hs : skip c with
  | false => rfl
  | true =>
    simp only [skip, Bool.or_eq_true, beq_iff_eq] at hs
    rcases hs with (((rfl | rfl) | rfl) | rfl) | rfl <;> cases h

theorem render_last (v : J) (h : WFj v) : ((render v).getLast?.map skip) = some false := by
  cases v with
  | str b => rw [render]; exact last_cons _ _ _ (last_app _ _ _ (by decide))
  | atom t =>
    obtain ⟨hne, hall⟩ := (by simpa [WFj] using h : atomOK t)
    rw [render]
    cases hl : t.getLast? with
    | none => exact absurd (List.getLast?_eq_none_iff.mp hl) hne
    | some c => exact congrArg some (skip_of_tokenChar c (hall c (List.mem_of_getLast? hl)))
  | arr xs => rw [render]; exact last_cons _ _ _ (last_app _ _ _ (by decide))
  | obj kvs => rw [render]; exact last_cons _ _ _ (last_app _ _ _ (by decide))

theorem colon_last (sp : Bool) : ((colon sp).getLast?.map skip) = some true := by
  cases sp <;> simp [colon] <;> decide

theorem addKey_of_state {sp : Bool} {buf k : Bytes} {first : Bool} (h : St buf first) :
    addKey sp buf k = buf ++ (comma sp first ++ keyOut sp k) := by
  unfold addKey keyOut; rw [sep_of_state h]; simp

theorem st_key (sp : Bool) (pre k : Bytes) : St (pre ++ keyOut sp k) true := by
  apply st_app
  unfold keyOut
  apply last_cons; apply last_app; apply last_cons; exact colon_last sp

/-- after a key the separator rule adds nothing: `addKey` ends in `:` or `: ` -/
theorem sep_addKey (sp : Bool) (b k : Bytes) : sep sp (addKey sp b k) = addKey sp b k := by
  have hs : St (addKey sp b k) true := st_key sp (sep sp b) k
  rw [sep_of_state hs]; simp [comma]

theorem run_eq_out (sp : Bool) :
    (∀ (calls : List OC) (buf : Bytes) (n : Nat) (first : Bool), St buf first → WFo calls →
      runO sp ⟨buf, n⟩ calls = ⟨buf ++ (outO sp first calls).1, n + (outO sp first calls).2⟩) ∧
    (∀ (calls : List AC) (buf : Bytes) (first : Bool), St buf first → WFa calls →
      runA sp buf calls = buf ++ outA sp first calls) := by
  apply calls_induct
  · intro buf n first _ _; simp [runO, outO]
  · intro k v r ih buf n first hs hok
    obtain ⟨hv, hr⟩ := (by simpa [WFo] using hok : WFj v ∧ WFo r)
    rw [runO, sep_addKey, addKey_of_state hs, ih _ n false (st_app _ _ false (render_last v hv)) hr]
    simp [outO, List.append_assoc]
  · intro k body r ihb ih buf n first hs hok
    obtain ⟨hb, hr⟩ := (by simpa [WFo] using hok : WFo body ∧ WFo r)
    rw [runO, sep_addKey, addKey_of_state hs,
      ihb _ 0 true (st_snoc _ 123) hb, ih _ n false (st_app _ _ false (last_close _)) hr]
    simp [outO, List.append_assoc]
  · intro k body r ihb ih buf n first hs hok
    obtain ⟨hb, hr⟩ := (by simpa [WFo] using hok : WFa body ∧ WFo r)
    rw [runO, sep_addKey, addKey_of_state hs,
      ihb _ true (st_snoc _ 91) hb, ih _ n false (st_snoc _ 93) hr]
    simp [outO, List.append_assoc]
  · intro k r ih buf n first hs hok
    have hr : WFo r := by simpa [WFo] using hok
    rw [runO, addKey_of_state hs, ih _ (n + 1) true (st_snoc _ 123) hr]
    simp [outO, List.append_assoc]; omega
  · intro buf first _ _; simp [runA, outA]
  · intro v r ih buf first hs hok
    obtain ⟨hv, hr⟩ := (by simpa [WFa] using hok : WFj v ∧ WFa r)
    rw [runA, sep_of_state hs, ih _ false (st_app _ _ false (render_last v hv)) hr]
    simp [outA, List.append_assoc]
  · intro body r ihb ih buf first hs hok
    obtain ⟨hb, hr⟩ := (by simpa [WFa] using hok : WFo body ∧ WFa r)
    rw [runA, sep_of_state hs,
      ihb _ 0 true (st_snoc _ 123) hb, ih _ false (st_app _ _ false (last_close _)) hr]
    simp [outA, List.append_assoc]
  · intro body r ihb ih buf first hs hok
    obtain ⟨hb, hr⟩ := (by simpa [WFa] using hok : WFa body ∧ WFa r)
    rw [runA, sep_of_state hs, ihb _ true (st_snoc _ 91) hb, ih _ false (st_snoc _ 93) hr]
    simp [outA, List.append_assoc]

theorem runO_eq (sp : Bool) : ∀ (calls : List OC) (buf : Bytes) (n : Nat) (first : Bool),
    St buf first → WFo calls →
    runO sp ⟨buf, n⟩ calls = ⟨buf ++ (outO sp first calls).1, n + (outO sp first calls).2⟩ :=
  (run_eq_out sp).1

theorem runA_eq (sp : Bool) : ∀ (calls : List AC) (buf : Bytes) (first : Bool),
    St buf first → WFa calls →
    runA sp buf calls = buf ++ outA sp first calls :=
  (run_eq_out sp).2

end ZapVerif.Enc
