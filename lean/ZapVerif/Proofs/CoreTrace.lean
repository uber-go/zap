import ZapVerif.Model.Core
import ZapVerif.Proofs.Core
/-! event-trace lemmas: `Check` and `With` only append marshal / sampler-decision events -/
namespace ZapVerif.Cores

def Ev.checkTime : Ev → Bool
  | .marshal _ _ => true
  | .samp _ _ => true
  | _ => false

def Ev.isTerm : Ev → Bool
  | .term _ => true
  | _ => false

/-- `w'` extends `w` by check-time events only -/
def Ext (w w' : W) : Prop := ∃ new, w'.evs = w.evs ++ new ∧ ∀ e ∈ new, e.checkTime = true

theorem Ext.refl (w : W) : Ext w w := ⟨[], by simp, by simp⟩

theorem Ext.trans {a b c : W} (h1 : Ext a b) (h2 : Ext b c) : Ext a c := by
  obtain ⟨n1, e1, p1⟩ := h1
  obtain ⟨n2, e2, p2⟩ := h2
  refine ⟨n1 ++ n2, by rw [e2, e1, List.append_assoc], ?_⟩
  intro e he
  rcases List.mem_append.mp he with h | h
  · exact p1 e h
  · exact p2 e h

theorem Ext.emit (w : W) (es : List Ev) (h : ∀ e ∈ es, e.checkTime = true) : Ext w (w.emit es) :=
  ⟨es, by simp [W.emit], h⟩

theorem Ext.emit1 (w : W) (e : Ev) (h : e.checkTime = true) : Ext w (w.emit [e]) :=
  Ext.emit w [e] fun e' he => by rw [List.mem_singleton.mp he]; exact h

theorem Ext.setSnap (w : W) (s : Snap) : Ext w { w with snap := s } := ⟨[], by simp, by simp⟩

theorem withEv_ext (μ : Val) :
    (∀ (c : Core) (fs : List Fld) (w : W), Ext w (withEv μ c fs w)) ∧
    (∀ (cs : List Core) (fs : List Fld) (w : W), Ext w (withEvAll μ cs fs w)) := by
  apply core_induct
  · intro id en io ctx fs w
    simp only [withEv]; split
    · apply Ext.emit; intro e he
      obtain ⟨f, _, rfl⟩ := List.mem_map.mp he; rfl
    · exact Ext.refl w
  · intro fs w; simp only [withEv]; exact Ext.refl w
  · intro cs ih fs w; simp only [withEv]; exact ih fs w
  · intro c en ih fs w; simp only [withEv]; exact ih fs w
  · intro c h ih fs w; simp only [withEv]; exact ih fs w
  · intro c s p ih fs w; simp only [withEv]; exact ih fs w
  · intro cell c pfs ih fs w
    simp only [withEv]
    cases hs : w.snap cell with
    | some r => simp only []; exact ih fs w
    | none =>
      simp only []
      exact ((ih _ w).trans (Ext.setSnap _ _)).trans (ih fs _)
  · intro fs w; simp only [withEvAll]; exact Ext.refl w
  · intro c cs ih ihs fs w
    simp only [withEvAll]; exact (ih fs w).trans (ihs fs _)

theorem withEvAll_ext (μ : Val) : ∀ (cs : List Core) (fs : List Fld) (w : W), Ext w (withEvAll μ cs fs w) :=
  (withEv_ext μ).2

theorem forceCell_ext (μ : Val) (cell : Nat) (c : Core) (pfs : List Fld) (w : W) : Ext w (forceCell μ cell c pfs w) := by
  unfold forceCell
  cases hs : w.snap cell with
  | some r => exact Ext.refl w
  | none => exact ((withEv_ext μ).1 c _ w).trans (Ext.setSnap _ _)

theorem checkEv_ext (σ : Store) (μ : Val) (l : Level) :
    (∀ (c : Core) (w : W), Ext w (checkEv σ μ l c w)) ∧
    (∀ (cs : List Core) (w : W), Ext w (checkEvAll σ μ l cs w)) := by
  apply core_induct
  · intro id en io ctx w; simp only [checkEv]; exact Ext.refl w
  · intro w; simp only [checkEv]; exact Ext.refl w
  · intro cs ih w; simp only [checkEv]; exact ih w
  · intro c en ih w
    simp only [checkEv]; split
    · exact ih w
    · exact Ext.refl w
  · intro c h ih w; simp only [checkEv]; exact ih w
  · intro c s p ih w
    simp only [checkEv]; split
    · exact Ext.refl w
    · split
      · split
        · exact (Ext.emit1 w (.samp s true) rfl).trans (ih _)
        · exact Ext.emit1 w (.samp s false) rfl
      · exact ih w
  · intro cell c pfs ih w
    simp only [checkEv]; split
    · exact Ext.refl w
    · exact (forceCell_ext μ cell c pfs w).trans (ih _)
  · intro w; simp only [checkEvAll]; exact Ext.refl w
  · intro c cs ih ihs w
    simp only [checkEvAll]; exact (ih w).trans (ihs _)

theorem checkEvAll_ext (σ : Store) (μ : Val) (l : Level) : ∀ (cs : List Core) (w : W), Ext w (checkEvAll σ μ l cs w) :=
  (checkEv_ext σ μ l).2

theorem writeItem_noterm (μ : Val) (l : Level) (fs : List Fld) (it : Item) : ∀ e ∈ writeItem μ l fs it, e.isTerm = false := by
  intro e he
  cases it with
  | hook h => simp [writeItem] at he; subst he; rfl
  | leaf id io ctx =>
    simp only [writeItem] at he
    split at he
    · simp only [List.mem_append, List.mem_map, List.mem_singleton] at he
      rcases he with (⟨f, _, rfl⟩ | rfl) | he
      · rfl
      · rfl
      · split at he
        · simp at he; subst he; rfl
        · simp at he
    · simp at he; subst he; rfl

theorem checkTime_noterm (e : Ev) (h : e.checkTime = true) : e.isTerm = false := by
  cases e <;> simp_all [Ev.checkTime, Ev.isTerm]

/-- the trace of `Logger.checked`: what was there, check-time events, one block per accepting core in CheckedEntry
    order, then the terminal action (if any) -/
theorem checked_trace (σ : Store) (μ : Val) (lg : Logger) (l : Level) (fs : List Fld) (w : W) :
    (lg.checked σ μ l fs w).evs =
      (checkEv σ μ l lg.core w).evs ++
      (check σ (checkEv σ μ l lg.core w).snap l lg.core [] []).flatMap (writeItem μ l fs) ++
      termEvs (lg.terminal l) := by
  simp [Logger.checked, CE.write, W.emit, List.append_assoc]

end ZapVerif.Cores
