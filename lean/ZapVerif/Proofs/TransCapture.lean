import ZapVerif.Proofs.GoMini
import ZapVerif.Model.TransCaptureX
/-! Lookup facts for `Capture_matches_source` (Props/C15.lean) about Gen/TransCapture.lean.  Nothing here depends on
    the generated term. -/
namespace ZapVerif.TransCapture
open ZapVerif ZapVerif.GoMini ZapVerif.Gen.TransCapture

@[simp] theorem X_funs (P : Par) : (X P).funs = funs := id rfl
@[simp] theorem X_ext (P : Par) : (X P).ext = ext P := id rfl
@[simp] theorem ext_eq (P : Par) :
    (∀ skip pcs, ext P "runtime.Callers" [.int skip, .list pcs] =
      some [.list (callersV P.st skip pcs).1, .int (callersV P.st skip pcs).2]) ∧
    (∀ pcs, ext P "runtime.CallersFrames" [pcs] = some [framesV pcs]) := by
  unfold ext ext.match_1
  simp only [String.reduceEq, ↓reduceDIte, implies_true, and_true]
theorem ext_zeros (P : Par) (n : Nat) :
    ext P "make.zeros" [.int (n : Int)] = some [.list (List.replicate n (.int 0))] := by
  simp [ext]
@[simp] theorem builtin_ext (a : List Val) : builtin "runtime.CallersFrames" a = none ∧ builtin "make.zeros" a = none := by
  simp [builtin]

end ZapVerif.TransCapture
