import ZapVerif.Proofs.GoMini
import ZapVerif.Model.TransLevelX
/-! Lookup facts for the `…_matches_source` theorems of Props/C20.lean (and C05) about Gen/TransLevel.lean.  Nothing here
    depends on the generated terms. -/
namespace ZapVerif.TransLevel
open ZapVerif ZapVerif.GoMini ZapVerif.Gen.TransLevel

@[simp] theorem X_funs (P : Par) : (X P).funs = funs := id rfl
@[simp] theorem X_ext (P : Par) : (X P).ext = ext P := id rfl
/-- the standard library is a set of parameters, the error constructors are free constructors, `WriteHeader` / `Encode`
    only leave their record -/
@[simp] theorem ext_eq (P : Par) :
    (∀ t, ext P "bytes.ToLower" [.bytes t] = some [.bytes (P.lower t)]) ∧
    (∀ f l, ext P "fmt.Sprintf" [.bytes f, .int l] = some [.bytes (P.sprintf f l)]) ∧
    (∀ args, ext P "fmt.Errorf" args = some [errV "fmt.Errorf" args]) ∧
    (∀ args, ext P "errors.New" args = some [errV "errors.New" args]) ∧
    (∀ e, ext P "assert.leveledEnabler" [e] =
      some (match P.asLeveled e with | some lv => [lv, .bool true] | none => [.list [], .bool false])) ∧
    (∀ lv, ext P "LeveledEnabler.Level" [lv] = some [.int (P.leveledLevel lv)]) ∧
    (∀ e l, ext P "LevelEnabler.Enabled" [e, .int l] = some [.bool (P.enabled e l)]) ∧
    (∀ r k, ext P "Request.FormValue" [r, .bytes k] = some [.bytes (P.formValue r k)]) ∧
    (∀ h k, ext P "Header.Get" [h, .bytes k] = some [.bytes (P.headerGet h k)]) ∧
    (∀ b p, ext P "json.Decode" [b, p] = some [.list [.list (P.jsonDecode b).1], .list (P.jsonDecode b).2]) ∧
    (∀ e, ext P "error.Error" [e] = some [.bytes (P.errText e)]) ∧
    (∀ w, ext P "json.NewEncoder" [w] = some [.list [nm "json.NewEncoder", w]]) ∧
    (∀ e v, ext P "json.Encode" [e, v] = some [.list (P.encodeErr e v)]) ∧
    (∀ w c, ext P "ResponseWriter.WriteHeader" [w, c] = some []) ∧
    (∀ v, ext P "id" [v] = some [v]) ∧
    (∀ a v, ext P "set" [a, v] = some [v]) := by
  unfold ext ext.match_3
  simp only [String.reduceEq, ↓reduceDIte, implies_true, true_and, and_true]
  exact fun _ => rfl

@[simp] theorem builtin_ext (a : List Val) :
    builtin "bytes.ToLower" a = none ∧ builtin "fmt.Sprintf" a = none ∧ builtin "fmt.Errorf" a = none ∧
    builtin "errors.New" a = none ∧ builtin "LeveledEnabler.Level" a = none ∧ builtin "LevelEnabler.Enabled" a = none ∧
    builtin "Request.FormValue" a = none ∧ builtin "Header.Get" a = none ∧ builtin "error.Error" a = none ∧
    builtin "json.NewEncoder" a = none ∧ builtin "id" a = none := by
  simp [builtin]

@[simp] theorem bi_5 (a : List Val) : builtin "LevelEnabler.Enabled" a = none := (builtin_ext a).2.2.2.2.2.1

theorem nm_encode : nm "json.Encode" = .bytes [106, 115, 111, 110, 46, 69, 110, 99, 111, 100, 101] := congrArg Val.bytes (by decide +kernel)
theorem nm_writeHeader : nm "ResponseWriter.WriteHeader" = .bytes [82, 101, 115, 112, 111, 110, 115, 101, 87, 114, 105, 116, 101, 114, 46, 87, 114, 105, 116, 101, 72, 101, 97, 100, 101, 114] :=
  congrArg Val.bytes (by decide +kernel)

theorem errV_ne_nil (c : String) (a : List Val) : errV c a = .list [.list (nm c :: a)] := rfl

end ZapVerif.TransLevel
