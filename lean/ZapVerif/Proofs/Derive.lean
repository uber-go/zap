import ZapVerif.Model.Derive
import ZapVerif.Model.Slices
import ZapVerif.Proofs.Core
/-! helper lemmas for C07: With commutes with Check, once-cells are stable and initialised before they are read, names, slices -/
namespace ZapVerif.Cores

/-- checking a core derived by `With(fs)` is checking the original with `fs` pending in front -/
theorem check_pushF_both (σ : Store) (sn : Snap) (l : Level) :
    (∀ (c : Core) (fs pend : List FldP) (ce : List Item),
      check σ sn l (pushF sn c fs) pend ce = check σ sn l c (fs ++ pend) ce) ∧
    (∀ (cs : List Core) (fs pend : List FldP) (ce : List Item),
      checkAll σ sn l (pushFAll sn cs fs) pend ce = checkAll σ sn l cs (fs ++ pend) ce) := by
  apply core_induct
  · intro i en io ctx fs pend ce; simp [pushF, check, List.append_assoc]
  · intro fs pend ce; simp [pushF, check]
  · intro cs ih fs pend ce; simp only [pushF, check]; exact ih fs pend ce
  · intro c en ih fs pend ce
    simp only [pushF, check]; split
    · exact ih fs pend ce
    · rfl
  · intro c h ih fs pend ce; simp only [pushF, check]; rw [ih fs pend ce]
  · intro c s p ih fs pend ce; simp only [pushF, check]; rw [enabled_pushF, ih fs pend ce]
  · intro cell c pfs ih fs pend ce; rw [check_lazy, pushF, ih _ pend ce, List.append_assoc]
  · intro fs pend ce; simp [pushFAll, checkAll]
  · intro c cs ih ihs fs pend ce; simp only [pushFAll, checkAll]; rw [ih fs pend ce, ihs fs pend _]

theorem check_pushF (σ : Store) (sn : Snap) (l : Level) : ∀ (c : Core) (fs pend : List FldP) (ce : List Item),
    check σ sn l (pushF sn c fs) pend ce = check σ sn l c (fs ++ pend) ce :=
  (check_pushF_both σ sn l).1
theorem checkAll_pushF (σ : Store) (sn : Snap) (l : Level) : ∀ (cs : List Core) (fs pend : List FldP) (ce : List Item),
    checkAll σ sn l (pushFAll sn cs fs) pend ce = checkAll σ sn l cs (fs ++ pend) ce :=
  (check_pushF_both σ sn l).2

/-! ### once-cells: a forced cell never changes -/

def Keeps (w w' : W) : Prop := ∀ cell r, w.snap cell = some r → w'.snap cell = some r

theorem Keeps.refl (w : W) : Keeps w w := fun _ _ h => h
theorem Keeps.trans {a b c : W} (h1 : Keeps a b) (h2 : Keeps b c) : Keeps a c := fun cell r h => h2 cell r (h1 cell r h)
theorem Keeps.emit (w : W) (es : List Ev) : Keeps w (w.emit es) := fun _ _ h => by simpa [W.emit] using h

theorem Keeps.set {w w' : W} (hk : Keeps w w') (cell : Nat) (r : List Fld) (hn : w.snap cell = none) :
    Keeps w { w' with snap := w'.snap.set cell r } := by
  intro c2 r2 h
  by_cases hc : c2 = cell
  · subst hc; rw [hn] at h; cases h
  · simp [Snap.set, hc, hk c2 r2 h]

theorem Keeps.setNone (w : W) (cell : Nat) (r : List Fld) (hn : w.snap cell = none) :
    Keeps w { w with snap := w.snap.set cell r } :=
  (Keeps.refl w).set cell r hn

theorem withEv_lazy (μ : Val) (cell : Nat) (c : Core) (pfs fs : List Fld) (w : W) :
    withEv μ (.lazy cell c pfs) fs w = withEv μ c fs (forceCell μ cell c pfs w) := by
  simp only [withEv, forceCell]

/-- (the fact about `withEv` is a hypothesis: the lazy case of `withEv_keeps_both` passes its induction hypothesis) -/
theorem forceCell_keeps_of (μ : Val) (cell : Nat) (c : Core) (pfs : List Fld) (w : W)
    (h : ∀ r, Keeps w (withEv μ c r w)) : Keeps w (forceCell μ cell c pfs w) := by
  unfold forceCell
  cases hs : w.snap cell with
  | some r => exact Keeps.refl w
  | none => exact (h _).set cell _ hs

theorem withEv_keeps_both (μ : Val) :
    (∀ (c : Core) (fs : List Fld) (w : W), Keeps w (withEv μ c fs w)) ∧
    (∀ (cs : List Core) (fs : List Fld) (w : W), Keeps w (withEvAll μ cs fs w)) := by
  apply core_induct
  · intro id en io ctx fs w; simp only [withEv]; split; exact Keeps.emit w _; exact Keeps.refl w
  · intro fs w; exact Keeps.refl w
  · intro cs ih fs w; simp only [withEv]; exact ih fs w
  · intro c _ ih fs w; simp only [withEv]; exact ih fs w
  · intro c _ ih fs w; simp only [withEv]; exact ih fs w
  · intro c _ _ ih fs w; simp only [withEv]; exact ih fs w
  · intro cell c pfs ih fs w
    rw [withEv_lazy]
    exact (forceCell_keeps_of μ cell c pfs w fun r => ih r w).trans (ih fs _)
  · intro fs w; exact Keeps.refl w
  · intro c cs ih ihs fs w; simp only [withEvAll]; exact (ih fs w).trans (ihs fs _)

theorem withEv_keeps (μ : Val) : ∀ (c : Core) (fs : List Fld) (w : W), Keeps w (withEv μ c fs w) :=
  (withEv_keeps_both μ).1
theorem withEvAll_keeps (μ : Val) : ∀ (cs : List Core) (fs : List Fld) (w : W), Keeps w (withEvAll μ cs fs w) :=
  (withEv_keeps_both μ).2

theorem forceCell_keeps (μ : Val) (cell : Nat) (c : Core) (pfs : List Fld) (w : W) : Keeps w (forceCell μ cell c pfs w) :=
  forceCell_keeps_of μ cell c pfs w fun r => withEv_keeps μ c r w

theorem checkEv_keeps_both (σ : Store) (μ : Val) (l : Level) :
    (∀ (c : Core) (w : W), Keeps w (checkEv σ μ l c w)) ∧ (∀ (cs : List Core) (w : W), Keeps w (checkEvAll σ μ l cs w)) := by
  apply core_induct
  · intro _ _ _ _ w; exact Keeps.refl w
  · intro w; exact Keeps.refl w
  · intro cs ih w; simp only [checkEv]; exact ih w
  · intro c en ih w
    simp only [checkEv]; split
    · exact ih w
    · exact Keeps.refl w
  · intro c _ ih w; simp only [checkEv]; exact ih w
  · intro c s p ih w
    simp only [checkEv]; split
    · exact Keeps.refl w
    · split
      · split
        · exact (Keeps.emit w _).trans (ih _)
        · exact Keeps.emit w _
      · exact ih w
  · intro cell c pfs ih w
    simp only [checkEv]; split
    · exact Keeps.refl w
    · exact (forceCell_keeps μ cell c pfs w).trans (ih _)
  · intro w; exact Keeps.refl w
  · intro c cs ih ihs w; simp only [checkEvAll]; exact (ih w).trans (ihs _)

theorem checkEv_keeps (σ : Store) (μ : Val) (l : Level) : ∀ (c : Core) (w : W), Keeps w (checkEv σ μ l c w) :=
  (checkEv_keeps_both σ μ l).1
theorem checkEvAll_keeps (σ : Store) (μ : Val) (l : Level) : ∀ (cs : List Core) (w : W), Keeps w (checkEvAll σ μ l cs w) :=
  (checkEv_keeps_both σ μ l).2

theorem log_keeps (σ : Store) (μ : Val) (lg : Logger) (l : Level) (fs : List Fld) (w : W) : Keeps w (lg.log σ μ l fs w) := by
  rw [log_eq_checked]
  split
  · exact Keeps.refl w
  · unfold Logger.checked
    exact (checkEv_keeps σ μ l lg.core w).trans (Keeps.emit _ _)

/-! ### every once-cell that `check` / `pushF` reads has been initialised by `checkEv` / `withEv`
      (the `none` arm of `cellPairs` is unreachable) -/

mutual
/-- the cells `check σ sn l c` reads are initialised in `sn` -/
def readsOk (σ : Store) (sn : Snap) (l : Level) : Core → Bool
  | .leaf _ _ _ _ => true
  | .nop => true
  | .tee cs => readsOkAll σ sn l cs
  | .incr c en => if en.on σ l then readsOk σ sn l c else true
  | .hooked c _ => readsOk σ sn l c
  | .sampler c _ pass => if !enabled σ c l then true else if inRange l && !pass then true else readsOk σ sn l c
  | .lazy cell c _ => if !enabled σ c l then true else (sn cell).isSome && readsOk σ sn l c
def readsOkAll (σ : Store) (sn : Snap) (l : Level) : List Core → Bool
  | [] => true
  | c :: cs => readsOk σ sn l c && readsOkAll σ sn l cs
end

mutual
/-- every cell of the tree is initialised (what `pushF`, i.e. `With`, reads) -/
def allForced (sn : Snap) : Core → Bool
  | .leaf _ _ _ _ => true
  | .nop => true
  | .tee cs => allForcedAll sn cs
  | .incr c _ => allForced sn c
  | .hooked c _ => allForced sn c
  | .sampler c _ _ => allForced sn c
  | .lazy cell c _ => (sn cell).isSome && allForced sn c
def allForcedAll (sn : Snap) : List Core → Bool
  | [] => true
  | c :: cs => allForced sn c && allForcedAll sn cs
end

theorem isSome_keeps {w w' : W} (hk : Keeps w w') (cell : Nat) (h : (w.snap cell).isSome = true) :
    (w'.snap cell).isSome = true := by
  cases hs : w.snap cell with
  | none => simp [hs] at h
  | some r => simp [hk cell r hs]

theorem readsOk_keeps_both (σ : Store) (l : Level) {w w' : W} (hk : Keeps w w') :
    (∀ (c : Core), readsOk σ w.snap l c = true → readsOk σ w'.snap l c = true) ∧
    (∀ (cs : List Core), readsOkAll σ w.snap l cs = true → readsOkAll σ w'.snap l cs = true) := by
  apply core_induct
  · intro _ _ _ _ _; simp [readsOk]
  · intro _; simp [readsOk]
  · intro cs ih h; simp only [readsOk] at h ⊢; exact ih h
  · intro c en ih h
    simp only [readsOk] at h ⊢; split
    · rename_i he; simp only [he, if_true] at h; exact ih h
    · rfl
  · intro c _ ih h; simp only [readsOk] at h ⊢; exact ih h
  · intro c _ p ih h
    simp only [readsOk] at h ⊢
    cases he : enabled σ c l with
    | false => simp
    | true =>
      cases hp : (inRange l && !p) with
      | true => simp
      | false =>
        simp only [he, hp, Bool.not_true, Bool.false_eq_true, if_false] at h ⊢
        exact ih h
  · intro cell c _ ih h
    simp only [readsOk] at h ⊢
    cases he : enabled σ c l with
    | false => simp
    | true =>
      simp only [he, Bool.not_true, Bool.false_eq_true, if_false, Bool.and_eq_true] at h ⊢
      exact ⟨isSome_keeps hk cell h.1, ih h.2⟩
  · intro _; simp [readsOkAll]
  · intro c cs ih ihs h
    simp only [readsOkAll, Bool.and_eq_true] at h ⊢
    exact ⟨ih h.1, ihs h.2⟩

theorem readsOk_keeps (σ : Store) (l : Level) {w w' : W} (hk : Keeps w w') : ∀ (c : Core),
    readsOk σ w.snap l c = true → readsOk σ w'.snap l c = true :=
  (readsOk_keeps_both σ l hk).1
theorem readsOkAll_keeps (σ : Store) (l : Level) {w w' : W} (hk : Keeps w w') : ∀ (cs : List Core),
    readsOkAll σ w.snap l cs = true → readsOkAll σ w'.snap l cs = true :=
  (readsOk_keeps_both σ l hk).2

theorem allForced_keeps_both {w w' : W} (hk : Keeps w w') :
    (∀ (c : Core), allForced w.snap c = true → allForced w'.snap c = true) ∧
    (∀ (cs : List Core), allForcedAll w.snap cs = true → allForcedAll w'.snap cs = true) := by
  apply core_induct
  · intro _ _ _ _ _; simp [allForced]
  · intro _; simp [allForced]
  · intro cs ih h; simp only [allForced] at h ⊢; exact ih h
  · intro c _ ih h; simp only [allForced] at h ⊢; exact ih h
  · intro c _ ih h; simp only [allForced] at h ⊢; exact ih h
  · intro c _ _ ih h; simp only [allForced] at h ⊢; exact ih h
  · intro cell c _ ih h
    simp only [allForced, Bool.and_eq_true] at h ⊢
    exact ⟨isSome_keeps hk cell h.1, ih h.2⟩
  · intro _; simp [allForcedAll]
  · intro c cs ih ihs h
    simp only [allForcedAll, Bool.and_eq_true] at h ⊢
    exact ⟨ih h.1, ihs h.2⟩

theorem allForced_keeps {w w' : W} (hk : Keeps w w') : ∀ (c : Core), allForced w.snap c = true → allForced w'.snap c = true :=
  (allForced_keeps_both hk).1
theorem allForcedAll_keeps {w w' : W} (hk : Keeps w w') : ∀ (cs : List Core),
    allForcedAll w.snap cs = true → allForcedAll w'.snap cs = true :=
  (allForced_keeps_both hk).2

theorem forceCell_some (μ : Val) (cell : Nat) (c : Core) (pfs : List Fld) (w : W) :
    ((forceCell μ cell c pfs w).snap cell).isSome = true := by
  unfold forceCell
  cases hs : w.snap cell with
  | some r => simp [hs]
  | none => simp [Snap.set]

/-- `With` initialises every cell of the tree it is applied to -/
theorem withEv_forces_both (μ : Val) :
    (∀ (c : Core) (fs : List Fld) (w : W), allForced (withEv μ c fs w).snap c = true) ∧
    (∀ (cs : List Core) (fs : List Fld) (w : W), allForcedAll (withEvAll μ cs fs w).snap cs = true) := by
  apply core_induct
  · intro _ _ _ _ _ _; simp [allForced]
  · intro _ _; simp [allForced]
  · intro cs ih fs w; simp only [withEv, allForced]; exact ih fs w
  · intro c _ ih fs w; simp only [withEv, allForced]; exact ih fs w
  · intro c _ ih fs w; simp only [withEv, allForced]; exact ih fs w
  · intro c _ _ ih fs w; simp only [withEv, allForced]; exact ih fs w
  · intro cell c pfs ih fs w
    rw [withEv_lazy]
    simp only [allForced, Bool.and_eq_true]
    exact ⟨isSome_keeps (withEv_keeps μ c fs _) cell (forceCell_some μ cell c pfs w), ih fs _⟩
  · intro _ _; simp [allForcedAll]
  · intro c cs ih ihs fs w
    simp only [withEvAll, allForcedAll, Bool.and_eq_true]
    exact ⟨allForced_keeps (withEvAll_keeps μ cs fs _) c (ih fs w), ihs fs _⟩

theorem withEv_forces (μ : Val) : ∀ (c : Core) (fs : List Fld) (w : W), allForced (withEv μ c fs w).snap c = true :=
  (withEv_forces_both μ).1
theorem withEvAll_forces (μ : Val) : ∀ (cs : List Core) (fs : List Fld) (w : W),
    allForcedAll (withEvAll μ cs fs w).snap cs = true :=
  (withEv_forces_both μ).2

/-- `Check` initialises every cell whose fields the accepting leaves will emit -/
theorem checkEv_reads_both (σ : Store) (μ : Val) (l : Level) :
    (∀ (c : Core) (w : W), readsOk σ (checkEv σ μ l c w).snap l c = true) ∧
    (∀ (cs : List Core) (w : W), readsOkAll σ (checkEvAll σ μ l cs w).snap l cs = true) := by
  apply core_induct
  · intro _ _ _ _ _; simp [readsOk]
  · intro _; simp [readsOk]
  · intro cs ih w; simp only [checkEv, readsOk]; exact ih w
  · intro c en ih w
    simp only [checkEv, readsOk]
    split
    · exact ih w
    · rfl
  · intro c _ ih w; simp only [checkEv, readsOk]; exact ih w
  · intro c s p ih w
    simp only [checkEv, readsOk]
    split
    · rfl
    · cases inRange l <;> cases p <;> simp [ih]
  · intro cell c pfs ih w
    simp only [checkEv, readsOk]
    split
    · rfl
    · simp only [Bool.and_eq_true]
      exact ⟨isSome_keeps (checkEv_keeps σ μ l c _) cell (forceCell_some μ cell c pfs w), ih _⟩
  · intro w; simp [readsOkAll]
  · intro c cs ih ihs w
    simp only [checkEvAll, readsOkAll, Bool.and_eq_true]
    exact ⟨readsOk_keeps σ l (checkEvAll_keeps σ μ l cs _) c (ih w), ihs _⟩

theorem checkEv_reads (σ : Store) (μ : Val) (l : Level) : ∀ (c : Core) (w : W),
    readsOk σ (checkEv σ μ l c w).snap l c = true :=
  (checkEv_reads_both σ μ l).1
theorem checkEvAll_reads (σ : Store) (μ : Val) (l : Level) : ∀ (cs : List Core) (w : W),
    readsOkAll σ (checkEvAll σ μ l cs w).snap l cs = true :=
  (checkEv_reads_both σ μ l).2

def joinDots : List (List UInt8) → List UInt8
  | [] => []
  | [a] => a
  | a :: b :: r => a ++ [46] ++ joinDots (b :: r)

theorem joinDots_snoc : ∀ (xs : List (List UInt8)) (s : List UInt8), xs ≠ [] →
    joinDots (xs ++ [s]) = joinDots xs ++ [46] ++ s
  | [], _, h => absurd rfl h
  | [a], s, _ => by simp [joinDots]
  | a :: b :: r, s, _ => by
      have := joinDots_snoc (b :: r) s (by simp)
      simp only [List.cons_append, joinDots] at this ⊢
      rw [this]; simp [List.append_assoc]

theorem joinDots_eq_nil : ∀ (xs : List (List UInt8)), (∀ x ∈ xs, x ≠ []) → joinDots xs = [] → xs = []
  | [], _, _ => rfl
  | [a], h, he => by simp [joinDots] at he; exact absurd he (h a (by simp))
  | a :: b :: r, h, he => by simp [joinDots] at he

theorem foldl_named (segs : List (List UInt8)) : ∀ (xs : List (List UInt8)), (∀ x ∈ xs, x ≠ []) →
    segs.foldl named (joinDots xs) = joinDots (xs ++ segs.filter (· ≠ [])) := by
  induction segs with
  | nil => intro xs _; simp
  | cons s r ih =>
    intro xs hx
    simp only [List.foldl_cons]
    by_cases hs : s = []
    · subst hs
      have : named (joinDots xs) [] = joinDots xs := by simp [named]
      rw [this, ih xs hx]; simp
    · have hf : (s :: r).filter (· ≠ []) = s :: r.filter (· ≠ []) := by simp [hs]
      rw [hf]
      by_cases hxs : xs = []
      · subst hxs
        have : named (joinDots []) s = joinDots [s] := by simp [named, joinDots, hs]
        rw [this, ih [s] (by simpa using hs)]; simp
      · have hne : joinDots xs ≠ [] := fun h => hxs (joinDots_eq_nil xs hx h)
        have : named (joinDots xs) s = joinDots (xs ++ [s]) := by
          rw [joinDots_snoc xs s hxs]; simp [named, hs, hne]
        rw [this, ih (xs ++ [s]) (by
          intro x hxm
          rcases List.mem_append.mp hxm with h | h
          · exact hx x h
          · simp at h; subst h; exact hs)]
        simp [List.append_assoc]

end ZapVerif.Cores

namespace ZapVerif.Slices

theorem append_other (h : Heap) (s t : Slice) (xs : List Nat) (ht : Live h t) (hne : t.id ≠ s.id) :
    view (append h s xs).1 t = view h t := by
  unfold append
  split
  · simp [view, setArr, hne]
  · have : t.id ≠ h.next := by unfold Live at ht; omega
    simp [view, setArr, this]

/-- an append through a capped header changes no existing view, whatever other headers exist -/
theorem capped_append_no_alias (h : Heap) (s t : Slice) (xs : List Nat) (ht : Live h t) :
    view (append h (capped s) xs).1 t = view h t := by
  unfold append capped
  split
  · -- in place only when `xs = []`, and then the array is written back as it was
    rename_i hle
    have : xs = [] := List.length_eq_zero_iff.mp (by simp only at hle; omega)
    subst this
    by_cases hi : t.id = s.id <;> simp [view, setArr, hi]
  · have hne : t.id ≠ h.next := by unfold Live at ht; omega
    simp [view, setArr, hne]

theorem capped_append_view (h : Heap) (s : Slice) (xs : List Nat) (hx : xs ≠ []) :
    view (append h (capped s) xs).1 (append h (capped s) xs).2 = view h s ++ xs := by
  unfold append capped
  have hl : xs.length ≠ 0 := fun h0 => hx (List.length_eq_zero_iff.mp h0)
  have : ¬ (s.len + xs.length ≤ s.len) := by omega
  simp only [this, if_false, view, setArr, if_true]
  apply List.take_of_length_le
  simp

end ZapVerif.Slices
