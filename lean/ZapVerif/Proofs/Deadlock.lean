import ZapVerif.Model.Deadlock
namespace ZapVerif.Deadlock

theorem inv_step (ts : List Nat) (s : St) (t : Nat) (h : Inv ts s) : Inv ts (step s t) := by
  intro u hu
  have hu' := h u hu
  unfold step
  cases hp : s.prog t with
  | nil => simpa using hu'
  | cons op r =>
    by_cases hut : u = t
    · subst hut
      rw [hp] at hu'
      cases op with
      | acq m => simp [okProg] at hu'; simp [upd, hu'.2]
      | rel m => simp [okProg] at hu'; simp [upd, hu'.2]
      | other => simp [okProg] at hu'; simp [upd, hu']
      | wait => simp [okProg] at hu'; simp [upd, hu'.2]
    · cases op <;> simpa [upd, hut] using hu'

theorem inv_run (ts : List Nat) (sched : List Nat) : ∀ s, Inv ts s → Inv ts (run s sched) := by
  induction sched with
  | nil => intro s h; exact h
  | cons t r ih => intro s h; exact ih _ (inv_step ts s t h)

theorem exists_max (l : List Nat) (h : l ≠ []) : ∃ M ∈ l, ∀ x ∈ l, x ≤ M := by
  cases hm : l.max? with
  | none => exact absurd (List.max?_eq_none_iff.mp hm) h
  | some M => exact ⟨M, List.max?_eq_some_iff.mp hm⟩

theorem isHeld_iff (ts : List Nat) (s : St) (m : Nat) :
    isHeld ts s m = true ↔ m ∈ ts.flatMap fun u => s.held u := by
  simp [isHeld]

/-- under the lock-order discipline (`Inv`), in every state either some goroutine can step, or every unfinished goroutine
    sits at a non-lock blocking operation outside every critical section (so no lock is involved in the standstill) -/
theorem progress (ts : List Nat) (ready : Nat → Bool) (s : St) (hinv : Inv ts s) :
    (∃ t ∈ ts, enabled ts ready s t = true) ∨
    (∀ t ∈ ts, s.prog t ≠ [] → ∃ r, s.prog t = .wait :: r ∧ s.held t = []) := by
  by_cases hen : ∃ t ∈ ts, enabled ts ready s t = true
  · exact .inl hen
  right
  have hshape : ∀ t ∈ ts, s.prog t ≠ [] →
      (∃ m r, s.prog t = .acq m :: r ∧ isHeld ts s m = true) ∨ (∃ r, s.prog t = .wait :: r) := by
    intro t ht hne
    have h : ¬ enabled ts ready s t = true := fun h => hen ⟨t, ht, h⟩
    unfold enabled at h
    cases hp : s.prog t with
    | nil => exact absurd hp hne
    | cons op r =>
      rw [hp] at h
      cases op with
      | acq m => exact .inl ⟨m, r, rfl, by simpa using h⟩
      | wait => exact .inr ⟨r, rfl⟩
      | rel m => exact absurd rfl h
      | other => exact absurd rfl h
  have hwaitfree : ∀ t ∈ ts, ∀ r, s.prog t = .wait :: r → s.held t = [] := by
    intro t ht r hp
    have := hinv t ht
    rw [hp] at this
    simp [okProg] at this
    exact this.1
  -- no goroutine is at a blocked acquire: otherwise the holder u of the largest held lock M is unfinished, is not at a
  -- wait, and the lock it is blocked on is held and larger than M
  have hnoacq : ∀ t ∈ ts, ∀ m r, s.prog t = .acq m :: r → isHeld ts s m = true → False := by
    intro t0 _ m0 _ _ hh0
    obtain ⟨M, hM, hmax⟩ := exists_max _ (List.ne_nil_of_mem ((isHeld_iff ts s m0).mp hh0))
    obtain ⟨u, hu, hMu⟩ := List.mem_flatMap.mp hM
    have hi := hinv u hu
    have hune : s.prog u ≠ [] := by
      intro hnil
      rw [hnil] at hi
      simp [okProg] at hi
      rw [hi] at hMu; cases hMu
    rcases hshape u hu hune with ⟨m', r', hp', hh'⟩ | ⟨r', hp'⟩
    · rw [hp'] at hi
      simp [okProg] at hi
      have := hi.1 M hMu
      have := hmax m' ((isHeld_iff ts s m').mp hh')
      omega
    · rw [hwaitfree u hu r' hp'] at hMu; cases hMu
  intro t ht hne
  rcases hshape t ht hne with ⟨m, r, hp, hh⟩ | ⟨r, hp⟩
  · exact (hnoacq t ht m r hp hh).elim
  · exact ⟨r, hp, hwaitfree t ht r hp⟩

/-- initial states: nobody holds anything and every program follows the discipline -/
def Init (ts : List Nat) (s : St) : Prop := ∀ t ∈ ts, s.held t = [] ∧ okProg [] (s.prog t) = true

theorem init_inv (ts : List Nat) (s : St) (h : Init ts s) : Inv ts s := by
  intro t ht; rw [(h t ht).1]; exact (h t ht).2

end ZapVerif.Deadlock
