import ZapVerif.Model.Sampler
import ZapVerif.Model.SamplerConc
/-! helper lemmas for C11 (sampler): window arithmetic, refinement of the window specification,
    per-key projection, and the invariant of the atomic-step machine. -/
namespace ZapVerif.Sampler

theorem inc_open (c : Cell) (t tick : Int) (h : t < c.resetAt) :
    inc c t tick = ({ c with n := c.n + 1 }, c.n + 1) := by
  simp [inc, h]

theorem inc_new (c : Cell) (t tick : Int) (h : c.resetAt ≤ t) :
    inc c t tick = ({ resetAt := t + tick, n := 1 }, 1) := by
  have : ¬ (t < c.resetAt) := by omega
  simp [inc, this]

theorem inc_le (c : Cell) (t tick : Int) : (inc c t tick).2 ≤ c.n + 1 := by
  unfold inc; split <;> simp

theorem cellRun_open (c : Cell) (tick : Int) (ts : List Int) (h : ∀ t ∈ ts, t < c.resetAt) :
    cellRun c tick ts = List.range' (c.n + 1) ts.length ∧
    cellAfter c tick ts = { c with n := c.n + ts.length } := by
  induction ts generalizing c with
  | nil => simp [cellRun, cellAfter]
  | cons t ts ih =>
    have ht : t < c.resetAt := h t (by simp)
    have hr := ih { c with n := c.n + 1 } (fun x hx => h x (by simp [hx]))
    simp only [cellRun, cellAfter, inc_open c t tick ht, List.length_cons, List.range'_succ]
    refine ⟨by rw [hr.1], ?_⟩
    rw [hr.2]; simp; omega

theorem allows_iff (N M n : Nat) : allows N M n = true ↔ n ≤ N ∨ (M ≠ 0 ∧ (n - N) % M = 0) := by
  simp [allows, ← Nat.pos_iff_ne_zero]

/-- what position `k + 1` adds to the number admitted among the positions `1 … k` of a window -/
theorem window_step (N M k : Nat) :
    min (k + 1) N + (if M = 0 then 0 else (k + 1 - N) / M) =
      min k N + (if M = 0 then 0 else (k - N) / M) + if allows N M (k + 1) then 1 else 0 := by
  by_cases h : k + 1 ≤ N
  · rw [if_pos ((allows_iff N M (k + 1)).mpr (.inl h)), Nat.sub_eq_zero_of_le h, Nat.sub_eq_zero_of_le (by omega),
      Nat.min_eq_left h, Nat.min_eq_left (by omega)]
    omega
  · -- past the first N: position k + 1 is admitted iff M divides its distance from N
    have hk : N ≤ k := Nat.le_of_lt_succ (Nat.lt_of_not_le h)
    have hsub : k + 1 - N = k - N + 1 := Nat.succ_sub hk
    have ha : allows N M (k + 1) = true ↔ M ≠ 0 ∧ M ∣ k - N + 1 := by
      rw [allows_iff, Nat.dvd_iff_mod_eq_zero, hsub]
      exact or_iff_right h
    rw [Nat.min_eq_right (Nat.le_succ_of_le hk), Nat.min_eq_right hk, hsub, Nat.succ_div]
    simp only [ha]
    by_cases hM : M = 0 <;> simp [hM, Nat.add_assoc]

theorem countP_window (N M k : Nat) :
    ((List.range' 1 k).countP (allows N M)) = min k N + (if M = 0 then 0 else (k - N) / M) := by
  induction k with
  | zero => simp
  | succ k ih =>
    rw [List.range'_1_concat, List.countP_append, ih, Nat.add_comm 1 k, window_step, List.countP_singleton]

/-! ## the cell refines the window specification, except for the zero value of `resetAt` -/

theorem cellRun_eq_specRun_some (c : Cell) (tick : Int) (ts : List Int) :
    cellRun c tick ts = specRun (some (c.resetAt, c.n)) tick ts := by
  induction ts generalizing c with
  | nil => rfl
  | cons t ts ih =>
    simp only [cellRun, specRun, specStep]
    by_cases h : t < c.resetAt
    · rw [inc_open c t tick h]; simp only [h, if_true]
      rw [ih]
    · rw [inc_new c t tick (by omega)]; simp only [h, if_false]
      rw [ih]

/-- the entries that go through a counter: enabled and in range -/
def counted (en : Int → Bool) (e : Entry) : Bool := en e.level && inRange e.level

theorem check_counted (cfg : Cfg) (en : Int → Bool) (cs : Counters) (e : Entry) (h : counted en e = true) :
    (check cfg en cs e).1 = cs.set e.key (inc (cs e.key) e.t cfg.tick).1 ∧
    (check cfg en cs e).2.n = some (inc (cs e.key) e.t cfg.tick).2 ∧
    (check cfg en cs e).2.hook =
      [if allows cfg.N cfg.M (inc (cs e.key) e.t cfg.tick).2 then Decision.sampled else Decision.dropped] ∧
    (check cfg en cs e).2.forwarded = allows cfg.N cfg.M (inc (cs e.key) e.t cfg.tick).2 := by
  simp only [counted, Bool.and_eq_true] at h
  simp only [check, h.1, h.2, Bool.not_true, Bool.false_eq_true, if_false, if_true]
  split <;> simp_all

theorem check_uncounted (cfg : Cfg) (en : Int → Bool) (cs : Counters) (e : Entry) (h : counted en e = false) :
    (check cfg en cs e).1 = cs ∧ (check cfg en cs e).2.n = none ∧ (check cfg en cs e).2.hook = [] := by
  simp only [counted, Bool.and_eq_false_iff] at h
  simp only [check]
  by_cases he : en e.level = true
  · have hr : inRange e.level = false := by
      rcases h with h | h
      · simp [he] at h
      · exact h
    simp [he, hr]
  · simp [he]

theorem set_same (cs : Counters) (k : Key) (c : Cell) : cs.set k c k = c := by simp [Counters.set]

theorem set_other (cs : Counters) (k k' : Key) (c : Cell) (h : k' ≠ k) : cs.set k c k' = cs k' := by
  simp [Counters.set, h]

/-- the selector of the projection: counted entries of key `k` -/
def sel (en : Int → Bool) (k : Key) (e : Entry) : Bool := counted en e && decide (e.key = k)

theorem runAll_projects (cfg : Cfg) (en : Int → Bool) (k : Key) (es : List Entry) (cs : Counters) :
    (((runAll cfg en cs es).2.zip es).filter (fun p => sel en k p.2)).map (fun p => p.1.n) =
      (cellRun (cs k) cfg.tick ((es.filter (sel en k)).map (·.t))).map some ∧
    (runAll cfg en cs es).1 k = cellAfter (cs k) cfg.tick ((es.filter (sel en k)).map (·.t)) := by
  induction es generalizing cs with
  | nil => simp [runAll, cellRun, cellAfter]
  | cons e es ih =>
    have hi := ih (check cfg en cs e).1
    simp only [runAll, List.zip_cons_cons, List.filter_cons]
    by_cases hs : sel en k e = true
    · have hc : counted en e = true := by simp only [sel, Bool.and_eq_true] at hs; exact hs.1
      have hk : e.key = k := by simp only [sel, Bool.and_eq_true, decide_eq_true_eq] at hs; exact hs.2
      obtain ⟨h1, h2, _, _⟩ := check_counted cfg en cs e hc
      have hcell : (check cfg en cs e).1 k = (inc (cs k) e.t cfg.tick).1 := by
        rw [h1, ← hk, set_same]
      simp only [hs, if_true, List.map_cons, cellRun, cellAfter]
      rw [hcell] at hi
      refine ⟨?_, hi.2⟩
      rw [hi.1, h2, hk]
    · have hs' : sel en k e = false := by simpa using hs
      have hcell : (check cfg en cs e).1 k = cs k := by
        by_cases hc : counted en e = true
        · have hk : k ≠ e.key := by
            intro hk; apply hs; simp [sel, hc, hk]
          rw [(check_counted cfg en cs e hc).1, set_other _ _ _ _ hk]
        · have hc' : counted en e = false := by simpa using hc
          rw [(check_uncounted cfg en cs e hc').1]
      simp only [hs', Bool.false_eq_true, if_false]
      rw [hcell] at hi
      exact hi

namespace Conc

theorem retOf_not_done (pc : Pc) (h : isDone pc = false) : retOf pc = [] := by
  cases pc <;> simp_all [isDone, retOf]

theorem retOf_done (pc : Pc) (h : isDone pc = true) : (retOf pc).length = 1 := by
  cases pc <;> simp_all [isDone, retOf]

theorem rets_set (ths : List Th) (i : Nat) (th th' : Th) (hi : ths[i]? = some th) (hnd : isDone th.pc = false) :
    (rets (ths.set i th')).Perm (retOf th'.pc ++ rets ths) := by
  induction ths generalizing i with
  | nil => simp at hi
  | cons a r ih =>
    cases i with
    | zero =>
      simp only [List.getElem?_cons_zero, Option.some.injEq] at hi
      subst hi
      simp [List.set, rets, retOf_not_done a.pc hnd]
    | succ i =>
      simp only [List.getElem?_cons_succ] at hi
      simp only [List.set, rets]
      refine (List.Perm.append_left _ (ih i hi)).trans ?_
      rw [← List.append_assoc, ← List.append_assoc]
      exact List.Perm.append_right _ List.perm_append_comm

theorem rets_length_of_allDone (ths : List Th) (h : ths.all (fun th => isDone th.pc) = true) :
    (rets ths).length = ths.length := by
  induction ths with
  | nil => rfl
  | cons a r ih =>
    simp only [List.all_cons, Bool.and_eq_true] at h
    simp only [rets, List.length_append, List.length_cons, retOf_done a.pc h.1, ih h.2, Nat.add_comm]

theorem rets_start (ts : List Int) : rets (ts.map fun t => (⟨t, .start⟩ : Th)) = [] := by
  induction ts with
  | nil => rfl
  | cons t ts ih => simp [rets, ih, retOf]

/-- invariant of every run that starts inside an open window: nobody takes the reset path -/
structure Inv (R : Int) (c : Nat) (s : St) : Prop where
  ra : s.resetAt = R
  ths : ∀ th ∈ s.ths, th.t < R ∧ (th.pc = .start ∨ th.pc = .adding ∨ ∃ n, th.pc = .done n)
  cnt : s.n = c + (rets s.ths).length
  perm : (rets s.ths).Perm (List.range' (c + 1) (rets s.ths).length)

theorem step_inv (tick R : Int) (c : Nat) (s : St) (i : Nat) (h : Inv R c s) : Inv R c (step tick s i) := by
  unfold step
  cases hi : s.ths[i]? with
  | none => exact h
  | some th =>
    obtain ⟨ht, hpc⟩ := h.ths th (List.mem_of_getElem? hi)
    have hths : ∀ pc', (pc' = .start ∨ pc' = .adding ∨ ∃ n, pc' = .done n) → ∀ x ∈ s.ths.set i { th with pc := pc' },
        x.t < R ∧ (x.pc = .start ∨ x.pc = .adding ∨ ∃ n, x.pc = .done n) := by
      intro pc' hpc' x hx
      rcases List.mem_or_eq_of_mem_set hx with hx | rfl
      · exact h.ths x hx
      · exact ⟨ht, hpc'⟩
    rcases hpc with hp | hp | ⟨m, hp⟩
    · -- Load: the window is open, go on to Add
      have hgt : s.resetAt > th.t := h.ra ▸ ht
      have hr : (rets (s.ths.set i { th with pc := .adding })).Perm (rets s.ths) :=
        rets_set s.ths i th _ hi (by simp [hp, isDone])
      simp only [stepTh, hp, hgt, if_true]
      refine ⟨h.ra, hths _ (.inr (.inl rfl)), ?_, ?_⟩
      · rw [hr.length_eq]; exact h.cnt
      · rw [hr.length_eq]; exact hr.trans h.perm
    · -- Add: the value returned is the next one of the window
      have hr : (rets (s.ths.set i { th with pc := .done (s.n + 1) })).Perm ((s.n + 1) :: rets s.ths) :=
        rets_set s.ths i th _ hi (by simp [hp, isDone])
      have hlen : (rets (s.ths.set i { th with pc := .done (s.n + 1) })).length = (rets s.ths).length + 1 :=
        hr.length_eq
      simp only [stepTh, hp]
      refine ⟨h.ra, hths _ (.inr (.inr ⟨_, rfl⟩)), ?_, ?_⟩
      · simp only [hlen]; have := h.cnt; omega
      · simp only [hlen]
        rw [List.range'_concat]
        have hv : s.n + 1 = c + 1 + 1 * (rets s.ths).length := by have := h.cnt; omega
        rw [← hv]
        exact hr.trans ((List.Perm.cons _ h.perm).trans (List.perm_append_singleton _ _).symm)
    · have hsame : s.ths.set i th = s.ths := by
        obtain ⟨hlt, rfl⟩ := List.getElem?_eq_some_iff.mp hi
        exact List.set_getElem_self hlt
      simp only [stepTh, hp, hsame]
      exact h

theorem run_inv (tick R : Int) (c : Nat) (sched : List Nat) (s : St) (h : Inv R c s) :
    Inv R c (run tick s sched) := by
  induction sched generalizing s with
  | nil => exact h
  | cons i r ih => exact ih _ (step_inv tick R c s i h)

theorem step_length (tick : Int) (s : St) (i : Nat) : (step tick s i).ths.length = s.ths.length := by
  unfold step; cases s.ths[i]? <;> simp

theorem run_length (tick : Int) (sched : List Nat) (s : St) : (run tick s sched).ths.length = s.ths.length := by
  induction sched generalizing s with
  | nil => rfl
  | cons i r ih => simp only [run, List.foldl_cons] at *; rw [ih, step_length]

theorem init_inv (c : Cell) (ts : List Int) (h : ∀ t ∈ ts, t < c.resetAt) : Inv c.resetAt c.n (initSt c ts) := by
  refine ⟨rfl, ?_, by simp [initSt, rets_start], by simp [initSt, rets_start]⟩
  intro th hth
  obtain ⟨t, ht, rfl⟩ := List.mem_map.mp hth
  exact ⟨h t ht, .inl rfl⟩

end Conc
end ZapVerif.Sampler
