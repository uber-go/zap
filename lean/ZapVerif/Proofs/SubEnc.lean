import ZapVerif.Model.SubEnc
import ZapVerif.Proofs.Num
import ZapVerif.Proofs.EntryWF
import ZapVerif.Proofs.Callers
import ZapVerif.Proofs.Unesc
/-! lemmas about the built-in sub-encoders (`Model/SubEnc.lean`): `time.Duration.String` — structure of `fmtFrac`, a
    `time.ParseDuration`-style reader and the proof that it reads every emitted text back; the level texts of all 256
    levels; caller texts; which of these texts survive the JSON string encoding unchanged. -/
namespace ZapVerif.SubEnc
open ZapVerif ZapVerif.Entry

/-- the digits `fmtFrac` writes, most significant first (without the point) -/
def fracDigits : Nat → Nat → Bool → Bytes
  | 0, _, _ => []
  | p + 1, v, print =>
    fracDigits p (v / 10) (print || v % 10 != 0) ++ (if (print || v % 10 != 0) then [UInt8.ofNat (48 + v % 10)] else [])

theorem mod_ten_pow_succ (v p : Nat) : v % 10 ^ (p + 1) = v % 10 + 10 * (v / 10 % 10 ^ p) := by
  rw [Nat.pow_succ, Nat.mul_comm, Nat.mod_mul]

theorem div_pow_succ (v p : Nat) : v / 10 ^ (p + 1) = v / 10 / 10 ^ p := by
  rw [Nat.pow_succ, Nat.mul_comm, Nat.div_div_eq_div_mul]

theorem fmtFrac_eq (p v : Nat) (print : Bool) (acc : Bytes) :
    fmtFrac p v print acc =
      ((if (print || v % 10 ^ p != 0) then [46] else []) ++ fracDigits p v print ++ acc, v / 10 ^ p) := by
  induction p generalizing v print acc with
  | zero => cases print <;> simp [fmtFrac, fracDigits, Nat.mod_one]
  | succ p ih =>
    simp only [fmtFrac, fracDigits]
    rw [ih, div_pow_succ]
    have hz : (v % 10 ^ (p + 1) = 0) ↔ (v % 10 = 0 ∧ v / 10 % 10 ^ p = 0) := by rw [mod_ten_pow_succ]; omega
    have hc : ((print || v % 10 != 0) || v / 10 % 10 ^ p != 0) = (print || v % 10 ^ (p + 1) != 0) := by
      rw [Bool.or_assoc]
      congr 1
      rw [Bool.eq_iff_iff]
      simp only [Bool.or_eq_true, bne_iff_ne, ne_eq, hz]
      exact Decidable.not_and_iff_not_or_not.symm
    rw [hc]
    cases (print || v % 10 != 0) <;> simp

def isDig (c : UInt8) : Bool := 48 ≤ c && c ≤ 57

theorem isDig_digit : ∀ d, d < 10 → isDig (UInt8.ofNat (48 + d)) = true := by decide

theorem fracDigits_dig (p v : Nat) (print : Bool) : ∀ c ∈ fracDigits p v print, isDig c = true := by
  induction p generalizing v print with
  | zero => simp [fracDigits]
  | succ p ih =>
    intro c hc
    simp only [fracDigits, List.mem_append] at hc
    rcases hc with hc | hc
    · exact ih _ _ c hc
    · split at hc
      · simp only [List.mem_singleton] at hc
        rw [hc]; exact isDig_digit _ (Nat.mod_lt _ (by decide))
      · simp at hc

theorem fracDigits_true (p v : Nat) :
    (fracDigits p v true).length = p ∧ natOf (fracDigits p v true) = v % 10 ^ p := by
  induction p generalizing v with
  | zero => simp [fracDigits, natOf, Nat.mod_one]
  | succ p ih =>
    have h := ih (v / 10)
    simp only [fracDigits, Bool.true_or, if_true]
    refine ⟨by simp [h.1], ?_⟩
    rw [natOf_snoc, h.2, digit_val _ (Nat.mod_lt _ (by decide)), mod_ten_pow_succ, Nat.mul_comm, Nat.add_comm]

theorem fracDigits_succ_false (p v : Nat) : fracDigits (p + 1) v false =
    if v % 10 = 0 then fracDigits p (v / 10) false else fracDigits p (v / 10) true ++ [UInt8.ofNat (48 + v % 10)] := by
  by_cases h0 : v % 10 = 0
  · simp [fracDigits, h0]
  · have hb : (v % 10 != 0) = true := by simp [h0]
    simp [fracDigits, h0, hb]

theorem fracDigits_false (p v : Nat) :
    (fracDigits p v false).length ≤ p ∧
    natOf (fracDigits p v false) * 10 ^ (p - (fracDigits p v false).length) = v % 10 ^ p ∧
    (fracDigits p v false = [] ↔ v % 10 ^ p = 0) := by
  induction p generalizing v with
  | zero => simp [fracDigits, natOf, Nat.mod_one]
  | succ p ih =>
    have hm := mod_ten_pow_succ v p
    rw [fracDigits_succ_false]
    by_cases h0 : v % 10 = 0
    · have h := ih (v / 10)
      rw [if_pos h0]
      refine ⟨Nat.le_succ_of_le h.1, ?_, ?_⟩
      · rw [Nat.succ_sub h.1, Nat.pow_succ, ← Nat.mul_assoc, h.2.1, hm, h0, Nat.zero_add, Nat.mul_comm]
      · rw [h.2.2, hm, h0]; omega
    · have h := fracDigits_true p (v / 10)
      rw [if_neg h0]
      refine ⟨by simp [h.1], ?_, ?_⟩
      · simp only [List.length_append, List.length_singleton, h.1, Nat.sub_self, Nat.pow_zero, Nat.mul_one]
        rw [natOf_snoc, h.2, digit_val _ (Nat.mod_lt _ (by decide)), hm, Nat.mul_comm, Nat.add_comm]
      · constructor
        · intro hc; simp at hc
        · intro hc; rw [hm] at hc; omega

theorem digit_ne_zero : ∀ d, d < 10 → d ≠ 0 → UInt8.ofNat (48 + d) ≠ 48 := by decide

theorem frac_no_trailing_zero (p v : Nat) (h : fracDigits p v false ≠ []) : (fracDigits p v false).getLast h ≠ 48 := by
  induction p generalizing v with
  | zero => simp [fracDigits] at h
  | succ p ih =>
    have e := fracDigits_succ_false p v
    by_cases h0 : v % 10 = 0
    · rw [if_pos h0] at e
      simp only [e]
      exact ih (v / 10) (e ▸ h)
    · rw [if_neg h0] at e
      simp only [e, List.getLast_append, List.getLast_singleton]
      exact digit_ne_zero _ (Nat.mod_lt _ (by decide)) h0

/-! ### a `time.ParseDuration`-style reader (no overflow checks: values are unbounded) -/

/-- leading decimal digits, rest -/
def spanDig : Bytes → Bytes × Bytes
  | [] => ([], [])
  | c :: r => if isDig c then ((c :: (spanDig r).1), (spanDig r).2) else ([], c :: r)

/-- the unit: everything up to the next digit or point -/
def spanUnit : Bytes → Bytes × Bytes
  | [] => ([], [])
  | c :: r => if isDig c || c == 46 then ([], c :: r) else ((c :: (spanUnit r).1), (spanUnit r).2)

/-- `unitMap` of package time: ns, us / µs (U+00B5) / μs (U+03BC), ms, s, m, h in nanoseconds -/
def unitNs (u : Bytes) : Option Nat :=
  if u = [110, 115] then some 1
  else if u = [117, 115] then some 1000
  else if u = [194, 181, 115] then some 1000
  else if u = [206, 188, 115] then some 1000
  else if u = [109, 115] then some 1000000
  else if u = [115] then some 1000000000
  else if u = [109] then some 60000000000
  else if u = [104] then some 3600000000000
  else none

/-- `[0-9]*(\.[0-9]*)?unit` groups, summed: integer part × unit + fraction × unit (floor) -/
def parseGroups : Nat → Bytes → Nat → Option Nat
  | _, [], acc => some acc
  | 0, _ :: _, _ => none
  | fuel + 1, c :: r, acc =>
    let ip := spanDig (c :: r)
    let fp := if ip.2.head? = some 46 then spanDig ip.2.tail else ([], ip.2)
    if ip.1.isEmpty && fp.1.isEmpty then none
    else
      let up := spanUnit fp.2
      match unitNs up.1 with
      | none => none
      | some U => parseGroups fuel up.2 (acc + natOf ip.1 * U + natOf fp.1 * U / 10 ^ fp.1.length)

/-- `time.ParseDuration`: optional sign, then "0" or a non-empty sequence of groups -/
def durParse (s : Bytes) : Option Int :=
  let body (r : Bytes) : Option Nat := if r = [48] then some 0 else if r = [] then none else parseGroups r.length r 0
  match s with
  | 45 :: r => (body r).map fun n => - (n : Int)
  | 43 :: r => (body r).map fun n => (n : Int)
  | r => (body r).map fun n => (n : Int)

theorem spanDig_app (ds x : Bytes) (hds : ∀ c ∈ ds, isDig c = true) (hx : ∀ c r, x = c :: r → isDig c = false) :
    spanDig (ds ++ x) = (ds, x) := by
  induction ds with
  | nil =>
    cases x with
    | nil => rfl
    | cons c r => simp [spanDig, hx c r rfl]
  | cons d ds ih =>
    have hd := hds d (by simp)
    have := ih (fun c hc => hds c (by simp [hc]))
    simp [spanDig, hd, this]

theorem spanUnit_app (un x : Bytes) (hun : ∀ c ∈ un, isDig c = false ∧ c ≠ 46)
    (hx : ∀ c r, x = c :: r → isDig c = true) : spanUnit (un ++ x) = (un, x) := by
  induction un with
  | nil =>
    cases x with
    | nil => rfl
    | cons c r => simp [spanUnit, hx c r rfl]
  | cons d un ih =>
    have hd := hun d (by simp)
    have := ih (fun c hc => hun c (by simp [hc]))
    simp [spanUnit, hd.1, hd.2, this]

theorem fmtNat_dig (n : Nat) : ∀ c ∈ fmtNat n, isDig c = true := digits_all isDig_digit (n + 1) n

theorem fmtNat_ne (n : Nat) : fmtNat n ≠ [] := digits_ne n n

theorem fmtNat_cons (n : Nat) : ∃ c r, fmtNat n = c :: r ∧ isDig c = true := by
  cases h : fmtNat n with
  | nil => exact absurd h (fmtNat_ne n)
  | cons c r => exact ⟨c, r, rfl, fmtNat_dig n c (by simp [h])⟩

theorem groups_step (fuel n : Nat) (ds un rest : Bytes) (U acc : Nat)
    (hds : ∀ c ∈ ds, isDig c = true)
    (hun : ∀ c ∈ un, isDig c = false ∧ c ≠ 46) (hune : un ≠ []) (hU : unitNs un = some U)
    (hrest : ∀ c r, rest = c :: r → isDig c = true) :
    parseGroups (fuel + 1) (fmtNat n ++ ((if ds = [] then [] else 46 :: ds) ++ (un ++ rest))) acc =
      parseGroups fuel rest (acc + n * U + natOf ds * U / 10 ^ ds.length) := by
  obtain ⟨c0, r0, hN, _⟩ := fmtNat_cons n
  obtain ⟨u0, un', hu⟩ : ∃ u0 un', un = u0 :: un' := by
    cases un with
    | nil => exact absurd rfl hune
    | cons a b => exact ⟨a, b, rfl⟩
  have hu0 := hun u0 (by simp [hu])
  have hne : fmtNat n ≠ [] := fmtNat_ne n
  by_cases hd : ds = []
  · subst hd
    have h1 : spanDig (fmtNat n ++ (un ++ rest)) = (fmtNat n, un ++ rest) :=
      spanDig_app _ _ (fmtNat_dig n) (by intro c r hx; rw [hu] at hx; simp at hx; rw [← hx.1]; exact hu0.1)
    have h2 : (un ++ rest).head? ≠ some 46 := by rw [hu]; simp; exact hu0.2
    have h3 := spanUnit_app un rest hun hrest
    simp only [if_true, List.nil_append]
    rw [hN] at h1 ⊢
    simp only [List.cons_append] at h1 ⊢
    rw [parseGroups]
    simp only [h1, h2, if_false, h3, hU]
    have hn0 : natOf [] = 0 := rfl
    simp [← hN, natOf_fmtNat, hne, hn0]
  · obtain ⟨d0, ds', hds'⟩ : ∃ d0 ds', ds = d0 :: ds' := by
      cases ds with
      | nil => exact absurd rfl hd
      | cons a b => exact ⟨a, b, rfl⟩
    have h1 : spanDig (fmtNat n ++ (46 :: ds ++ (un ++ rest))) = (fmtNat n, 46 :: ds ++ (un ++ rest)) :=
      spanDig_app _ _ (fmtNat_dig n) (by intro c r hx; simp at hx; rw [← hx.1]; decide)
    have h2 : spanDig (ds ++ (un ++ rest)) = (ds, un ++ rest) :=
      spanDig_app _ _ hds (by intro c r hx; rw [hu] at hx; simp at hx; rw [← hx.1]; exact hu0.1)
    have h3 := spanUnit_app un rest hun hrest
    simp only [hd, if_false]
    rw [hN] at h1 ⊢
    simp only [List.cons_append] at h1 ⊢
    rw [parseGroups]
    simp only [h1, List.head?_cons, if_true, List.tail_cons, h2, h3, hU]
    simp [hds', ← hN, natOf_fmtNat]

theorem groups_step_int (fuel n : Nat) (un rest : Bytes) (U acc : Nat)
    (hun : ∀ c ∈ un, isDig c = false ∧ c ≠ 46) (hune : un ≠ []) (hU : unitNs un = some U)
    (hrest : ∀ c r, rest = c :: r → isDig c = true) :
    parseGroups (fuel + 1) (fmtNat n ++ (un ++ rest)) acc = parseGroups fuel rest (acc + n * U) := by
  have h := groups_step fuel n [] un rest U acc (by simp) hun hune hU hrest
  have hn0 : natOf [] = 0 := rfl
  simpa [hn0] using h

def fracText (p v : Nat) : Bytes := if fracDigits p v false = [] then [] else 46 :: fracDigits p v false

theorem fmtFrac_text (p v : Nat) (acc : Bytes) : fmtFrac p v false acc = (fracText p v ++ acc, v / 10 ^ p) := by
  rw [fmtFrac_eq]
  have h := (fracDigits_false p v).2.2
  unfold fracText
  by_cases h0 : v % 10 ^ p = 0
  · simp [h0, h.mpr h0]
  · have : fracDigits p v false ≠ [] := fun e => h0 (h.mp e)
    simp [h0, this]

theorem frac_value (p v : Nat) :
    natOf (fracDigits p v false) * 10 ^ p / 10 ^ (fracDigits p v false).length = v % 10 ^ p := by
  obtain ⟨hl, hv, _⟩ := fracDigits_false p v
  have e : 10 ^ p = 10 ^ (p - (fracDigits p v false).length) * 10 ^ (fracDigits p v false).length := by
    rw [← Nat.pow_add]; congr 1; omega
  calc natOf (fracDigits p v false) * 10 ^ p / 10 ^ (fracDigits p v false).length
      = natOf (fracDigits p v false) * 10 ^ (p - (fracDigits p v false).length) * 10 ^ (fracDigits p v false).length /
          10 ^ (fracDigits p v false).length := by rw [Nat.mul_assoc, ← e]
    _ = v % 10 ^ p := by rw [Nat.mul_div_cancel _ (Nat.pow_pos (by decide)), hv]

theorem groups_step_frac (fuel n p v : Nat) (un rest : Bytes) (acc : Nat)
    (hun : ∀ c ∈ un, isDig c = false ∧ c ≠ 46) (hune : un ≠ []) (hU : unitNs un = some (10 ^ p))
    (hrest : ∀ c r, rest = c :: r → isDig c = true) :
    parseGroups (fuel + 1) (fmtNat n ++ (fracText p v ++ (un ++ rest))) acc =
      parseGroups fuel rest (acc + n * 10 ^ p + v % 10 ^ p) := by
  have h := groups_step fuel n (fracDigits p v false) un rest (10 ^ p) acc (fracDigits_dig p v false) hun hune hU hrest
  unfold fracText
  rw [h, frac_value]

theorem parseGroups_nil (fuel acc : Nat) : parseGroups fuel [] acc = some acc := by
  cases fuel <;> rfl

/-- more fuel never changes a successful reading, so the groups can be counted instead of the bytes -/
theorem parseGroups_succ (fuel : Nat) (s : Bytes) (acc r : Nat) :
    parseGroups fuel s acc = some r → parseGroups (fuel + 1) s acc = some r := by
  fun_induction parseGroups fuel s acc with
  | case1 => exact id
  | case2 => intro h; cases h
  | case3 => intro h; cases h
  | case4 => intro h; cases h
  | case5 f c t acc ip fp hc up U hU ih =>
    intro h
    rw [parseGroups]
    simp only [ip, fp, up] at hc hU ih h ⊢
    rw [if_neg hc, hU]
    exact ih h

theorem parseGroups_le {k fuel : Nat} (hk : k ≤ fuel) {s : Bytes} {acc r : Nat} (h : parseGroups k s acc = some r) :
    parseGroups fuel s acc = some r := by
  induction hk with
  | refl => exact h
  | step _ ih => exact parseGroups_succ _ _ _ _ ih

theorem nil_head (c : UInt8) (r : Bytes) : ([] : Bytes) = c :: r → isDig c = true := by
  intro h; cases h

theorem fmtNat_append_head (n : Nat) (x : Bytes) (c : UInt8) (r : Bytes) (h : fmtNat n ++ x = c :: r) : isDig c = true := by
  obtain ⟨c', r', hc', hd'⟩ := fmtNat_cons n
  rw [hc'] at h
  injection h with h _
  rw [← h]; exact hd'

theorem smallUnit_spec (u : Nat) : (∀ c ∈ (smallUnit u).1, isDig c = false ∧ c ≠ 46) ∧ (smallUnit u).1 ≠ [] ∧
    unitNs (smallUnit u).1 = some (10 ^ (smallUnit u).2) := by
  unfold smallUnit
  split
  · decide
  · split <;> decide

theorem durMag_small (u : Nat) (h0 : 0 < u) (h1 : u < 1000000000) :
    durMag u = fmtNat (u / 10 ^ (smallUnit u).2) ++ (fracText (smallUnit u).2 u ++ (smallUnit u).1) := by
  unfold durMag
  rw [if_pos h1, if_neg (by omega)]
  simp only [fmtFrac_text]

theorem durMag_large (u : Nat) (h : 1000000000 ≤ u) :
    durMag u =
      (if u / 1000000000 / 60 / 60 > 0 then fmtNat (u / 1000000000 / 60 / 60) ++ [104] else []) ++
      (if u / 1000000000 / 60 > 0 then fmtNat (u / 1000000000 / 60 % 60) ++ [109] else []) ++
      fmtNat (u / 1000000000 % 60) ++ fracText 9 u ++ [115] := by
  have hs : ¬ u < 1000000000 := by omega
  have p9 : (1000000000 : Nat) = 10 ^ 9 := rfl
  unfold durMag
  simp only [hs, if_false, fmtFrac_text, ← p9]
  by_cases hm : u / 1000000000 / 60 > 0 <;> by_cases hh : u / 1000000000 / 60 / 60 > 0 <;> simp [hm, hh]
  omega

theorem durMag_head (u : Nat) (hu : 0 < u) : ∃ n x, durMag u = fmtNat n ++ x ∧ x ≠ [] := by
  by_cases hs : u < 1000000000
  · exact ⟨_, _, durMag_small u hu hs, by simp [(smallUnit_spec u).2.1]⟩
  · rw [durMag_large u (by omega)]
    by_cases hm : u / 1000000000 / 60 > 0
    · by_cases hh : u / 1000000000 / 60 / 60 > 0
      · exact ⟨_, _, by simp only [hm, hh, if_true, List.append_assoc]; rfl, by simp⟩
      · exact ⟨_, _, by simp only [hm, hh, if_true, if_false, List.nil_append, List.append_assoc]; rfl, by simp⟩
    · have hh : ¬ u / 1000000000 / 60 / 60 > 0 := by omega
      exact ⟨_, _, by simp only [hm, hh, if_false, List.nil_append, List.append_assoc]; rfl, by simp⟩

theorem hms_sum (u : Nat) : u / 1000000000 / 60 / 60 * 3600000000000 + u / 1000000000 / 60 % 60 * 60000000000 +
    u / 1000000000 % 60 * 10 ^ 9 + u % 10 ^ 9 = u := by omega

/-- the magnitude text reads back: one group below a second, else seconds after optional hours and minutes -/
theorem durMag_parse (u : Nat) (hu : 0 < u) : parseGroups (durMag u).length (durMag u) 0 = some u := by
  have hS : unitNs [115] = some (10 ^ 9) := by decide
  have hM : unitNs [109] = some 60000000000 := by decide
  have hH : unitNs [104] = some 3600000000000 := by decide
  have uS : ∀ c ∈ ([115] : Bytes), isDig c = false ∧ c ≠ 46 := by decide
  have uM : ∀ c ∈ ([109] : Bytes), isDig c = false ∧ c ≠ 46 := by decide
  have uH : ∀ c ∈ ([104] : Bytes), isDig c = false ∧ c ≠ 46 := by decide
  by_cases hs : u < 1000000000
  · obtain ⟨hun, hune, hU⟩ := smallUnit_spec u
    have g := groups_step_frac 0 (u / 10 ^ (smallUnit u).2) _ u _ [] 0 hun hune hU nil_head
    rw [List.append_nil, parseGroups_nil, Nat.zero_add (_ * _), Nat.div_add_mod'] at g
    rw [durMag_small u hu hs]
    refine parseGroups_le ?_ g
    have := List.length_pos_iff.mpr hune
    simp only [List.length_append]
    omega
  · -- the seconds group, with what precedes it accumulated in `acc`
    have secs : ∀ acc, parseGroups 1 (fmtNat (u / 1000000000 % 60) ++ (fracText 9 u ++ [115])) acc =
        some (acc + u / 1000000000 % 60 * 10 ^ 9 + u % 10 ^ 9) := by
      intro acc
      have g := groups_step_frac 0 (u / 1000000000 % 60) 9 u [115] [] acc uS (by decide) hS nil_head
      rwa [List.append_nil, parseGroups_nil] at g
    rw [durMag_large u (by omega)]
    by_cases hm : u / 1000000000 / 60 > 0
    · by_cases hh : u / 1000000000 / 60 / 60 > 0
      · simp only [hm, hh, if_true, List.append_assoc]
        refine parseGroups_le (k := 3) (by simp only [List.length_append, List.length_cons]; omega) ?_
        rw [groups_step_int 2 _ [104] _ _ 0 uH (by decide) hH (fmtNat_append_head _ _),
          groups_step_int 1 _ [109] _ _ _ uM (by decide) hM (fmtNat_append_head _ _), secs, Nat.zero_add, hms_sum]
      · simp only [hm, hh, if_true, if_false, List.nil_append, List.append_assoc]
        refine parseGroups_le (k := 2) (by simp only [List.length_append, List.length_cons]; omega) ?_
        -- no hours: that term of `hms_sum` vanishes
        have h := hms_sum u
        rw [Nat.eq_zero_of_not_pos hh, Nat.zero_mul, Nat.zero_add] at h
        rw [groups_step_int 1 _ [109] _ _ 0 uM (by decide) hM (fmtNat_append_head _ _), secs, Nat.zero_add, h]
    · have hh : ¬ u / 1000000000 / 60 / 60 > 0 := by omega
      simp only [hm, hh, if_false, List.nil_append, List.append_assoc]
      refine parseGroups_le (k := 1) (by simp only [List.length_append, List.length_cons]; omega) ?_
      have h := hms_sum u
      simp only [Nat.eq_zero_of_not_pos hm, Nat.zero_div, Nat.zero_mod, Nat.zero_mul, Nat.zero_add] at h
      rw [secs, Nat.zero_add, h]

/-- `time.ParseDuration`-style reading of `Duration.String()` gives back the duration — for every integer, so in
    particular for the whole int64 range including MinInt64 -/
theorem durParse_durString (d : Int) : durParse (durString d) = some d := by
  by_cases hz : d = 0
  · subst hz; decide
  have hu : 0 < d.natAbs := by omega
  obtain ⟨n, x, hx, hxne⟩ := durMag_head d.natAbs hu
  obtain ⟨c, r, hc, hd⟩ := fmtNat_cons n
  -- what follows the sign is neither "0" nor empty, so it is read as groups
  have body : (if durMag d.natAbs = [48] then some 0 else if durMag d.natAbs = [] then none
      else parseGroups (durMag d.natAbs).length (durMag d.natAbs) 0) = some d.natAbs := by
    have h48 : durMag d.natAbs ≠ [48] := by
      rw [hx, hc]; intro h; injection h with _ h; exact hxne (List.append_eq_nil_iff.mp h).2
    have hne : durMag d.natAbs ≠ [] := by rw [hx, hc]; simp
    rw [if_neg h48, if_neg hne, durMag_parse _ hu]
  unfold durString
  by_cases hneg : d < 0
  · simp only [hneg, if_true, durParse, body]
    simp; omega
  · have h45 : c ≠ 45 := by intro e; rw [e] at hd; exact absurd hd (by decide)
    have h43 : c ≠ 43 := by intro e; rw [e] at hd; exact absurd hd (by decide)
    rw [if_neg hneg]
    rw [hx, hc] at body ⊢
    unfold durParse
    split
    · rename_i heq; injection heq with h1 _; exact absurd h1 h45
    · rename_i heq; injection heq with h1 _; exact absurd h1 h43
    · simp only [body]; simp; omega

/-- every value of `zapcore.Level` (int8) -/
def allLevels : List Int := (List.range 256).map fun (n : Nat) => (n : Int) - 128

/-- colour of a level: `_levelToColor[l]`, else `_unknownLevelColor` -/
def colorOf (l : Int) : Nat := (Gen.levelToColor.lookup l).getD Gen.unknownLevelColor

theorem lookup_map_snd {α β γ : Type} [BEq α] (l : List (α × β)) (g : α × β → γ) (k : α) :
    (l.map fun x => (x.1, g x)).lookup k = (l.find? fun x => k == x.1).map g := by
  induction l with
  | nil => rfl
  | cons x xs ih =>
    simp only [List.map_cons, List.lookup_cons, List.find?_cons]
    cases h : k == x.1 <;> simp [ih]

theorem colorLevel_eq (text : Int → Bytes) (l : Int) : colorLevel text l = colorAdd (colorOf l) (text l) := by
  unfold colorLevel colorMap colorOf
  have h1 := lookup_map_snd Gen.levelToColor (fun lc => colorAdd lc.2 (text lc.1)) l
  have h2 := lookup_map_snd Gen.levelToColor (fun lc => lc.2) l
  have e2 : (Gen.levelToColor.map fun x => (x.1, x.2)) = Gen.levelToColor := by simp
  rw [e2] at h2
  rw [h1, h2]
  cases hf : Gen.levelToColor.find? (fun x => l == x.1) with
  | none => simp
  | some x =>
    have := List.find?_some hf
    simp only [beq_iff_eq] at this
    simp [this]

theorem color_pieces : Gen.colorAddPre = [27, 91] ∧ Gen.colorAddMid = [109] ∧ Gen.colorAddSuf = [27, 91, 48, 109] := by
  decide

theorem colorAdd_inj (c1 c2 : Nat) (s1 s2 : Bytes) (h : colorAdd c1 s1 = colorAdd c2 s2) : c1 = c2 ∧ s1 = s2 := by
  obtain ⟨hp, hm, hs⟩ := color_pieces
  unfold colorAdd at h
  rw [hp, hm, hs] at h
  simp only [List.append_assoc, List.cons_append, List.nil_append, List.cons.injEq, true_and] at h
  have nd : ∀ (x : Bytes) (c : UInt8) (r : Bytes), (109 :: x) = c :: r → isDig c = false := by
    intro x c r e; injection e with e1 _; rw [← e1]; decide
  have a1 := spanDig_app (fmtNat c1) (109 :: (s1 ++ [27, 91, 48, 109])) (fmtNat_dig c1) (nd _)
  have a2 := spanDig_app (fmtNat c2) (109 :: (s2 ++ [27, 91, 48, 109])) (fmtNat_dig c2) (nd _)
  rw [h] at a1
  rw [a1] at a2
  injection a2 with e1 e2
  injection e2 with _ e3
  refine ⟨?_, List.append_cancel_right e3⟩
  have := congrArg natOf e1
  simpa [natOf_fmtNat] using this

/-! The 256-row table `Gen.levelText` is read once per fact: a level of `allLevels` has a row (`level_row`), so a statement about
    `Level.stringOf` / `capitalOf` of every level follows from one pass over the rows. -/

theorem levelText_keys : Gen.levelText.map (·.1) = allLevels := by decide +kernel

theorem level_row {P : Int → Bytes → Bytes → Prop} (h : ∀ r ∈ Gen.levelText, P r.1 r.2.1 r.2.2.1) :
    ∀ l ∈ allLevels, P l (Level.stringOf l) (Level.capitalOf l) := by
  intro l hl
  rw [← levelText_keys, List.mem_map] at hl
  obtain ⟨r0, hr0, e0⟩ := hl
  cases hf : Gen.levelText.lookup l with
  | none => rw [← e0] at hf; exact absurd (List.lookup_eq_none_iff.mp hf r0 hr0) (by simp)
  | some v =>
    obtain ⟨l1, l2, heq, _⟩ := List.lookup_eq_some_iff.mp hf
    have := h (l, v) (by rw [heq]; simp)
    simpa [Level.stringOf, Level.capitalOf, Level.row, hf] using this

theorem lit_Level : litStr "Level(" = [76, 101, 118, 101, 108, 40] := by decide +kernel
theorem lit_LEVEL : litStr "LEVEL(" = [76, 69, 86, 69, 76, 40] := by decide +kernel

theorem unknown_level_text : ∀ l ∈ allLevels, l ∉ Level.validLevels →
    Level.stringOf l = litStr "Level(" ++ fmtInt l ++ [41] ∧ Level.capitalOf l = litStr "LEVEL(" ++ fmtInt l ++ [41] := by
  rw [lit_Level, lit_LEVEL]
  exact level_row (P := fun l s c => l ∉ Level.validLevels →
    s = [76, 101, 118, 101, 108, 40] ++ fmtInt l ++ [41] ∧ c = [76, 69, 86, 69, 76, 40] ++ fmtInt l ++ [41]) (by decide +kernel)

theorem known_level_heads : ∀ l ∈ Level.validLevels,
    (Level.stringOf l).head? ≠ some 76 ∧ (Level.capitalOf l).head? ≠ some 76 ∧ Level.stringOf l ≠ [] ∧ Level.capitalOf l ≠ [] := by
  decide +kernel

theorem known_names_inj : ∀ a ∈ Level.validLevels, ∀ b ∈ Level.validLevels,
    (Level.stringOf a = Level.stringOf b → a = b) ∧ (Level.capitalOf a = Level.capitalOf b → a = b) := by
  decide +kernel

theorem fmtInt_inj (a b : Int) (h : fmtInt a = fmtInt b) : a = b := by
  have := congrArg intOf h
  simpa [intOf_fmtInt] using this

theorem plain_text_inj : ∀ a ∈ allLevels, ∀ b ∈ allLevels,
    (Level.stringOf a = Level.stringOf b → a = b) ∧ (Level.capitalOf a = Level.capitalOf b → a = b) := by
  intro a ha b hb
  have hL : ∀ x : Bytes, (litStr "Level(" ++ x ++ [41]).head? = some 76 := fun x => by rw [lit_Level]; rfl
  have hC : ∀ x : Bytes, (litStr "LEVEL(" ++ x ++ [41]).head? = some 76 := fun x => by rw [lit_LEVEL]; rfl
  by_cases va : a ∈ Level.validLevels <;> by_cases vb : b ∈ Level.validLevels
  · exact known_names_inj a va b vb
  · obtain ⟨h1, h2, _, _⟩ := known_level_heads a va
    obtain ⟨u1, u2⟩ := unknown_level_text b hb vb
    refine ⟨fun e => ?_, fun e => ?_⟩
    · rw [e, u1] at h1; exact absurd (hL _) h1
    · rw [e, u2] at h2; exact absurd (hC _) h2
  · obtain ⟨h1, h2, _, _⟩ := known_level_heads b vb
    obtain ⟨u1, u2⟩ := unknown_level_text a ha va
    refine ⟨fun e => ?_, fun e => ?_⟩
    · rw [← e, u1] at h1; exact absurd (hL _) h1
    · rw [← e, u2] at h2; exact absurd (hC _) h2
  · obtain ⟨a1, a2⟩ := unknown_level_text a ha va
    obtain ⟨b1, b2⟩ := unknown_level_text b hb vb
    refine ⟨fun e => ?_, fun e => ?_⟩
    · rw [a1, b1] at e
      simp only [List.append_assoc] at e
      exact fmtInt_inj a b (List.append_cancel_right (List.append_cancel_left e))
    · rw [a2, b2] at e
      simp only [List.append_assoc] at e
      exact fmtInt_inj a b (List.append_cancel_right (List.append_cancel_left e))

theorem levelText_inj (k : LvlEnc) : ∀ a ∈ allLevels, ∀ b ∈ allLevels, levelText k a = levelText k b → a = b := by
  intro a ha b hb h
  have hp := plain_text_inj a ha b hb
  cases k with
  | lower => exact hp.1 h
  | capital => exact hp.2 h
  | color =>
    simp only [levelText, colorLevel_eq] at h
    exact hp.1 (colorAdd_inj _ _ _ _ h).2
  | capitalColor =>
    simp only [levelText, colorLevel_eq] at h
    exact hp.2 (colorAdd_inj _ _ _ _ h).2

/-- the documented colours: debug magenta (35), info blue (34), warn yellow (33), everything else red (31) -/
theorem colorOf_documented : ∀ l ∈ allLevels,
    colorOf l = (if l = -1 then 35 else if l = 0 then 34 else if l = 1 then 33 else 31) := by
  decide +kernel

theorem fmtNat_no_colon (n : Nat) : (58 : UInt8) ∉ fmtNat n := by
  intro h
  have := fmtNat_dig n 58 h
  exact absurd this (by decide)

theorem fmtInt_no_colon (i : Int) : (58 : UInt8) ∉ fmtInt i := by
  unfold fmtInt
  split
  · intro h
    simp only [List.mem_cons] at h
    rcases h with h | h
    · exact absurd h (by decide)
    · exact fmtNat_no_colon _ h
  · exact fmtNat_no_colon _

/-- reading a caller text: everything before the LAST ':' is the file, the decimal after it the line -/
def callerDecode (t : Bytes) : Option (Bytes × Int) :=
  match Callers.lastIndexOf 58 t with
  | some i => some (t.take i, intOf (t.drop (i + 1)))
  | none => none

theorem callerDecode_join (file : Bytes) (line : Int) : callerDecode (file ++ 58 :: fmtInt line) = some (file, line) := by
  unfold callerDecode
  rw [Callers.lastIndexOf_sep 58 file (fmtInt line) (fmtInt_no_colon line)]
  have e : file ++ 58 :: fmtInt line = (file ++ [58]) ++ fmtInt line := by simp
  simp only [List.take_left' rfl]
  rw [e, List.drop_left' (by simp), intOf_fmtInt]

/-! ### JSON round trip of duration texts (the only non-ASCII bytes a built-in sub-encoder emits are the `µ` of "µs") -/

theorem isDig_ascii (c : UInt8) (h : isDig c = true) : c < 128 := by
  simp [isDig, UInt8.lt_iff_toNat_lt, UInt8.le_iff_toNat_le] at h ⊢; omega

theorem fmtNat_ascii (n : Nat) : ∀ b ∈ fmtNat n, b < 128 := fun b hb => isDig_ascii b (fmtNat_dig n b hb)

theorem fracText_ascii (p v : Nat) : ∀ b ∈ fracText p v, b < 128 := by
  intro b hb
  unfold fracText at hb
  split at hb
  · simp at hb
  · simp only [List.mem_cons] at hb
    rcases hb with hb | hb
    · rw [hb]; decide
    · exact isDig_ascii b (fracDigits_dig p v false b hb)

/-- "ns" and "ms" are ASCII, the `µ` of "µs" is a valid two-byte sequence -/
theorem sanitize_smallUnit (u : Nat) : Esc.sanitize (smallUnit u).1.length (smallUnit u).1 = (smallUnit u).1 := by
  unfold smallUnit
  split
  · decide +kernel
  · split <;> decide +kernel

theorem durMag_large_ascii (u : Nat) (h : 1000000000 ≤ u) : ∀ b ∈ durMag u, b < 128 := by
  have unit : ∀ (c : Prop) [Decidable c] (n : Nat) (l : UInt8), l < 128 →
      ∀ b ∈ (if c then fmtNat n ++ [l] else []), b < 128 := by
    intro c _ n l hl
    split
    · exact List.forall_mem_append.2 ⟨fmtNat_ascii n, by simpa using hl⟩
    · simp
  rw [durMag_large u h]
  exact List.forall_mem_append.2 ⟨List.forall_mem_append.2 ⟨List.forall_mem_append.2 ⟨List.forall_mem_append.2
    ⟨unit _ _ 104 (by decide), unit _ _ 109 (by decide)⟩, fmtNat_ascii _⟩, fracText_ascii 9 u⟩, by decide⟩

theorem sanitize_durMag (u : Nat) : Esc.sanitize (durMag u).length (durMag u) = durMag u := by
  by_cases h0 : u = 0
  · subst h0; decide +kernel
  by_cases hs : u < 1000000000
  · rw [durMag_small u (by omega) hs, ← List.append_assoc, List.length_append,
      Esc.sanitize_ascii_append _ _ _ (List.forall_mem_append.2 ⟨fmtNat_ascii _, fracText_ascii _ _⟩), sanitize_smallUnit]
  · exact Esc.sanitize_of_ascii _ _ (Nat.le_refl _) (durMag_large_ascii u (by omega))

theorem sanitize_durString (d : Int) : Esc.sanitize (durString d).length (durString d) = durString d := by
  unfold durString
  split
  · simp only [List.length_cons, Esc.sanitize]
    rw [if_neg (by decide), sanitize_durMag]
  · exact sanitize_durMag _

theorem plain_level_ascii : ∀ l ∈ allLevels, (∀ b ∈ Level.stringOf l, b < 128) ∧ (∀ b ∈ Level.capitalOf l, b < 128) := by
  exact level_row (P := fun _ s c => (∀ b ∈ s, b < 128) ∧ (∀ b ∈ c, b < 128)) (by decide +kernel)

theorem levelText_ascii (k : LvlEnc) : ∀ l ∈ allLevels, ∀ b ∈ levelText k l, b < 128 := by
  intro l hl b hb
  obtain ⟨h1, h2⟩ := plain_level_ascii l hl
  obtain ⟨hp, hm, hs⟩ := color_pieces
  have col : ∀ t : Bytes, (∀ b ∈ t, b < 128) → ∀ c, ∀ b ∈ colorAdd c t, b < 128 := by
    intro t ht c b hb
    unfold colorAdd at hb
    rw [hp, hm, hs] at hb
    simp only [List.mem_append] at hb
    rcases hb with (((hb | hb) | hb) | hb) | hb
    · revert b; decide
    · exact fmtNat_ascii c b hb
    · revert b; decide
    · exact ht b hb
    · revert b; decide
  cases k with
  | lower => exact h1 b hb
  | capital => exact h2 b hb
  | color => simp only [levelText, colorLevel_eq] at hb; exact col _ h1 _ b hb
  | capitalColor => simp only [levelText, colorLevel_eq] at hb; exact col _ h2 _ b hb

end ZapVerif.SubEnc
