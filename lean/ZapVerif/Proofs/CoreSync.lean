import ZapVerif.Model.Core
import ZapVerif.Proofs.Core
/-! `Core.Sync` reaches every io leaf through every wrapper. -/
namespace ZapVerif.Cores
open ZapVerif

/-- the leaves whose sink was synced, in order -/
def syncIds (evs : List Ev) : List Nat := evs.filterMap fun | .sync id => some id | _ => none

theorem syncIds_append (a b : List Ev) : syncIds (a ++ b) = syncIds a ++ syncIds b := by
  simp [syncIds, List.filterMap_append]

theorem syncIds_marshal (id : Nat) (fs : List Fld) : syncIds (fs.map (Ev.marshal id)) = [] := by
  simp [syncIds]

theorem withEv_syncIds (μ : Val) :
    (∀ (c : Core) (fs : List Fld) (w : W), syncIds (withEv μ c fs w).evs = syncIds w.evs) ∧
    (∀ (cs : List Core) (fs : List Fld) (w : W), syncIds (withEvAll μ cs fs w).evs = syncIds w.evs) := by
  apply core_induct
  · intro id _ io _ fs w; cases io <;> simp [withEv, W.emit, syncIds_append, syncIds_marshal]
  · intro _ w; simp [withEv]
  · intro cs ih fs w; simpa [withEv] using ih fs w
  · intro c _ ih fs w; simpa [withEv] using ih fs w
  · intro c _ ih fs w; simpa [withEv] using ih fs w
  · intro c _ _ ih fs w; simpa [withEv] using ih fs w
  · intro cell c pfs ih fs w
    simp only [withEv]
    rw [ih fs]
    cases h : w.snap cell with
    | some _ => rfl
    | none => simpa using ih (pfs.map (Fld.resolve μ)) w
  · intro _ w; simp [withEvAll]
  · intro c cs ih ihs fs w
    simp only [withEvAll]
    rw [ihs fs, ih fs]

theorem withEvAll_syncIds (μ : Val) : ∀ (cs : List Core) (fs : List Fld) (w : W), syncIds (withEvAll μ cs fs w).evs = syncIds w.evs :=
  (withEv_syncIds μ).2

theorem forceCell_syncIds (μ : Val) (cell : Nat) (c : Core) (pfs : List Fld) (w : W) :
    syncIds (forceCell μ cell c pfs w).evs = syncIds w.evs := by
  unfold forceCell
  cases h : w.snap cell with
  | some _ => rfl
  | none => simpa using (withEv_syncIds μ).1 c (pfs.map (Fld.resolve μ)) w

theorem syncEv_syncIds (μ : Val) :
    (∀ (c : Core) (w : W), syncIds (syncEv μ c w).evs = syncIds w.evs ++ ioLeaves c) ∧
    (∀ (cs : List Core) (w : W), syncIds (syncEvAll μ cs w).evs = syncIds w.evs ++ ioLeavesAll cs) := by
  apply core_induct
  · intro id _ io _ w; cases io <;> simp [syncEv, ioLeaves, W.emit, syncIds]
  · intro w; simp [syncEv, ioLeaves]
  · intro cs ih w; simpa [syncEv, ioLeaves] using ih w
  · intro c _ ih w; simpa [syncEv, ioLeaves] using ih w
  · intro c _ ih w; simpa [syncEv, ioLeaves] using ih w
  · intro c _ _ ih w; simpa [syncEv, ioLeaves] using ih w
  · intro cell c pfs ih w
    simp only [syncEv, ioLeaves]
    rw [ih, forceCell_syncIds]
  · intro w; simp [syncEvAll, ioLeavesAll]
  · intro c cs ih ihs w
    simp only [syncEvAll, ioLeavesAll]
    rw [ihs, ih, List.append_assoc]

theorem syncEvAll_syncIds (μ : Val) : ∀ (cs : List Core) (w : W), syncIds (syncEvAll μ cs w).evs = syncIds w.evs ++ ioLeavesAll cs :=
  (syncEv_syncIds μ).2

end ZapVerif.Cores
