import ZapVerif.Proofs.Drf
import ZapVerif.Model.SitePrograms
/-! Data-race freedom for the remaining disciplines: atomics only, single owner, sync.Once publication,
    immutable after publication, publication through a later critical section. -/
namespace ZapVerif.Sync

/-- immediate from the definition of a conflict: two atomic operations never form a race -/
theorem atomic_only_drf (x : Var) (tr : List Ev) (h : AtomicOnly x tr) : DRF tr x := by
  rintro ⟨i, j, a, b, _, ha, hb, hc, _⟩
  obtain ⟨hax, hbx, _, hna, _⟩ := conflict_parts hc
  exact hna ⟨h a (evAt_mem ha) hax, h b (evAt_mem hb) hbx⟩

theorem owner_only_drf (x : Var) (c : Tid) (tr : List Ev) (h : OwnerOnly x c tr) : DRF tr x := by
  rintro ⟨i, j, a, b, _, ha, hb, hc, _⟩
  obtain ⟨hax, hbx, _, _, hne⟩ := conflict_parts hc
  exact hne ((h a (evAt_mem ha) hax).trans (h b (evAt_mem hb) hbx).symm)

theorem onceSt_access {x : Var} {a : Ev} (o : OnceId) (pre : List Ev) (hax : a.touches x = true) :
    onceSt o (a :: pre) = onceSt o pre := by
  cases a <;> simp [Ev.touches] at hax <;> simp [onceSt]

theorem passed_access {x : Var} {a : Ev} (o : OnceId) (t : Tid) (pre : List Ev) (hax : a.touches x = true) :
    passed o t (a :: pre) = passed o t pre := by
  cases a <;> simp [Ev.touches] at hax <;> simp [passed]

theorem onceEnd_between (o : OnceId) (s : Tid) (tr mid : List Ev) (hwf : WF (mid ++ tr))
    (h : onceSt o tr = .running s) (hn : onceSt o (mid ++ tr) ≠ .running s) :
    ∃ mid2 mid1, mid = mid2 ++ Ev.onceEnd s o :: mid1 := by
  obtain ⟨m2, e, m1, hs, h1, h2⟩ := first_change (onceSt o · = .running s) tr mid h hn
  have hok : okStep e (m1 ++ tr) = true := (WF_suffix m2 (e :: (m1 ++ tr)) (by simpa [hs] using hwf)).2
  rcases onceSt_cases o e (m1 ++ tr) with h0 | ⟨t, rfl, _⟩ | ⟨t, rfl, _⟩
  · exact absurd (h0 ▸ h1) h2
  · simp [okStep, h1] at hok
  · obtain rfl : s = t := by simpa [okStep, h1] using hok
    exact ⟨m2, m1, hs⟩

theorem once_done_stable (o : OnceId) (tr : List Ev) : ∀ mid, WF (mid ++ tr) →
    onceSt o tr = .done → onceSt o (mid ++ tr) = .done
  | [], _, h => h
  | e :: mid, hwf, h => by
    have ih := once_done_stable o tr mid hwf.1 h
    have hok : okStep e (mid ++ tr) = true := hwf.2
    rcases onceSt_cases o e (mid ++ tr) with h0 | ⟨t, rfl, _⟩ | ⟨t, rfl, h0⟩
    · exact h0.trans ih
    · simp [okStep, ih] at hok
    · exact h0

theorem once_running_stable (o : OnceId) (s : Tid) (tr mid : List Ev) (hwf : WF (mid ++ tr))
    (h : onceSt o tr = .running s) : onceSt o (mid ++ tr) = .running s ∨ onceSt o (mid ++ tr) = .done := by
  by_cases hr : onceSt o (mid ++ tr) = .running s
  · exact .inl hr
  · obtain ⟨m2, m1, rfl⟩ := onceEnd_between o s tr mid hwf h hr
    simp only [List.append_assoc, List.cons_append] at hwf ⊢
    exact .inr (once_done_stable o _ m2 hwf (by simp [onceSt]))

theorem passed_done (o : OnceId) (t : Tid) : ∀ tr, WF tr → passed o t tr = true → onceSt o tr = .done
  | [], _, h => by simp [passed] at h
  | e :: tr, hwf, h => by
    have hok : okStep e tr = true := hwf.2
    rcases (passed_cons o t e tr).mp h with (rfl | rfl) | hp
    · simp [onceSt]
    · simpa [okStep, onceSt] using hok
    · exact once_done_stable o tr [e] hwf (passed_done o t tr hwf.1 hp)

theorem pass_between (o : OnceId) (t : Tid) (tr mid : List Ev)
    (hn : passed o t tr = false) (h : passed o t (mid ++ tr) = true) :
    ∃ mid2 mid1, mid = mid2 ++ Ev.onceEnd t o :: mid1 ∨ mid = mid2 ++ Ev.onceRet t o :: mid1 := by
  have hnot : ¬ (Ev.onceEnd t o ∈ tr ∨ Ev.onceRet t o ∈ tr) := by
    rw [← passed_iff_mem, hn]; simp
  rw [passed_iff_mem, List.mem_append, List.mem_append] at h
  rcases h with (h | h) | (h | h)
  · obtain ⟨m2, m1, hs⟩ := List.append_of_mem h
    exact ⟨m2, m1, .inl hs⟩
  · exact absurd (.inl h) hnot
  · obtain ⟨m2, m1, hs⟩ := List.append_of_mem h
    exact ⟨m2, m1, .inr hs⟩
  · exact absurd (.inr h) hnot

theorem onceGuarded_iff_split {x : Var} {o : OnceId} {tr : List Ev} :
    OnceGuarded x o tr ↔ ∀ post e pre, tr = post ++ e :: pre → e.touches x = true →
      onceSt o pre = .running e.tid ∨ (e.isWrite = false ∧ passed o e.tid pre = true) :=
  forall_split_iff (R := OnceGuarded x o) trivial (fun _ _ => Iff.rfl) tr

/-- written inside the `Do` body, read there or after a `Do` return: a conflicting pair has its earlier
    access inside the body and its later one after a return, hence a —po→ onceEnd —sw→ onceRet —po→ b -/
theorem once_pair {x : Var} (o : OnceId) (post mid pre : List Ev) (a b : Ev)
    (hwfm : WF (mid ++ a :: pre)) (hax : a.touches x = true)
    (hw : a.isWrite = true ∨ b.isWrite = true) (hne : a.tid ≠ b.tid)
    (ga : onceSt o pre = .running a.tid ∨ (a.isWrite = false ∧ passed o a.tid pre = true))
    (gb : onceSt o (mid ++ a :: pre) = .running b.tid ∨
          (b.isWrite = false ∧ passed o b.tid (mid ++ a :: pre) = true)) :
    HB (post ++ b :: (mid ++ a :: pre)) pre.length (mid ++ a :: pre).length := by
  have hwfa : WF (a :: pre) := WF_suffix mid _ hwfm
  have hoa := onceSt_access o pre hax
  rcases ga with ga | ⟨garw, gap⟩
  · have hrun : onceSt o (a :: pre) = .running a.tid := hoa.trans ga
    -- while a's goroutine runs the body nobody else does
    have hnotb : ∀ mid', WF (mid' ++ a :: pre) → onceSt o (mid' ++ a :: pre) ≠ .running b.tid := by
      intro mid' hwf' hcon
      rcases once_running_stable o a.tid (a :: pre) mid' hwf' hrun with h | h
      · exact hne (OnceSt.running.inj (h.symm.trans hcon))
      · rw [h] at hcon; cases hcon
    rcases gb with gb | ⟨gbrw, gbp⟩
    · exact absurd gb (hnotb mid hwfm)
    · -- b after a `Do` return: a —po→ onceEnd —sw→ onceRet —po→ b
      have hnp : passed o b.tid (a :: pre) = false := by
        cases hp : passed o b.tid (a :: pre) with
        | false => rfl
        | true => have := passed_done o b.tid _ hwfa hp; rw [hrun] at this; cases this
      obtain ⟨m2, m1, hs⟩ := pass_between o b.tid (a :: pre) mid hnp gbp
      rcases hs with rfl | rfl
      · -- b's goroutine would have ended the once itself
        have hwf2 : WF (Ev.onceEnd b.tid o :: (m1 ++ a :: pre)) := WF_suffix m2 _ (by simpa using hwfm)
        exact absurd (by simpa [okStep] using hwf2.2) (hnotb m1 hwf2.1)
      · have hwf2 : WF (Ev.onceRet b.tid o :: (m1 ++ a :: pre)) := WF_suffix m2 _ (by simpa using hwfm)
        have hdone : onceSt o (m1 ++ a :: pre) = .done := by simpa [okStep] using hwf2.2
        obtain ⟨m4, m3, rfl⟩ := onceEnd_between o a.tid (a :: pre) m1 hwf2.1 hrun (by rw [hdone]; nofun)
        simp only [List.append_assoc, List.cons_append]
        exact chain_of_split post m2 m4 m3 pre rfl (by simp [sw]) rfl
  · -- a is a read after a `Do` return: the once is done, so b cannot be inside the body; b is a read too
    have hdone := once_done_stable o (a :: pre) mid hwfm (hoa.trans (passed_done o a.tid pre hwfa.1 gap))
    rcases gb with gb | ⟨gbrw, _⟩
    · rw [hdone] at gb; cases gb
    · rcases hw with h | h
      · rw [garw] at h; cases h
      · rw [gbrw] at h; cases h

theorem once_publish_drf (x : Var) (o : OnceId) (tr : List Ev) (hwf : WF tr) (hg : OnceGuarded x o tr) :
    DRF tr x := by
  refine drf_of_pairs fun post mid pre a b ht hc => ?_
  obtain ⟨hax, hbx, hw, -, hne⟩ := conflict_parts hc
  have hs := onceGuarded_iff_split.mp hg
  subst ht
  exact once_pair o post mid pre a b (WF_suffix post _ hwf).1 hax hw hne
    (hs (post ++ b :: mid) a pre (by simp) hax) (hs post b _ rfl hbx)

/-- x is written only by goroutine c; every access by another goroutine has a *publication point*: an
    event g of c that is not before any write to x and happens-before that access -/
def PublishedBy (x : Var) (c : Tid) (tr : List Ev) : Prop :=
  (∀ e ∈ tr, e.touches x = true → e.isWrite = true → e.tid = c) ∧
  (∀ j b, evAt tr j = some b → b.touches x = true → b.tid ≠ c →
    ∃ g eg, evAt tr g = some eg ∧ eg.tid = c ∧ HB tr g j ∧
      ∀ i a, evAt tr i = some a → a.touches x = true → a.isWrite = true → i ≤ g)

/-- all writes by the constructing goroutine, and the object handed over
    (by whatever synchronisation: `go`, a mutex, a channel) only after the last write ⇒ no data race. -/
theorem immutable_after_publish_drf (x : Var) (c : Tid) (tr : List Ev) (h : PublishedBy x c tr) :
    DRF tr x := by
  obtain ⟨hown, hpub⟩ := h
  rintro ⟨i, j, a, b, hij, ha, hb, hc, hn⟩
  obtain ⟨hax, hbx, hw, _, hne⟩ := conflict_parts hc
  rcases hw with hw | hw
  · have hac := hown a (evAt_mem ha) hax hw
    have hbc : b.tid ≠ c := by intro h; exact hne (hac.trans h.symm)
    obtain ⟨g, eg, heg, hegc, hgj, hlast⟩ := hpub j b hb hbx hbc
    have hig := hlast i a ha hax hw
    rcases Nat.lt_or_ge i g with hlt | hge
    · exact hn (.trans (.po hlt ha heg (hac.trans hegc.symm)) hgj)
    · have : i = g := by omega
      subst this; exact hn hgj
  · -- the later access is the write: the earlier (foreign) access would need a publication point after it
    have hbc := hown b (evAt_mem hb) hbx hw
    have hac : a.tid ≠ c := by intro h; exact hne (h.trans hbc.symm)
    obtain ⟨g, eg, _, _, hgi, hlast⟩ := hpub i a ha hax hac
    have := hlast j b hb hbx hw
    have := HB_lt hgi
    omega

/-- instance: publication by `go` — every foreign access is made by a goroutine that c started after its
    last write to x -/
theorem fork_publish_drf (x : Var) (c : Tid) (tr : List Ev)
    (hown : ∀ e ∈ tr, e.touches x = true → e.isWrite = true → e.tid = c)
    (hfork : ∀ j b, evAt tr j = some b → b.touches x = true → b.tid ≠ c →
      ∃ g, g < j ∧ evAt tr g = some (.fork c b.tid) ∧
        ∀ i a, evAt tr i = some a → a.touches x = true → a.isWrite = true → i ≤ g) :
    DRF tr x := by
  apply immutable_after_publish_drf x c tr
  refine ⟨hown, ?_⟩
  intro j b hb hbx hbc
  obtain ⟨g, hgj, heg, hlast⟩ := hfork j b hb hbx hbc
  exact ⟨g, _, heg, rfl, .sw hgj heg hb (by simp [sw]), hlast⟩

theorem evAt_append_ge {tr : List Ev} {k : Nat} {e : Ev} : ∀ post : List Ev, tr.length ≤ k →
    evAt (post ++ tr) k = some e → ∃ p2 p1, post = p2 ++ e :: p1 ∧ (p1 ++ tr).length = k
  | [], hk, h => by have := evAt_lt (by simpa using h); omega
  | e' :: post, hk, h => by
    simp only [List.cons_append, evAt] at h
    split at h
    · rename_i heq
      simp at h; subst h
      exact ⟨[], post, rfl, heq.symm⟩
    · obtain ⟨p2, p1, hs, hl⟩ := evAt_append_ge post hk h
      exact ⟨e' :: p2, p1, by simp [hs], hl⟩

/-- writes to x inside exclusive critical sections of m; every other access is inside a critical
    section of m too, or is a read that is program-ordered after a `Lock(m)` of its own goroutine which
    is later than every write to x of the whole trace (the goroutine saw the "initialised" flag under the
    lock and x is never written again) -/
def LockPublished (x : Var) (m : Lock) (tr : List Ev) : Prop :=
  ∀ post b pre, tr = post ++ b :: pre → b.touches x = true →
    holder m pre = some b.tid ∨
    (b.isWrite = false ∧ ∃ g, evAt pre g = some (.acq b.tid m) ∧
      ∀ i a, evAt tr i = some a → a.touches x = true → a.isWrite = true → i < g)

/-- the lock-publish class (`LockPublished`, and also a reader that was forked after the initialisation):
    the earlier of two conflicting accesses holds the lock, since a read after the last write conflicts with
    nothing later; the later access holds the lock too, or follows a later `Lock`, or a `go` that every write
    happens-before -/
theorem lockpub_pair {x : Var} (m : Lock) (tr post mid pre : List Ev) (a b : Ev)
    (ht : tr = post ++ b :: (mid ++ a :: pre)) (hwf : WF tr)
    (hax : a.touches x = true) (hbx : b.touches x = true)
    (hw : a.isWrite = true ∨ b.isWrite = true) (hne : a.tid ≠ b.tid)
    (ga : SitePrograms.ClassAt (.lockPublish m) x tr pre a)
    (gb : SitePrograms.ClassAt (.lockPublish m) x tr (mid ++ a :: pre) b) :
    HB tr pre.length (mid ++ a :: pre).length := by
  have ha : evAt tr pre.length = some a := evAt_of_eq (A := post ++ b :: mid) (by simp [ht])
  have hb : evAt tr (mid ++ a :: pre).length = some b := evAt_of_eq (A := post) ht
  have hij := length_lt_append_cons mid a pre
  have hwfm : WF (mid ++ a :: pre) := by subst ht; exact (WF_suffix post _ hwf).1
  have hha := holder_access m pre hax
  have hxa : holder m pre = some a.tid := by
    rcases ga with ga | ⟨garw, hh⟩
    · exact ga
    · have hbw : b.isWrite = true := hw.resolve_left (by simp [garw])
      rcases hh with ⟨g, hg1, hg2⟩ | ⟨g, p, hg1, hg2⟩
      · have h1 := hg2 _ b hb hbx hbw
        have h2 := evAt_lt hg1
        omega
      · have h1 := HB_lt (hg2 _ b hb hbx hbw)
        have h2 := evAt_lt hg1
        omega
  rcases gb with gb | ⟨gbrw, hh⟩
  · subst ht
    exact cs_chain m post mid pre a b hha hwfm hxa hne (.inl gb)
  · have haw : a.isWrite = true := hw.resolve_right (by simp [gbrw])
    rcases hh with ⟨g, hg1, hg2⟩ | ⟨g, p, hg1, hg2⟩
    · -- b after a later critical section: a —po→ Unlock —sw→ Lock —po→ b
      have hig := hg2 _ a ha hax haw
      obtain ⟨m4, m3, rfl, hl⟩ := evAt_append_ge (tr := a :: pre) mid (by simp; omega) hg1
      simp only [List.append_assoc, List.cons_append] at hwfm
      have hwf2 : WF (Ev.acq b.tid m :: (m3 ++ a :: pre)) := WF_suffix m4 _ hwfm
      have hfree : holder m (m3 ++ a :: pre) = none := by
        have := hwf2.2; simp [okStep] at this; exact this.1
      obtain ⟨m2, m1, rfl, -⟩ := rel_between m a.tid (a :: pre) m3 hwf2.1 (hha ▸ hxa) (by rw [hfree]; nofun)
      subst ht
      simp only [List.append_assoc, List.cons_append]
      exact chain_of_split post m4 m2 m1 pre rfl (by simp [sw]) rfl
    · -- b's goroutine was started after the initialisation: a —hb→ go —sw→ b
      have hg1' : evAt tr g = some (.fork p b.tid) := by
        subst ht
        exact evAt_append_of_some post (evAt_cons_of_some b hg1)
      exact .trans (hg2 _ a ha hax haw) (.sw (evAt_lt hg1) hg1' hb (by simp [sw]))

theorem lock_publish_drf (x : Var) (m : Lock) (tr : List Ev) (hwf : WF tr)
    (hg : LockPublished x m tr) : DRF tr x := by
  refine drf_of_pairs fun post mid pre a b ht hc => ?_
  obtain ⟨hax, hbx, hw, -, hne⟩ := conflict_parts hc
  have hcls : ∀ post e pre, tr = post ++ e :: pre → e.touches x = true →
      SitePrograms.ClassAt (.lockPublish m) x tr pre e :=
    fun post e pre h hx => (hg post e pre h hx).imp_right fun ⟨hrd, g, h1, h2⟩ => ⟨hrd, .inl ⟨g, h1, h2⟩⟩
  exact lockpub_pair m tr post mid pre a b ht hwf hax hbx hw hne
    (hcls (post ++ b :: mid) a pre (by simp [ht]) hax) (hcls post b _ ht hbx)

end ZapVerif.Sync
