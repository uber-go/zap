import ZapVerif.Proofs.SitePrograms
/-! Fields without "unshared" (`fresh`/`optfn`/`nilinit`) sites: a generated trace satisfies the M10
    discipline predicates `AtomicOnly`, `Guarded`, `RWGuarded`, `OnceGuarded`, `LockPublished` literally
    (the hypotheses of `lockset_drf`, `rw_lockset_drf`, `atomic_only_drf`, `once_publish_drf`,
    `lock_publish_drf`). -/
namespace ZapVerif.SitePrograms
open ZapVerif.Sync ZapVerif.SyncFacts

/-- every access to x satisfies the per-event condition of class c (no hand-over phase) -/
def SharedOnly (c : Class) (x : Var) (tr : List Ev) : Prop :=
  ∀ post e pre, tr = post ++ e :: pre → e.touches x = true → ClassAt c x tr pre e

theorem sharedOnly_disciplined {c : Class} {x : Var} {tr : List Ev} (owner : Tid)
    (h : SharedOnly c x tr) : Disciplined c owner x tr :=
  fun post e pre ht hx => Or.inr (h post e pre ht hx)

theorem atomicOnly_of_split {x : Var} {tr : List Ev}
    (h : ∀ post e pre, tr = post ++ e :: pre → e.touches x = true → e.isAtomic = true) :
    AtomicOnly x tr := by
  intro e he hx
  obtain ⟨post, pre, hs⟩ := List.append_of_mem he
  exact h post e pre hs hx

theorem generated_shared (I : Interp) (table : List Row) (x : Var) (c : Class) (tr : List Ev)
    (hgen : GeneratedOn I table x tr) (hwf : WF tr)
    (hc : classify (sitesOf table (I.field x)) = some c)
    (hsh : ∀ s ∈ sitesOf table (I.field x), unshared s.guard = false) :
    SharedOnly (instClass I x c) x tr := by
  intro post e pre ht hx
  obtain ⟨s, hs, hh⟩ := hgen post e pre ht hx
  have hwfp : WF pre := by
    subst ht
    exact (WF_suffix post _ hwf).1
  exact site_classAt_shared I x c s tr pre e hwfp (classify_accepts hc s hs) (by simp [hsh s hs]) hh

/-- the lock-publish class without a forked reader: exactly `Sync.LockPublished` -/
theorem generated_lockPublished (I : Interp) (table : List Row) (x : Var) (m : Nat) (tr : List Ev)
    (hgen : GeneratedOn I table x tr) (hwf : WF tr)
    (hc : classify (sitesOf table (I.field x)) = some (.lockPublish m))
    (hsh : ∀ s ∈ sitesOf table (I.field x), unshared s.guard = false ∧ s.guard ≠ .forked) :
    LockPublished x (I.lock x m) tr := by
  intro post e pre ht hx
  obtain ⟨s, hs, hwr, hg⟩ := hgen post e pre ht hx
  have hwfp : WF pre := by
    subst ht
    exact (WF_suffix post _ hwf).1
  have hacc := classify_accepts hc s hs
  obtain ⟨hu, hnf⟩ := hsh s hs
  simp only [Class.accepts, hu, Bool.false_or, Bool.or_eq_true, Bool.and_eq_true, beq_iff_eq,
    Bool.not_eq_true'] at hacc
  rcases hacc with hgd | ⟨hnw, hgd | hgd⟩
  · rw [hgd] at hg
    exact Or.inl (holder_of_heldExcl hwfp hg)
  · exact absurd hgd hnf
  · rw [hgd] at hg
    obtain ⟨g, h', _, h1, _, h2⟩ := hg
    exact Or.inr ⟨by rw [← hwr]; exact hnw, g, h1, h2⟩

/-! ### the immutable class: `Sync.PublishedBy` (needs a write to anchor the publication point) -/

theorem last_such (P : Ev → Prop) : ∀ tr : List Ev, (∃ e ∈ tr, P e) →
    ∃ post e pre, tr = post ++ e :: pre ∧ P e ∧ ∀ e' ∈ post, ¬ P e'
  | [], h => by simp at h
  | e :: tr, h => by
    by_cases he : P e
    · exact ⟨[], e, tr, rfl, he, by simp⟩
    · have : ∃ e' ∈ tr, P e' := by
        obtain ⟨e', hm, hp⟩ := h
        rcases List.mem_cons.mp hm with h1 | h1
        · subst h1; exact absurd hp he
        · exact ⟨e', h1, hp⟩
      obtain ⟨post, w, pre, hs, hw, hn⟩ := last_such P tr this
      refine ⟨e :: post, w, pre, by simp [hs], hw, ?_⟩
      intro e' hm
      rcases List.mem_cons.mp hm with h1 | h1
      · subst h1; exact he
      · exact hn e' h1

theorem disciplined_published {x : Var} {owner : Tid} {tr : List Ev}
    (h : Disciplined .immutable owner x tr)
    (hex : ∃ e ∈ tr, e.touches x = true ∧ e.isWrite = true) : PublishedBy x owner tr := by
  have hfresh : ∀ post e pre, tr = post ++ e :: pre → e.touches x = true → e.isWrite = true →
      FreshUntilPublished x owner tr pre e := by
    intro post e pre ht hx hw
    rcases h post e pre ht hx with hf | hc
    · exact hf
    · have hc : e.isWrite = false := hc
      rw [hc] at hw; simp at hw
  constructor
  · intro e he hx hw
    obtain ⟨post, pre, hs⟩ := List.append_of_mem he
    exact (hfresh post e pre hs hx hw).1
  · intro j b hb hbx hbc
    obtain ⟨post, w, pre, hs, ⟨hwx, hww⟩, hlast⟩ :=
      last_such (fun e => e.touches x = true ∧ e.isWrite = true) tr hex
    obtain ⟨_, hpub⟩ := hfresh post w pre hs hwx hww
    obtain ⟨g, eg, heg, hegc, hig, hgj⟩ := hpub j b hb hbx hbc
    refine ⟨g, eg, heg, hegc, hgj, ?_⟩
    intro i a ha hax haw
    rcases Nat.lt_or_ge pre.length i with hlt | hge
    · subst hs
      obtain ⟨p2, p1, hp, _⟩ := evAt_append_ge (tr := w :: pre) post (by simp; omega) ha
      exact absurd ⟨hax, haw⟩ (hlast a (by simp [hp]))
    · omega

end ZapVerif.SitePrograms
