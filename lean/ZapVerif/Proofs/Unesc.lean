import ZapVerif.Model.Unesc
/-! `unescape (escape s) = sanitize s`: string values are recoverable byte for byte, each invalid UTF-8 byte
    having become U+FFFD. -/
namespace ZapVerif.Esc
open ZapVerif

theorem unesc_succ : ∀ (g : Nat) (s : Bytes), s.length ≤ g → unesc (g + 1) s = unesc g s
  | _, [], _ => by simp [unesc]
  | 0, _ :: _, h => by simp at h
  | g + 1, b :: r, h => by
    have hr : r.length ≤ g := by simpa using h
    show unesc (g + 1 + 1) (b :: r) = unesc (g + 1) (b :: r)
    simp only [unesc]
    by_cases hb : b = 92
    · simp only [hb, if_true]
      rcases r with _ | ⟨c, r'⟩
      · rfl
      · have hr' : r'.length ≤ g := by simp at hr; omega
        simp only []
        by_cases hc : c = 117
        · simp only [hc, if_true]
          rcases r' with _ | ⟨a, _ | ⟨b2, _ | ⟨c2, _ | ⟨d, r''⟩⟩⟩⟩ <;> try rfl
          have h4 : r''.length ≤ g := by simp at hr'; omega
          simp only [unesc_succ g r'' h4]
        · simp only [hc, if_false, unesc_succ g r' hr']
    · simp only [hb, if_false, unesc_succ g r hr]

theorem unesc_fuel (g : Nat) (s : Bytes) (h : s.length ≤ g) : unesc g s = unescape s := by
  induction g with
  | zero =>
    have : s = [] := by simpa using h
    subst this; rfl
  | succ g ih =>
    by_cases hl : s.length ≤ g
    · rw [unesc_succ g s hl]; exact ih hl
    · have : s.length = g + 1 := by omega
      simp [unescape, this]

theorem unescape_nil : unescape [] = some [] := rfl

theorem unescape_plain (b : UInt8) (r : Bytes) (hb : b ≠ 92) :
    unescape (b :: r) = (unescape r).map (fun t => b :: t) := by
  simp only [unescape, List.length_cons, unesc, hb, if_false]

theorem unescape_simple (c x : UInt8) (r : Bytes) (hc : c ≠ 117) (hx : simpleEsc c = some x) :
    unescape (92 :: c :: r) = (unescape r).map (fun t => x :: t) := by
  simp only [unescape, List.length_cons, unesc, if_true, hc, if_false, hx]
  rw [unesc_fuel (r.length + 1) r (by omega)]; rfl

theorem unescape_u (a b2 c2 d : UInt8) (r : Bytes) :
    unescape (92 :: 117 :: a :: b2 :: c2 :: d :: r) =
      if a = 48 ∧ b2 = 48 then
        match hexv c2, hexv d with
        | some x, some y => (unescape r).map (fun t => (x * 16 + y) :: t)
        | _, _ => none
      else if a = 102 ∧ b2 = 102 ∧ c2 = 102 ∧ d = 100 then (unescape r).map (fun t => replacement ++ t)
      else none := by
  -- with the fuel that is left for `r` written out, the two sides are the same term
  rw [← unesc_fuel (r.length + 5) r (by omega)]
  rfl

theorem unescape_u00 (c2 d x y : UInt8) (r : Bytes) (hx : hexv c2 = some x) (hy : hexv d = some y) :
    unescape (92 :: 117 :: 48 :: 48 :: c2 :: d :: r) = (unescape r).map (fun t => (x * 16 + y) :: t) := by
  rw [unescape_u, if_pos ⟨rfl, rfl⟩, hx, hy]

theorem unescape_fffd (r : Bytes) :
    unescape (92 :: 117 :: 102 :: 102 :: 102 :: 100 :: r) = (unescape r).map (fun t => replacement ++ t) := by
  rw [unescape_u, if_neg (by decide), if_pos (by decide)]

theorem unescape_high (hi r : Bytes) (h : ∀ x ∈ hi, x ≥ 128) :
    unescape (hi ++ r) = (unescape r).map (fun t => hi ++ t) := by
  induction hi with
  | nil => simp
  | cons x t ih =>
    have hx : x ≠ 92 := by
      have := h x (by simp)
      intro he; subst he; exact absurd this (by decide)
    rw [List.cons_append, unescape_plain x _ hx, ih (fun y hy => h y (by simp [hy]))]
    cases unescape r <;> simp

/-- every escape the encoder emits for a byte < 0x80 decodes back to that byte -/
theorem esc1_decodes : ∀ b : UInt8, b < 128 → plain b = false →
    (b = 92 ∨ b = 34 → simpleEsc b = some b) ∧
    (b = 10 → simpleEsc 110 = some b) ∧ (b = 13 → simpleEsc 114 = some b) ∧ (b = 9 → simpleEsc 116 = some b) ∧
    (b ≠ 92 → b ≠ 34 → b ≠ 10 → b ≠ 13 → b ≠ 9 →
      hexv (hexd (b >>> 4)) = some (b >>> 4) ∧ hexv (hexd (b &&& 15)) = some (b &&& 15) ∧
      (b >>> 4) * 16 + (b &&& 15) = b) := by
  apply all256; decide +kernel

theorem unescape_esc1 (b : UInt8) (r : Bytes) (hlt : b < 128) (hp : plain b = false) :
    unescape (esc1 b ++ r) = (unescape r).map (fun t => b :: t) := by
  obtain ⟨h1, h2, h3, h4, h5⟩ := esc1_decodes b hlt hp
  unfold esc1
  by_cases hq : b = 92 ∨ b = 34
  · simp only [hq, if_true, List.cons_append, List.nil_append]
    have hne : b ≠ 117 := by rcases hq with rfl | rfl <;> decide
    exact unescape_simple b b r hne (h1 hq)
  · have hq1 : b ≠ 92 := fun h => hq (Or.inl h)
    have hq2 : b ≠ 34 := fun h => hq (Or.inr h)
    simp only [hq, if_false]
    by_cases h10 : b = 10
    · simp only [h10, if_true, List.cons_append, List.nil_append]
      exact unescape_simple 110 10 r (by decide) (h10 ▸ h2 h10)
    · simp only [h10, if_false]
      by_cases h13 : b = 13
      · simp only [h13, if_true, List.cons_append, List.nil_append]
        exact unescape_simple 114 13 r (by decide) (h13 ▸ h3 h13)
      · simp only [h13, if_false]
        by_cases h9 : b = 9
        · simp only [h9, if_true, List.cons_append, List.nil_append]
          exact unescape_simple 116 9 r (by decide) (h9 ▸ h4 h9)
        · simp only [h9, if_false, List.cons_append, List.nil_append]
          obtain ⟨hx, hy, hs⟩ := h5 hq1 hq2 h10 h13 h9
          rw [unescape_u00 _ _ _ _ r hx hy, hs]

/-- C02, strings: decoding the escaped text gives back the logged bytes, each invalid UTF-8 byte replaced by
    U+FFFD exactly once and every other byte unchanged -/
theorem unescape_escape (fuel : Nat) (s : Bytes) : unescape (escape fuel s) = some (sanitize fuel s) := by
  induction fuel generalizing s with
  | zero => simp [escape, sanitize, unescape_nil]
  | succ fuel ih =>
    cases s with
    | nil => simp [escape, sanitize, unescape_nil]
    | cons b r =>
      unfold escape sanitize
      by_cases hb : b ≥ 128
      · simp only [hb, if_true]
        cases hv : validLen (b :: r) with
        | none =>
          simp only []
          have : ([92, 117, 102, 102, 102, 100] : Bytes) ++ escape fuel r =
              92 :: 117 :: 102 :: 102 :: 102 :: 100 :: escape fuel r := rfl
          rw [this, unescape_fffd, ih]; rfl
        | some n =>
          simp only []
          rw [unescape_high _ _ (valid_high (b :: r) n hv (by simpa using hb)), ih]; rfl
      · simp only [hb, if_false]
        by_cases hp : plain b = true
        · have h92 : b ≠ 92 := by
            intro he; subst he; simp [plain] at hp
          simp only [hp, if_true]
          rw [unescape_plain b _ h92, ih]; rfl
        · have hp' : plain b = false := by simpa using hp
          have hlt : b < 128 := by
            simp [UInt8.lt_iff_toNat_lt, UInt8.le_iff_toNat_le] at hb ⊢; omega
          simp only [hp', Bool.false_eq_true, if_false]
          rw [unescape_esc1 b _ hlt hp', ih]; rfl

theorem sanitize_nil (k : Nat) : sanitize k [] = [] := by cases k <;> rfl

theorem sanitize_ascii_append (pre rest : Bytes) (k : Nat) (h : ∀ b ∈ pre, b < 128) :
    sanitize (pre.length + k) (pre ++ rest) = pre ++ sanitize k rest := by
  induction pre with
  | nil => simp
  | cons b r ih =>
    have hb : ¬ b ≥ 128 := by
      have := h b (by simp)
      simp [UInt8.lt_iff_toNat_lt, UInt8.le_iff_toNat_le] at this ⊢; omega
    have e : (b :: r).length + k = (r.length + k) + 1 := by simp; omega
    rw [e]
    simp only [List.cons_append, sanitize, hb, if_false]
    rw [ih (fun x hx => h x (by simp [hx]))]

theorem sanitize_of_ascii (fuel : Nat) (s : Bytes) (hf : s.length ≤ fuel) (h : ∀ b ∈ s, b < 128) : sanitize fuel s = s := by
  have := sanitize_ascii_append s [] (fuel - s.length) h
  rwa [List.append_nil, sanitize_nil, List.append_nil, Nat.add_sub_cancel' hf] at this

end ZapVerif.Esc
