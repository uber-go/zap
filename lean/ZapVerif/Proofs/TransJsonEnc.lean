import ZapVerif.Proofs.GoMini
import ZapVerif.Model.TransJsonEncX
import ZapVerif.Proofs.Enc
/-! Lookup facts for the `…_matches_source` theorems of Props/C01.lean, C02.lean, C08.lean about Gen/TransJsonEnc.lean.
    Nothing here depends on the generated terms. -/
namespace ZapVerif.TransJsonEnc
open ZapVerif ZapVerif.GoMini ZapVerif.Enc ZapVerif.Gen.TransJsonEnc

@[simp] theorem X_funs (P : Par) : (X P).funs = funs := id rfl
@[simp] theorem X_ext (P : Par) : (X P).ext = ext P := id rfl

@[simp] theorem ext_eq (P : Par) :
    (∀ b sp, ext P "addElementSeparator" [.bytes b, .bool sp] = some [.bytes (sep sp b)]) ∧
    (∀ b sp k, ext P "addKey" [.bytes b, .bool sp, .bytes k] = some [.bytes (Enc.addKey sp b k)]) ∧
    (∀ b n, ext P "closeOpenNamespaces" [.bytes b, .int n] = some [.bytes (closeNs b n), .int 0]) ∧
    (∀ b n rb re sp obj self, ext P "MarshalLogObject" [.bytes b, .int n, .list rb, .list re, .bool sp, obj, self] =
      some [.bytes (P.mo obj sp ⟨b, n, rb, re⟩).1.buf, .int (P.mo obj sp ⟨b, n, rb, re⟩).1.ns,
        .list (P.mo obj sp ⟨b, n, rb, re⟩).1.rbuf, .list (P.mo obj sp ⟨b, n, rb, re⟩).1.renc,
        .list (P.mo obj sp ⟨b, n, rb, re⟩).2]) ∧
    (∀ b n rb re sp arr self, ext P "MarshalLogArray" [.bytes b, .int n, .list rb, .list re, .bool sp, arr, self] =
      some [.bytes (P.ma arr sp ⟨b, n, rb, re⟩).1.buf, .int (P.ma arr sp ⟨b, n, rb, re⟩).1.ns,
        .list (P.ma arr sp ⟨b, n, rb, re⟩).1.rbuf, .list (P.ma arr sp ⟨b, n, rb, re⟩).1.renc,
        .list (P.ma arr sp ⟨b, n, rb, re⟩).2]) ∧
    (∀ b n rb re sp self fs, ext P "addFields" [.bytes b, .int n, .list rb, .list re, .bool sp, self, fs] =
      some [.bytes (P.addFields fs sp ⟨b, n, rb, re⟩).buf, .int (P.addFields fs sp ⟨b, n, rb, re⟩).ns,
        .list (P.addFields fs sp ⟨b, n, rb, re⟩).rbuf, .list (P.addFields fs sp ⟨b, n, rb, re⟩).renc]) ∧
    (∀ b p, ext P "Buffer.Write" [.bytes b, .bytes p] = some [.bytes (b ++ p), .int p.length, .list []]) ∧
    (ext P "bufferpool.GetPtr" [] = some [.list [.bytes []]]) ∧
    (ext P "bufferpool.Get" [] = some [.bytes []]) ∧
    (ext P "jsonPool.Get" [] = some []) ∧
    (∀ v, ext P "jsonPool.Put" [v] = some []) ∧
    (∀ v, ext P "Buffer.Free" [v] = some []) ∧
    (∀ c rb, ext P "NewReflectedEncoder" [c, .list rb] = some [.list (P.newRefl c rb)]) ∧
    (∀ b re obj, ext P "ReflEnc.Encode" [.list [.bytes b], .list re, obj] =
      some [.list [.bytes (b ++ (P.reflEncode re obj).1)], .list (P.reflEncode re obj).2]) ∧
    (∀ b, ext P "Buffer.TrimNewline" [.list [.bytes b]] = some [.list [.bytes (trimNewline b)]]) ∧
    (∀ b, ext P "optBuffer.Bytes" [.list [.bytes b]] = some [.bytes b]) ∧
    (∀ sp n, ext P "jsonEncoder.clone" [.bool sp, .int n] = some [.bytes [], .bool sp, .int n, .list [], .list []]) ∧
    (∀ b sp s, ext P "AppendString" [.bytes b, .bool sp, .bytes s] = some [.bytes (appendString sp b s)]) ∧
    (∀ b sp k s, ext P "AddString" [.bytes b, .bool sp, .bytes k, .bytes s] =
      some [.bytes (appendString sp (Enc.addKey sp b k) s)]) ∧
    (∀ b sp te k t, ext P "AddTime" [.bytes b, .bool sp, .list te, .bytes k, t] = some [.bytes (P.addTime te sp b k t)]) ∧
    (∀ b sp f l self, ext P "LevelEncoder" [.bytes b, .bool sp, .list f, l, self] = some [.bytes (P.subLevel f l sp b)]) ∧
    (∀ b sp f c self, ext P "CallerEncoder" [.bytes b, .bool sp, .list f, c, self] = some [.bytes (P.subCaller f c sp b)]) ∧
    (∀ b f n self, ext P "NameEncoder" [.bytes b, .list f, n, self] = some [.bytes (P.subName f n b)]) ∧
    (∀ a b, ext P "putJSONEncoder" [a, b] = some []) ∧
    (∀ t, ext P "Time.IsZero" [t] = some [.bool (P.timeIsZero t)]) ∧
    (∀ l, ext P "Level.String" [.int l] = some [.bytes (P.levelString l)]) ∧
    (∀ c, ext P "EntryCaller.String" [c] = some [.bytes (P.callerString c)]) := by
  unfold ext ext.match_1
  simp only [String.reduceEq, ↓reduceDIte, implies_true, and_true]

@[simp] theorem builtin_ext (a : List Val) :
    builtin "NewReflectedEncoder" a = none ∧ builtin "Buffer.TrimNewline" a = none ∧ builtin "optBuffer.Bytes" a = none ∧
    builtin "Time.IsZero" a = none ∧ builtin "Level.String" a = none ∧ builtin "EntryCaller.String" a = none := by
  simp [builtin]

theorem nm_getPtr : nm "bufferpool.GetPtr" = .bytes [98, 117, 102, 102, 101, 114, 112, 111, 111, 108, 46, 71, 101, 116, 80, 116, 114] :=
  congrArg Val.bytes (by decide +kernel)
theorem nm_get : nm "bufferpool.Get" = .bytes [98, 117, 102, 102, 101, 114, 112, 111, 111, 108, 46, 71, 101, 116] :=
  congrArg Val.bytes (by decide +kernel)
theorem nm_jget : nm "jsonPool.Get" = .bytes [106, 115, 111, 110, 80, 111, 111, 108, 46, 71, 101, 116] :=
  congrArg Val.bytes (by decide +kernel)
theorem nm_jput : nm "jsonPool.Put" = .bytes [106, 115, 111, 110, 80, 111, 111, 108, 46, 80, 117, 116] :=
  congrArg Val.bytes (by decide +kernel)
theorem nm_free : nm "Buffer.Free" = .bytes [66, 117, 102, 102, 101, 114, 46, 70, 114, 101, 101] :=
  congrArg Val.bytes (by decide +kernel)
theorem nm_clone : nm "jsonEncoder.clone" = .bytes [106, 115, 111, 110, 69, 110, 99, 111, 100, 101, 114, 46, 99, 108, 111, 110, 101] :=
  congrArg Val.bytes (by decide +kernel)
theorem nm_put : nm "putJSONEncoder" = .bytes [112, 117, 116, 74, 83, 79, 78, 69, 110, 99, 111, 100, 101, 114] :=
  congrArg Val.bytes (by decide +kernel)

@[simp] theorem idx_ent0 (e : EEnt) : indexVal e.val (.int 0) = .ok (.int e.level) := id rfl
@[simp] theorem idx_ent1 (e : EEnt) : indexVal e.val (.int 1) = .ok e.time := id rfl
@[simp] theorem idx_ent2 (e : EEnt) : indexVal e.val (.int 2) = .ok (.bytes e.name) := id rfl
@[simp] theorem idx_ent3 (e : EEnt) : indexVal e.val (.int 3) = .ok (.bytes e.message) := id rfl
@[simp] theorem idx_ent4 (e : EEnt) : indexVal e.val (.int 4) = .ok e.caller := id rfl
@[simp] theorem idx_ent5 (e : EEnt) : indexVal e.val (.int 5) = .ok (.bytes e.stack) := id rfl
@[simp] theorem idx_caller0 (e : EEnt) : indexVal e.caller (.int 0) = .ok (.bool e.callerDefined) := id rfl
@[simp] theorem idx_caller1 (e : EEnt) : indexVal e.caller (.int 1) = .ok (.bytes e.function) := id rfl

end ZapVerif.TransJsonEnc
