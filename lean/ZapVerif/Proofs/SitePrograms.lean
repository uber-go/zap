import ZapVerif.Model.SitePrograms
import ZapVerif.Proofs.Publish
/-! From the event-level meaning of guards (`Model/SitePrograms.lean`) to the state-level discipline
    facts of M10, and data-race freedom of `Disciplined` traces (the pairwise lemmas of the classes,
    combined with the hand-over phase of freshly made objects). -/
namespace ZapVerif.SitePrograms
open ZapVerif.Sync ZapVerif.SyncFacts

theorem holder_of_heldExcl {t : Tid} {m : Lock} {pre : List Ev} (hwf : WF pre) (h : HeldExcl t m pre) :
    holder m pre = some t := by
  obtain ⟨p2, p1, rfl, hn⟩ := h
  induction p2 with
  | nil => simp [holder]
  | cons e p2 ih =>
    have ih := ih (fun h => hn (List.mem_cons_of_mem _ h)) hwf.1
    have hok : okStep e (p2 ++ Ev.acq t m :: p1) = true := hwf.2
    rcases holder_cases m e (p2 ++ Ev.acq t m :: p1) with ⟨_, _, h0⟩ | ⟨t', rfl, _⟩ | ⟨t', rfl, _⟩
    · exact h0.trans ih
    · simp [okStep, ih] at hok
    · -- only the holder unlocks, and t has not
      obtain rfl : t = t' := by simpa [okStep, ih] using hok
      exact absurd List.mem_cons_self hn

theorem readers_of_heldRead {t : Tid} {m : Lock} {pre : List Ev} (h : HeldRead t m pre) :
    t ∈ readers m pre := by
  obtain ⟨p2, p1, rfl, hn⟩ := h
  induction p2 with
  | nil => simp [readers]
  | cons e p2 ih =>
    have ih := ih (fun h => hn (List.mem_cons_of_mem _ h))
    rcases readers_cases m e (p2 ++ Ev.racq t m :: p1) with h0 | ⟨t', rfl, h0⟩ | ⟨t', rfl, h0⟩
    · exact h0 ▸ ih
    · exact h0 ▸ List.mem_cons_of_mem t' ih
    · have htt : t ≠ t' := fun h => hn (h ▸ List.mem_cons_self)
      exact h0 ▸ (List.mem_erase_of_ne htt).mpr ih

theorem onceSt_of_inOnceBody {t : Tid} {o : OnceId} {pre : List Ev} (hwf : WF pre)
    (h : InOnceBody t o pre) : onceSt o pre = .running t := by
  obtain ⟨p2, p1, rfl, hn⟩ := h
  induction p2 with
  | nil => simp [onceSt]
  | cons e p2 ih =>
    have ih := ih (fun h => hn (List.mem_cons_of_mem _ h)) hwf.1
    have hok : okStep e (p2 ++ Ev.onceBegin t o :: p1) = true := hwf.2
    rcases onceSt_cases o e (p2 ++ Ev.onceBegin t o :: p1) with h0 | ⟨t', rfl, _⟩ | ⟨t', rfl, _⟩
    · exact h0.trans ih
    · simp [okStep, ih] at hok
    · obtain rfl : t = t' := by simpa [okStep, ih] using hok
      exact absurd List.mem_cons_self hn

theorem passed_of_returned {t : Tid} {o : OnceId} {pre : List Ev} (h : ReturnedFromDo t o pre) :
    passed o t pre = true := (passed_iff_mem o t pre).mpr h.symm

theorem heldExcl_acq {t : Tid} {m : Lock} {p1 : List Ev} : HeldExcl t m (Ev.acq t m :: p1) := ⟨[], p1, rfl, by simp⟩
theorem heldExcl_cons {t : Tid} {m : Lock} {e : Ev} {pre : List Ev} (hne : e ≠ Ev.rel t m) (h : HeldExcl t m pre) : HeldExcl t m (e :: pre) := by
  obtain ⟨p2, p1, hs, hn⟩ := h
  exact ⟨e :: p2, p1, by simp [hs], by simp [hn, Ne.symm hne]⟩
theorem heldRead_racq {t : Tid} {m : Lock} {p1 : List Ev} : HeldRead t m (Ev.racq t m :: p1) := ⟨[], p1, rfl, by simp⟩
theorem heldRead_cons {t : Tid} {m : Lock} {e : Ev} {pre : List Ev} (hne : e ≠ Ev.rrel t m) (h : HeldRead t m pre) : HeldRead t m (e :: pre) := by
  obtain ⟨p2, p1, hs, hn⟩ := h
  exact ⟨e :: p2, p1, by simp [hs], by simp [hn, Ne.symm hne]⟩
theorem inOnceBody_begin {t : Tid} {o : OnceId} {p1 : List Ev} : InOnceBody t o (Ev.onceBegin t o :: p1) := ⟨[], p1, rfl, by simp⟩
theorem inOnceBody_cons {t : Tid} {o : OnceId} {e : Ev} {pre : List Ev} (hne : e ≠ Ev.onceEnd t o) (h : InOnceBody t o pre) : InOnceBody t o (e :: pre) := by
  obtain ⟨p2, p1, hs, hn⟩ := h
  exact ⟨e :: p2, p1, by simp [hs], by simp [hn, Ne.symm hne]⟩


theorem generatedOn_iff_rec (I : Interp) (table : List Row) (x : Var) (tr : List Ev) :
    GeneratedOn I table x tr ↔ GenRec I table x tr tr :=
  (forall_split_iff (R := GenRec I table x tr) trivial (fun _ _ => Iff.rfl) tr).symm

theorem fresh_then {x : Var} {c : Tid} {tr pre : List Ev} {a b : Ev} {i j : Nat}
    (fa : FreshUntilPublished x c tr pre a) (hli : pre.length = i) (ha : evAt tr i = some a)
    (hb : evAt tr j = some b) (hbx : b.touches x = true) (hne : a.tid ≠ b.tid) : HB tr i j := by
  obtain ⟨hac, hpub⟩ := fa
  have hbc : b.tid ≠ c := by intro h; exact hne (hac.trans h.symm)
  obtain ⟨g, eg, heg, hegc, hig, hgj⟩ := hpub j b hb hbx hbc
  rcases Nat.lt_or_ge i g with hlt | hge
  · exact .trans (.po hlt ha heg (hac.trans hegc.symm)) hgj
  · have : i = g := by omega
    subst this; exact hgj

theorem then_fresh {x : Var} {c : Tid} {tr pre : List Ev} {a b : Ev} {i j : Nat}
    (fb : FreshUntilPublished x c tr pre b) (hlj : pre.length = j) (hij : i < j)
    (ha : evAt tr i = some a) (hax : a.touches x = true) (hne : a.tid ≠ b.tid) : False := by
  obtain ⟨hbc, hpub⟩ := fb
  have hac : a.tid ≠ c := by intro h; exact hne (h.trans hbc.symm)
  obtain ⟨g, eg, _, _, hjg, hgi⟩ := hpub i a ha hax hac
  have := HB_lt hgi
  omega

/-- x is written under m only and not written from index g on; the event at g (the `go` statement) is
    executed by a goroutine holding m: then every write to x happens-before g — `InitialisedBefore`, the
    dynamic part of the `forked` guard, for the shape `mu.Lock(); init fields; go loop(); mu.Unlock()` -/
theorem initialisedBefore_of_cs {x : Var} {m : Lock} {tr : List Ev} (hwf : WF tr)
    (hwr : ∀ post a pre, tr = post ++ a :: pre → a.touches x = true → a.isWrite = true →
      holder m pre = some a.tid)
    {postg preg : List Ev} {f : Ev} (hg : tr = postg ++ f :: preg) (hf : holder m preg = some f.tid)
    (hnw : NoWriteFrom x preg.length tr) : InitialisedBefore x preg.length tr := by
  intro i a ha hax haw
  have hig := hnw i a ha hax haw
  have hfe : evAt tr preg.length = some f := evAt_of_eq hg
  obtain ⟨post, mid, pre, ht, hli, hlj⟩ := race_split hig ha hfe
  have hpre : preg = mid ++ a :: pre := by
    have h1 : postg ++ f :: preg = post ++ f :: (mid ++ a :: pre) := by rw [← hg, ← ht]
    have h2 := List.append_inj' h1 (by simp only [List.length_cons]; omega)
    simpa using h2.2
  by_cases hne : a.tid = f.tid
  · exact .po hig ha hfe hne
  · have hxa := hwr (post ++ f :: mid) a pre (by simp [ht]) hax haw
    have hwfm : WF (mid ++ a :: pre) := by subst ht; exact (WF_suffix post _ hwf).1
    have := cs_chain m post mid pre a f (holder_access m pre hax) hwfm hxa hne (Or.inl (by rw [← hpre]; exact hf))
    rw [← ht, hli, hlj] at this
    exact this

theorem disciplined_drf (c : Class) (owner : Tid) (x : Var) (tr : List Ev) (hwf : WF tr)
    (h : Disciplined c owner x tr) : DRF tr x := by
  refine drf_of_pairs fun post mid pre a b ht hc => ?_
  obtain ⟨hax, hbx, hw, hna, hne⟩ := conflict_parts hc
  have ha : evAt tr pre.length = some a := evAt_of_eq (A := post ++ b :: mid) (by simp [ht])
  have hb : evAt tr (mid ++ a :: pre).length = some b := evAt_of_eq (A := post) ht
  rcases h (post ++ b :: mid) a pre (by simp [ht]) hax with fa | ca
  · exact fresh_then fa rfl ha hb hbx hne
  rcases h post b (mid ++ a :: pre) ht hbx with fb | cb
  · exact (then_fresh fb rfl (length_lt_append_cons mid a pre) ha hax hne).elim
  have hwfm : WF (mid ++ a :: pre) := by subst ht; exact (WF_suffix post _ hwf).1
  cases c with
  | immutable => exact absurd hw (by simp [show a.isWrite = false from ca, show b.isWrite = false from cb])
  | syncprim => exact absurd ⟨ca, cb⟩ hna
  | atomic => exact absurd ⟨ca, cb⟩ hna
  | mutex m => subst ht; exact cs_chain m post mid pre a b (holder_access m pre hax) hwfm ca hne (.inl cb)
  | rwmutex m => subst ht; exact rw_pair m post mid pre a b hwfm hax hw hne ca cb
  | once o => subst ht; exact once_pair o post mid pre a b hwfm hax hw hne ca cb
  | lockPublish m => exact lockpub_pair m tr post mid pre a b ht hwf hax hbx hw hne ca cb

theorem classify_accepts {ss : List Site} {c : Class} (h : classify ss = some c) :
    ∀ s ∈ ss, c.accepts s = true := by
  have := List.find?_some h
  simpa using this

theorem unshared_fresh {I : Interp} {x : Var} {g : Guard} {tr pre : List Ev} {e : Ev}
    (hu : unshared g = true) (h : GuardHolds I x g tr pre e) :
    FreshUntilPublished x (I.creator x) tr pre e := by
  cases g <;> simp [unshared] at hu <;> exact h

theorem site_classAt_shared (I : Interp) (x : Var) (c : Class) (s : Site) (tr pre : List Ev) (e : Ev)
    (hwf : WF pre) (hacc : c.accepts s = true) (hu : ¬ unshared s.guard = true)
    (hs : SiteHolds I x s tr pre e) : ClassAt (instClass I x c) x tr pre e := by
  obtain ⟨hwr, hg⟩ := hs
  simp only [Class.accepts, hu, Bool.false_or] at hacc
  cases c with
  | immutable =>
    have : s.write = false := by simpa using hacc
    show e.isWrite = false
    rw [← hwr]; exact this
  | syncprim =>
    have hgd : s.guard = .syncop := by simpa using hacc
    rw [hgd] at hg; exact hg
  | atomic =>
    have hgd : s.guard = .atomic := by simpa using hacc
    rw [hgd] at hg; exact hg
  | mutex m =>
    have hgd : s.guard = .mu m := by simpa using hacc
    rw [hgd] at hg
    exact holder_of_heldExcl hwf hg
  | rwmutex m =>
    show if e.isWrite then holder (I.lock x m) pre = some e.tid
         else (holder (I.lock x m) pre = some e.tid ∨ e.tid ∈ readers (I.lock x m) pre)
    simp only [Bool.or_eq_true, Bool.and_eq_true, beq_iff_eq, Bool.not_eq_true'] at hacc
    rcases hacc with hgd | ⟨hnw, hgd⟩
    · rw [hgd] at hg
      have := holder_of_heldExcl hwf hg
      split
      · exact this
      · exact Or.inl this
    · rw [hgd] at hg
      have hr := readers_of_heldRead hg
      have : e.isWrite = false := by rw [← hwr]; exact hnw
      simp [this, hr]
  | once o =>
    show onceSt (I.once x o) pre = .running e.tid ∨
         (e.isWrite = false ∧ passed (I.once x o) e.tid pre = true)
    simp only [Bool.or_eq_true, Bool.and_eq_true, beq_iff_eq, Bool.not_eq_true'] at hacc
    rcases hacc with hgd | ⟨hnw, hgd⟩
    · rw [hgd] at hg
      exact Or.inl (onceSt_of_inOnceBody hwf hg)
    · rw [hgd] at hg
      exact Or.inr ⟨by rw [← hwr]; exact hnw, passed_of_returned hg⟩
  | lockPublish m =>
    simp only [Bool.or_eq_true, Bool.and_eq_true, beq_iff_eq, Bool.not_eq_true'] at hacc
    rcases hacc with hgd | ⟨hnw, hgd | hgd⟩
    · rw [hgd] at hg
      exact Or.inl (holder_of_heldExcl hwf hg)
    · rw [hgd] at hg
      obtain ⟨g, p, h1, h2⟩ := hg
      exact Or.inr ⟨by rw [← hwr]; exact hnw, Or.inr ⟨g, p, h1, h2⟩⟩
    · rw [hgd] at hg
      obtain ⟨g, h', _, h1, _, h2⟩ := hg
      exact Or.inr ⟨by rw [← hwr]; exact hnw, Or.inl ⟨g, h1, h2⟩⟩

theorem generated_disciplined (I : Interp) (table : List Row) (x : Var) (c : Class) (tr : List Ev)
    (hgen : GeneratedOn I table x tr) (hwf : WF tr)
    (hc : classify (sitesOf table (I.field x)) = some c) :
    Disciplined (instClass I x c) (I.creator x) x tr := by
  intro post e pre ht hx
  obtain ⟨s, hs, hh⟩ := hgen post e pre ht hx
  have hwfp : WF pre := by
    subst ht
    exact (WF_suffix post _ hwf).1
  by_cases hu : unshared s.guard = true
  · exact .inl (unshared_fresh hu hh.2)
  · exact .inr (site_classAt_shared I x c s tr pre e hwfp (classify_accepts hc s hs) hu hh)

theorem sitesOf_classified {table : List Row} (hd : allDisciplined table = true) {f : Nat}
    (hf : f ∈ fieldsOf table) : ∃ c, classify (sitesOf table f) = some c := by
  unfold sitesOf
  cases hfind : table.find? (fun r => r.2.1 == f) with
  | none =>
    simp [fieldsOf] at hf
    obtain ⟨a, b, hr⟩ := hf
    have := List.find?_eq_none.mp hfind _ hr
    simp at this
  | some r =>
    have hmem := List.mem_of_find?_eq_some hfind
    have := List.all_eq_true.mp hd r hmem
    simpa [Option.isSome_iff_exists] using this

end ZapVerif.SitePrograms
