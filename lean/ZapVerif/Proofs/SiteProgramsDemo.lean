import ZapVerif.Proofs.SitePrograms
/-! Non-vacuity of the site-table semantics: a six-field table covering every discipline class and every guard
    clause, a 26-event trace of three goroutines that it generates; and sensitivity: a table with an unguarded
    write site generates a well-formed trace with a data race. -/
namespace ZapVerif.SitePrograms
open ZapVerif.Sync ZapVerif.SyncFacts

def demo : List Row := [
  (0, 0, [⟨0, true, .fresh⟩, ⟨1, false, .none⟩]),
  (0, 1, [⟨2, true, .mu 9⟩, ⟨3, false, .mu 9⟩]),
  (0, 2, [⟨4, true, .mu 8⟩, ⟨5, false, .rmu 8⟩]),
  (0, 3, [⟨6, true, .onceBody 7⟩, ⟨7, false, .afterOnce 7⟩]),
  (0, 4, [⟨8, true, .atomic⟩, ⟨9, false, .atomic⟩]),
  (0, 5, [⟨10, true, .mu 9⟩, ⟨11, false, .forked⟩, ⟨12, false, .afterCS 9⟩])]

def demoTr : List Ev := [
  .rel 0 8, .wr 0 2, .acq 0 8, .rrel 2 8, .rd 2 2, .racq 2 8,
  .ard 2 4, .awr 1 4,
  .rd 0 5, .rel 0 9, .rd 0 1, .acq 0 9,
  .rd 0 3, .onceRet 0 7, .onceEnd 2 7, .wr 2 3, .onceBegin 2 7,
  .rd 1 0, .rd 2 5,
  .rel 1 9, .fork 1 2, .wr 1 5, .wr 1 1, .acq 1 9,
  .fork 0 1, .wr 0 0]

theorem demo_wf : WF demoTr := by decide +kernel

theorem demo_classes : (demo.map fun r => classify r.2.2) =
    [some .immutable, some (.mutex 9), some (.rwmutex 8), some (.once 7), some .atomic, some (.lockPublish 9)] := by
  decide +kernel

/- The trace is unfolded only where `GenRec` recurses over it, not in the argument that stands for the whole
   trace: each event is then dismissed, or turned into `x = field → …`, by evaluating `touches`, and only the
   sites of the thirteen accesses are spelt out, oldest access first. -/
theorem demo_generated : GeneratedBy .single demo demoTr := by
  intro x _
  rw [generatedOn_iff_rec]
  conv => arg 5; rw [demoTr]
  simp only [GenRec, Ev.touches, beq_iff_eq, Bool.false_eq_true, false_imp_iff, and_true, true_and]
  and_intros <;> rintro rfl
  · -- index 0, `wr 0 0`: the constructor's write; the only foreign access (index 8, by goroutine 1) comes
    -- after the `go` (index 1) that started goroutine 1
    refine ⟨⟨0, true, .fresh⟩, by decide, rfl, rfl, fun j b h hx hc => ?_⟩
    obtain rfl : j = 8 :=
      allAt_evAt demoTr (P := fun j b => b.touches 0 = true → b.tid ≠ 0 → j = 8) (by decide) j b h hx hc
    exact ⟨1, .fork 0 1, rfl, rfl, Nat.zero_le _, .sw (by decide) rfl h (Option.some.inj h ▸ rfl)⟩
  · exact ⟨⟨2, true, .mu 9⟩, by decide, rfl, heldExcl_acq⟩
  · exact ⟨⟨10, true, .mu 9⟩, by decide, rfl, heldExcl_cons (by decide) heldExcl_acq⟩
  · -- index 7, `rd 2 5` by the forked goroutine: the only write (index 4, by the initialising goroutine 1) is
    -- program-ordered before its `go` (index 5)
    refine ⟨⟨11, false, .forked⟩, by decide, rfl, 5, 1, rfl, fun i a h hx hw => ?_⟩
    obtain rfl : i = 4 :=
      allAt_evAt demoTr (P := fun i a => a.touches 5 = true → a.isWrite = true → i = 4) (by decide) i a h hx hw
    exact .po (b := .fork 1 2) (by decide) h rfl (Option.some.inj h ▸ rfl)
  · exact ⟨⟨1, false, .none⟩, by decide, rfl, trivial⟩
  · exact ⟨⟨6, true, .onceBody 7⟩, by decide, rfl, inOnceBody_begin⟩
  · exact ⟨⟨7, false, .afterOnce 7⟩, by decide, rfl, .inl (.head _)⟩
  · exact ⟨⟨3, false, .mu 9⟩, by decide, rfl, heldExcl_acq⟩
  · -- index 17, `rd 0 5` after the critical section at indices 14–16: no write from index 14 on
    exact ⟨⟨12, false, .afterCS 9⟩, by decide, rfl, 14, 16, by decide, rfl, rfl, fun i a h =>
      allAt_evAt demoTr (P := fun i a => a.touches 5 = true → a.isWrite = true → i < 14) (by decide) i a h⟩
  · exact ⟨⟨8, true, .atomic⟩, by decide, rfl, rfl⟩
  · exact ⟨⟨9, false, .atomic⟩, by decide, rfl, rfl⟩
  · exact ⟨⟨5, false, .rmu 8⟩, by decide, rfl, heldRead_racq⟩
  · exact ⟨⟨4, true, .mu 8⟩, by decide, rfl, heldExcl_acq⟩

/-- several objects per type: variable 10·k + f is field f of object k; its mutex / once field m is lock / once 10·k + m -/
def manyObjs : Interp := ⟨fun x => x % 10, fun x m => x / 10 * 10 + m, fun x o => x / 10 * 10 + o, fun _ => 0⟩

/-- goroutines 1 and 2 share object 1 (field 11 under lock 19); goroutine 2 also uses object 2 (field 21 under lock 29) -/
def twoTr : List Ev := [.rel 2 29, .rel 1 19, .wr 2 21, .wr 1 11, .acq 2 29, .acq 1 19, .rel 2 19, .wr 2 11, .acq 2 19]

theorem two_wf : WF twoTr := by decide

theorem two_generated : GeneratedBy manyObjs demo twoTr := by
  intro x _
  rw [generatedOn_iff_rec]
  conv => arg 5; rw [twoTr]
  simp only [GenRec, Ev.touches, beq_iff_eq, Bool.false_eq_true, false_imp_iff, and_true, true_and]
  refine ⟨⟨?_, ?_⟩, ?_⟩ <;> rintro rfl
  · exact ⟨⟨2, true, .mu 9⟩, by decide, rfl, heldExcl_acq⟩
  · exact ⟨⟨2, true, .mu 9⟩, by decide, rfl, heldExcl_cons (by decide) heldExcl_acq⟩
  · exact ⟨⟨2, true, .mu 9⟩, by decide, rfl, heldExcl_cons (by decide) heldExcl_acq⟩

def racy : List Row := [(0, 0, [⟨0, true, .none⟩, ⟨1, false, .none⟩])]

/-- two goroutines write the field with no synchronisation at all -/
def racyTr : List Ev := [.wr 1 0, .wr 0 0]

theorem racy_undisciplined : allDisciplined racy = false := by decide

theorem racy_generated : GeneratedBy .single racy racyTr := by
  intro x hx
  obtain rfl : x = 0 := by simpa [fieldsOf, racy, Interp.single] using hx
  rw [generatedOn_iff_rec]
  exact ⟨⟨trivial, fun _ => ⟨⟨0, true, .none⟩, by decide, rfl, trivial⟩⟩,
    fun _ => ⟨⟨0, true, .none⟩, by decide, rfl, trivial⟩⟩

theorem racy_wf : WF racyTr := by decide

theorem racy_race : Race racyTr 0 :=
  ⟨0, 1, .wr 0 0, .wr 1 0, by decide, rfl, rfl, rfl, not_HB_of_no_edge (b := .wr 1 0) rfl (by decide) 0⟩

end ZapVerif.SitePrograms
