import ZapVerif.Proofs.Entry
import ZapVerif.Proofs.Num
/-! Leaf assumptions (`…OK`) and the glue from fields / metadata to well-formed call trees. -/
namespace ZapVerif.Entry
open ZapVerif ZapVerif.Esc ZapVerif.Json ZapVerif.Enc

theorem isHex_ge (c : UInt8) (h : isHex c = true) : c ≥ 32 := by
  simp only [isHex, Bool.or_eq_true, Bool.and_eq_true, decide_eq_true_eq] at h
  rcases h with (⟨h, -⟩ | ⟨h, -⟩) | ⟨h, -⟩ <;> exact UInt8.le_trans (by decide) h

theorem hexState_ge {b : UInt8} {n : Nat} (h : (if isHex b then some n else none).isSome = true) : b ≥ 32 := by
  by_cases hx : isHex b = true
  · exact isHex_ge b hx
  · simp [hx] at h

/-- the string-body recogniser accepts no control byte in any state: state 0 rejects them outright, state 1 accepts
    nine letters, the hex states only hex digits -/
theorem stepD_ge (s : Nat) (b : UInt8) (h : (stepD s b).isSome = true) : b ≥ 32 := by
  unfold stepD at h
  split at h
  · by_cases hb : b < 32
    · simp [hb] at h
    · exact UInt8.not_lt.mp hb
  · by_cases hb : (b == 92 || b == 34 || b == 110 || b == 114 || b == 116 || b == 47 || b == 98 || b == 102) = true
    · simp only [Bool.or_eq_true, beq_iff_eq] at hb
      rcases hb with ((((((rfl | rfl) | rfl) | rfl) | rfl) | rfl) | rfl) | rfl <;> decide
    · by_cases hu : b = 117
      · subst hu; decide
      · simp [hb, hu] at h
  · exact hexState_ge h
  · exact hexState_ge h
  · exact hexState_ge h
  · exact hexState_ge h
  · simp at h

theorem runD_ge (s : Nat) (body : Bytes) (h : (runD s body).isSome = true) : ∀ b ∈ body, b ≥ 32 := by
  induction body generalizing s with
  | nil => simp
  | cons x r ih =>
    simp only [runD] at h
    cases hs : stepD s x with
    | none => simp [hs] at h
    | some s' =>
      simp only [hs] at h
      intro b hb
      rcases List.mem_cons.mp hb with rfl | hb
      · exact stepD_ge s b (by simp [hs])
      · exact ih s' h b hb

mutual
/-- scalar tokens contain no byte below 0x20 -/
def NoCtlJ : J → Prop
  | .str _ => True
  | .atom t => ∀ c ∈ t, c ≥ 32
  | .arr xs => NoCtlL xs
  | .obj kvs => NoCtlM kvs
def NoCtlL : List J → Prop
  | [] => True
  | x :: r => NoCtlJ x ∧ NoCtlL r
def NoCtlM : List (Bytes × J) → Prop
  | [] => True
  | (_, v) :: r => NoCtlJ v ∧ NoCtlM r
end

theorem comma_ge (first : Bool) : ∀ b ∈ comma false first, b ≥ 32 := by
  cases first <;> simp [comma] <;> decide

mutual
theorem render_ge : ∀ (j : J), WFj j → NoCtlJ j → ∀ b ∈ render j, b ≥ 32
  | .str body, hw, _ => by
      intro b hb
      simp only [render, List.mem_cons, List.mem_append, List.not_mem_nil, or_false] at hb
      rcases hb with rfl | hb | rfl
      · decide
      · have hr : runD 0 body = some 0 := by simpa [WFj] using hw
        exact runD_ge 0 body (by rw [hr]; rfl) b hb
      · decide
  | .atom t, _, hn => by simpa [render, NoCtlJ] using hn
  | .arr xs, hw, hn => by
      intro b hb
      simp only [render, renderElems_eq, List.mem_cons, List.mem_append, List.not_mem_nil, or_false] at hb
      rcases hb with rfl | hb | rfl
      · decide
      · exact elems_ge xs true (by simpa [WFj] using hw) (by simpa [NoCtlJ] using hn) b hb
      · decide
  | .obj kvs, hw, hn => by
      intro b hb
      simp only [render, renderMembers_eq, List.mem_cons, List.mem_append, List.not_mem_nil, or_false] at hb
      rcases hb with rfl | hb | rfl
      · decide
      · exact mems_ge kvs true (by simpa [WFj] using hw) (by simpa [NoCtlJ] using hn) b hb
      · decide
theorem elems_ge : ∀ (xs : List J) (first : Bool), WFl xs → NoCtlL xs → ∀ b ∈ elemOut first xs, b ≥ 32
  | [], _, _, _ => by simp [elemOut]
  | x :: r, first, hw, hn => by
      obtain ⟨hx, hr⟩ := (by simpa [WFl] using hw : WFj x ∧ WFl r)
      obtain ⟨nx, nr⟩ := (by simpa [NoCtlL] using hn : NoCtlJ x ∧ NoCtlL r)
      intro b hb
      simp only [elemOut, List.mem_append] at hb
      rcases hb with (hb | hb) | hb
      · exact comma_ge first b hb
      · exact render_ge x hx nx b hb
      · exact elems_ge r false hr nr b hb
theorem mems_ge : ∀ (ms : List (Bytes × J)) (first : Bool), WFm ms → NoCtlM ms → ∀ b ∈ memOut first ms, b ≥ 32
  | [], _, _, _ => by simp [memOut]
  | (k, v) :: r, first, hw, hn => by
      obtain ⟨hk, hv, hr⟩ := (by simpa [WFm] using hw : runD 0 k = some 0 ∧ WFj v ∧ WFm r)
      obtain ⟨nv, nr⟩ := (by simpa [NoCtlM] using hn : NoCtlJ v ∧ NoCtlM r)
      intro b hb
      simp only [memOut, List.mem_append, List.mem_cons] at hb
      rcases hb with hb | rfl | hb | rfl | rfl | hb | hb
      · exact comma_ge first b hb
      · decide
      · exact runD_ge 0 k (by rw [hk]; rfl) b hb
      · decide
      · decide
      · exact render_ge v hv nv b hb
      · exact mems_ge r false hr nr b hb
end

/-- a JSON number token as strconv emits it -/
def numChar (c : UInt8) : Bool := (48 ≤ c && c ≤ 57) || c == 45 || c == 43 || c == 46 || c == 101 || c == 69
def NumTok (t : Bytes) : Prop := t ≠ [] ∧ ∀ c ∈ t, numChar c = true

theorem numChar_tok (c : UInt8) (h : numChar c = true) : tokenChar c = true ∧ c ≥ 32 := by
  simp only [numChar, Bool.or_eq_true, Bool.and_eq_true, decide_eq_true_eq, beq_iff_eq] at h
  rcases h with ((((⟨h1, h2⟩ | rfl) | rfl) | rfl) | rfl) | rfl
  · -- a digit: none of the eight structural bytes lies between `0` and `9`
    refine ⟨?_, UInt8.le_trans (by decide) h1⟩
    rw [UInt8.le_iff_toNat_le] at h1 h2
    simp [tokenChar, ← UInt8.toNat_inj]
    simp at h1 h2
    omega
  all_goals decide

theorem digit_num : ∀ d, d < 10 → numChar (UInt8.ofNat (48 + d)) = true := by decide

theorem digits_num (f n : Nat) : ∀ c ∈ digits f n, numChar c = true := digits_all digit_num f n

theorem digits_ne (f n : Nat) : digits (f + 1) n ≠ [] := by
  simp only [digits]; split <;> simp

theorem fmtNat_num (n : Nat) : NumTok (fmtNat n) := ⟨digits_ne n n, digits_num (n + 1) n⟩

theorem fmtInt_num (i : Int) : NumTok (fmtInt i) := by
  unfold fmtInt
  split
  · refine ⟨by simp, ?_⟩
    intro c hc
    rcases List.mem_cons.mp hc with rfl | hc
    · decide
    · exact (fmtNat_num _).2 c hc
  · exact fmtNat_num _

/-- assumptions on the opaque, stdlib-formatted leaves -/
def ScalarOK : Scalar → Prop
  | .float nan inf txt => (nan = false ∧ inf = 0) → NumTok txt     -- strconv.AppendFloat of a finite value
  | .complex re im plus => runD 0 (re ++ (if plus then [43] else []) ++ im ++ [105]) = some 0
  | _ => True

def SubOK : SubRes → Prop
  | .val s => ScalarOK s
  | _ => True

def PrimOK : Prim → Prop
  | .scalar s => ScalarOK s
  | .time t => SubOK t.res
  | .dur d => SubOK d.res
  | .json j => WFj j ∧ NoCtlJ j       -- encoding/json emitted one compact, control-free value

theorem strJ_ok (b : Bytes) (h : runD 0 b = some 0) : WFj (J.str b) ∧ NoCtlJ (J.str b) :=
  ⟨by simpa [WFj] using h, by simp [NoCtlJ]⟩

theorem atomJ_ok' (t : Bytes) (h1 : atomOK t) (h2 : ∀ c ∈ t, c ≥ 32) : WFj (J.atom t) ∧ NoCtlJ (J.atom t) :=
  ⟨by simpa [WFj] using h1, by simpa [NoCtlJ] using h2⟩

theorem atomJ_ok (t : Bytes) (h : NumTok t) : WFj (J.atom t) ∧ NoCtlJ (J.atom t) :=
  atomJ_ok' t ⟨h.1, fun c hc => (numChar_tok c (h.2 c hc)).1⟩ fun c hc => (numChar_tok c (h.2 c hc)).2

theorem scalarJ_ok (s : Scalar) (h : ScalarOK s) : WFj (scalarJ s) ∧ NoCtlJ (scalarJ s) := by
  cases s with
  | str s => exact strJ_ok _ (esc_ok s)
  | int i => exact atomJ_ok _ (fmtInt_num i)
  | uint n => exact atomJ_ok _ (fmtNat_num n)
  | bool b => cases b <;> exact atomJ_ok' _ ⟨by decide, by decide⟩ (by decide)
  | float nan inf txt =>
    simp only [scalarJ]
    split
    · exact strJ_ok _ (by decide)
    split
    · exact strJ_ok _ (by decide)
    split
    · exact strJ_ok _ (by decide)
    · rename_i h1 h2 h3
      exact atomJ_ok txt (h ⟨by simpa using h1, by omega⟩)
  | complex re im plus => exact strJ_ok _ h

theorem subOrNanos_ok (r : SubRes) (n : Int) (h : SubOK r) : WFj (subOrNanos r n) ∧ NoCtlJ (subOrNanos r n) := by
  cases r with
  | val s => exact scalarJ_ok s h
  | nilEnc => exact atomJ_ok _ (fmtInt_num n)
  | noop => exact atomJ_ok _ (fmtInt_num n)

theorem subOrStr_ok (r : SubRes) (s : Bytes) (h : SubOK r) : WFj (subOrStr r s) ∧ NoCtlJ (subOrStr r s) := by
  cases r with
  | val v => exact scalarJ_ok v h
  | nilEnc => exact strJ_ok _ (esc_ok s)
  | noop => exact strJ_ok _ (esc_ok s)

theorem primJ_ok (p : Prim) (h : PrimOK p) : WFj (primJ p) ∧ NoCtlJ (primJ p) := by
  cases p with
  | scalar s => exact scalarJ_ok s h
  | time t => exact subOrNanos_ok _ _ h
  | dur d => exact subOrNanos_ok _ _ h
  | json j => exact h

mutual
def NoCtlO : List OC → Prop
  | [] => True
  | OC.prim _ v :: r => NoCtlJ v ∧ NoCtlO r
  | OC.ns _ :: r => NoCtlO r
  | OC.obj _ b :: r => NoCtlO b ∧ NoCtlO r
  | OC.arr _ b :: r => NoCtlA b ∧ NoCtlO r
def NoCtlA : List AC → Prop
  | [] => True
  | AC.prim v :: r => NoCtlJ v ∧ NoCtlA r
  | AC.obj b :: r => NoCtlO b ∧ NoCtlA r
  | AC.arr b :: r => NoCtlA b ∧ NoCtlA r
end

theorem den_nocontrol :
    (∀ calls : List OC, NoCtlO calls → NoCtlM (denO calls)) ∧
    (∀ calls : List AC, NoCtlA calls → NoCtlL (denA calls)) := by
  apply calls_induct
  · intro _; simp [denO, NoCtlM]
  · intro k v r ih h
    obtain ⟨hv, hr⟩ := (by simpa [NoCtlO] using h : NoCtlJ v ∧ NoCtlO r)
    simp only [denO, NoCtlM]; exact ⟨hv, ih hr⟩
  · intro k body r ihb ih h
    obtain ⟨hb, hr⟩ := (by simpa [NoCtlO] using h : NoCtlO body ∧ NoCtlO r)
    simp only [denO, NoCtlM, NoCtlJ]; exact ⟨ihb hb, ih hr⟩
  · intro k body r ihb ih h
    obtain ⟨hb, hr⟩ := (by simpa [NoCtlO] using h : NoCtlA body ∧ NoCtlO r)
    simp only [denO, NoCtlM, NoCtlJ]; exact ⟨ihb hb, ih hr⟩
  · intro k r ih h
    have hr : NoCtlO r := by simpa [NoCtlO] using h
    simp only [denO, NoCtlM, NoCtlJ]; exact ⟨ih hr, trivial⟩
  · intro _; simp [denA, NoCtlL]
  · intro v r ih h
    obtain ⟨hv, hr⟩ := (by simpa [NoCtlA] using h : NoCtlJ v ∧ NoCtlA r)
    simp only [denA, NoCtlL]; exact ⟨hv, ih hr⟩
  · intro body r ihb ih h
    obtain ⟨hb, hr⟩ := (by simpa [NoCtlA] using h : NoCtlO body ∧ NoCtlA r)
    simp only [denA, NoCtlL, NoCtlJ]; exact ⟨ihb hb, ih hr⟩
  · intro body r ihb ih h
    obtain ⟨hb, hr⟩ := (by simpa [NoCtlA] using h : NoCtlA body ∧ NoCtlA r)
    simp only [denA, NoCtlL, NoCtlJ]; exact ⟨ihb hb, ih hr⟩

theorem denA_noctl : ∀ (calls : List AC), NoCtlA calls → NoCtlL (denA calls) := den_nocontrol.2

theorem NoCtlO_append (a b : List OC) (ha : NoCtlO a) (hb : NoCtlO b) : NoCtlO (a ++ b) := by
  induction a with
  | nil => simpa using hb
  | cons c r ih => cases c <;> simp_all [NoCtlO]

/-- "good" call list: well-formed and control-free leaves -/
def GoodO (calls : List OC) : Prop := WFo calls ∧ NoCtlO calls
def GoodA (calls : List AC) : Prop := WFa calls ∧ NoCtlA calls

theorem good_nil : GoodO [] := ⟨by simp [WFo], by simp [NoCtlO]⟩
theorem good_append {a b : List OC} (ha : GoodO a) (hb : GoodO b) : GoodO (a ++ b) :=
  ⟨WFo_append a b ha.1 hb.1, NoCtlO_append a b ha.2 hb.2⟩
theorem good_prim (k : Bytes) (v : J) (h : WFj v ∧ NoCtlJ v) : GoodO [OC.prim k v] :=
  ⟨by simpa [WFo] using h.1, by simpa [NoCtlO] using h.2⟩
theorem good_str (k s : Bytes) : GoodO [strPrim k s] :=
  good_prim k _ (strJ_ok _ (esc_ok s))
theorem good_cons_str (k s : Bytes) {r : List OC} (hr : GoodO r) : GoodO (strPrim k s :: r) :=
  good_append (good_str k s) hr

theorem good_errCall (k : Bytes) (e : Option Bytes) : GoodO (errCall k e) := by
  cases e with
  | none => exact good_nil
  | some m => exact good_str _ m

mutual
theorem encErr_good : ∀ (k : Bytes) (e : ErrV), GoodO (encErr k e).1
  | k, .mk o verbose isGroup causes => by
      cases o with
      | panic m => simpa [encErr] using good_nil
      | nilRecv => simpa [encErr] using good_str k nilText
      | ok basic =>
        simp only [encErr]
        split
        · have hc := encCauses_good causes
          refine good_cons_str k basic ⟨?_, ?_⟩
          · simpa [WFo] using hc.1
          · simpa [NoCtlO] using hc.2
        · split
          · split
            · exact good_str k basic
            · exact good_cons_str k basic (good_str _ _)
          · exact good_str k basic
theorem encCauses_good : ∀ (cs : List ErrV), GoodA (encCauses cs).1
  | [] => ⟨by simp [encCauses, WFa], by simp [encCauses, NoCtlA]⟩
  | c :: r => by
      have hc := encErr_good (litStr "error") c
      have hr := encCauses_good r
      simp only [encCauses]
      split
      · exact ⟨by simpa [WFa] using hc.1, by simpa [NoCtlA] using hc.2⟩
      · exact ⟨by simpa [WFa] using ⟨hc.1, hr.1⟩, by simpa [NoCtlA] using ⟨hc.2, hr.2⟩⟩
end

/-- assumptions a field must meet: opaque leaves are OK, marshaler call trees have good leaves -/
def FieldOK : Field → Prop
  | .prim _ p => PrimOK p
  | .obj _ body _ => GoodO body
  | .arr _ body _ => GoodA body
  | .inline _ body _ => GoodO body
  | .refl _ (some j) _ => WFj j ∧ NoCtlJ j
  | _ => True

theorem addTo_good (f : Field) (h : FieldOK f) : GoodO (addTo f) := by
  cases f with
  | prim k p => exact good_prim k _ (primJ_ok p h)
  | obj k body err =>
    have hb : GoodO body := h
    have : GoodO [OC.obj k body] := ⟨by simpa [WFo] using hb.1, by simpa [NoCtlO] using hb.2⟩
    exact good_append this (good_errCall k err)
  | arr k body err =>
    have hb : GoodA body := h
    have : GoodO [OC.arr k body] := ⟨by simpa [WFo] using hb.1, by simpa [NoCtlO] using hb.2⟩
    exact good_append this (good_errCall k err)
  | inline k body err => exact good_append h (good_errCall k err)
  | refl k r err =>
    cases r with
    | some j => exact good_prim k j h
    | none => exact good_errCall k (some err)
  | stringer k o =>
    cases o with
    | ok s => exact good_str k s
    | nilRecv => exact good_str k nilText
    | panic m => exact good_errCall k (some (panicText m))
  | error k e => exact good_append (encErr_good k e) (good_errCall k _)
  | ns k => exact ⟨by simp [addTo, WFo], by simp [addTo, NoCtlO]⟩
  | skip => exact good_nil

theorem addFields_good (fs : List Field) (h : ∀ f ∈ fs, FieldOK f) : GoodO (addFields fs) := by
  induction fs with
  | nil => exact good_nil
  | cons f r ih =>
    simp only [addFields, List.flatMap_cons]
    exact good_append (addTo_good f (h f (by simp))) (ih (fun g hg => h g (by simp [hg])))

theorem ctx_good (ctx : List (List Field)) (h : ∀ fs ∈ ctx, ∀ f ∈ fs, FieldOK f) : GoodO (ctx.flatMap addFields) := by
  induction ctx with
  | nil => exact good_nil
  | cons fs r ih =>
    simp only [List.flatMap_cons]
    exact good_append (addFields_good fs (h fs (by simp))) (ih (fun g hg => h g (by simp [hg])))

def EntOK (e : Ent) : Prop :=
  SubOK e.lvlRes ∧ (∀ t, e.time = some t → SubOK t.res) ∧ SubOK e.nameRes ∧ SubOK e.callerRes

theorem good_ite (c : Bool) {a : List OC} (ha : GoodO a) : GoodO (if c then a else []) := by
  cases c <;> simp [ha, good_nil]

theorem metaCalls_good (c : Cfg) (e : Ent) (h : EntOK e) : GoodO (metaCalls c e) := by
  obtain ⟨hl, ht, hn, hc⟩ := h
  unfold metaCalls
  refine good_append (good_append (good_append (good_append ?_ ?_) ?_) ?_) ?_
  · exact good_ite _ (good_prim _ _ (subOrStr_ok _ _ hl))
  · cases htm : e.time with
    | none => exact good_nil
    | some t => exact good_ite _ (good_prim _ _ (subOrNanos_ok _ _ (ht t htm)))
  · exact good_ite _ (good_prim _ _ (subOrStr_ok _ _ hn))
  · cases e.callerDefined with
    | false => exact good_nil
    | true =>
      simp only [if_true]
      exact good_append (good_ite _ (good_prim _ _ (subOrStr_ok _ _ hc))) (good_ite _ (good_str _ _))
  · exact good_ite _ (good_str _ _)

theorem stackCalls_good (c : Cfg) (e : Ent) : GoodO (stackCalls c e) ∧ NoNs (stackCalls c e) := by
  unfold stackCalls
  split
  · exact ⟨good_str _ _, by intro sp f; simp [strPrim, outO]⟩
  · exact ⟨good_nil, by intro sp f; simp [outO]⟩

theorem WFm_append (a b : List (Bytes × J)) (ha : WFm a) (hb : WFm b) : WFm (a ++ b) := by
  induction a with
  | nil => simpa using hb
  | cons x r ih =>
    obtain ⟨k, v⟩ := x
    obtain ⟨hk, hv, hr⟩ := (by simpa [WFm] using ha : runD 0 k = some 0 ∧ WFj v ∧ WFm r)
    simp only [List.cons_append, WFm]; exact ⟨hk, hv, ih hr⟩

theorem NoCtlM_append (a b : List (Bytes × J)) (ha : NoCtlM a) (hb : NoCtlM b) : NoCtlM (a ++ b) := by
  induction a with
  | nil => simpa using hb
  | cons x r ih =>
    obtain ⟨k, v⟩ := x
    obtain ⟨hv, hr⟩ := (by simpa [NoCtlM] using ha : NoCtlJ v ∧ NoCtlM r)
    simp only [List.cons_append, NoCtlM]; exact ⟨hv, ih hr⟩

/-- the members an entry denotes: metadata (level, time, name, caller, function, message — each under the
    omission rules spelled out in `metaCalls`), then context fields, then call-site fields, in the order added,
    a namespace nesting everything after it; the stack trace last, at top level (after open namespaces closed) -/
def entryMembers (c : Cfg) (e : Ent) (ctx : List (List Field)) (fields : List Field) : List (Bytes × J) :=
  denO (metaCalls c e ++ ctx.flatMap addFields ++ addFields fields) ++ denO (stackCalls c e)

theorem entryMembers_ok (c : Cfg) (e : Ent) (ctx : List (List Field)) (fields : List Field)
    (he : EntOK e) (hc : ∀ fs ∈ ctx, ∀ f ∈ fs, FieldOK f) (hf : ∀ f ∈ fields, FieldOK f) :
    WFj (J.obj (entryMembers c e ctx fields)) ∧ NoCtlJ (J.obj (entryMembers c e ctx fields)) := by
  have gall := good_append (good_append (metaCalls_good c e he) (ctx_good ctx hc)) (addFields_good fields hf)
  have gs := (stackCalls_good c e).1
  have h1 : WFm (entryMembers c e ctx fields) := WFm_append _ _ (den_wf _ gall.1) (den_wf _ gs.1)
  have h2 : NoCtlM (entryMembers c e ctx fields) := NoCtlM_append _ _ (den_nocontrol.1 _ gall.2) (den_nocontrol.1 _ gs.2)
  exact ⟨by simpa only [WFj] using h1, by simpa only [NoCtlJ] using h2⟩

theorem jsonLine_eq_render (c : Cfg) (e : Ent) (ctx : List (List Field)) (fields : List Field)
    (he : EntOK e) (hc : ∀ fs ∈ ctx, ∀ f ∈ fs, FieldOK f) (hf : ∀ f ∈ fields, FieldOK f) :
    jsonLine c e ctx fields = render (J.obj (entryMembers c e ctx fields)) ++ c.ending := by
  have gs := stackCalls_good c e
  exact Enc.encodeEntry_eq_render _ _ _ _ _ (metaCalls_good c e he).1 (ctx_good ctx hc).1
    (addFields_good fields hf).1 gs.1.1 gs.2

end ZapVerif.Entry
