import ZapVerif.Model.GoMini
/-! Symbolic-execution kit for GoMini (`Model/GoMini.lean`) and the generic lemmas: counted loops under an invariant,
    `for range` as a fold.

The interpreter is written with plain `match`es.  Unfolding it with `simp` on a term whose next scrutinee is not yet a
constructor lets `simp` run ahead into every arm; the combinators below (`Res.out`, `Out.andThen`, `condK`, …)
restate each equation so that — through their `@[congr]` lemmas — `simp` evaluates strictly in program order. -/
namespace ZapVerif.GoMini
open ZapVerif

/-! NOTE on `:= id rfl`: a theorem whose proof is literally `rfl` is used by `simp` *definitionally* (no proof step is
    recorded) and the kernel re-establishes the equation by its own conversion check, which on interpreter terms may
    unfold `evalE` (structural recursion over a nested inductive) and overflow the kernel's stack ("deep recursion").
    `id rfl` keeps the same one-line proofs but makes `simp` record ordinary rewrite steps. -/

theorem wrap_int_id (v : Int) (h1 : -9223372036854775808 ≤ v) (h2 : v < 9223372036854775808) : wrap .int v = v := by
  simp only [wrap]; omega
theorem wrap_i64_id (v : Int) (h1 : -9223372036854775808 ≤ v) (h2 : v < 9223372036854775808) : wrap .i64 v = v := by
  simp only [wrap]; omega
theorem wrap_u64_id (v : Int) (h1 : 0 ≤ v) (h2 : v < 18446744073709551616) : wrap .u64 v = v := by
  simp only [wrap]; omega
theorem wrap_u32_id (v : Int) (h1 : 0 ≤ v) (h2 : v < 4294967296) : wrap .u32 v = v := by
  simp only [wrap]; omega
theorem wrap_u8_id (v : Int) (h1 : 0 ≤ v) (h2 : v < 256) : wrap .u8 v = v := by
  simp only [wrap]; omega

@[simp] theorem Env.get_set_same (x : String) (v : Val) (e : Env) : Env.get x (Env.set x v e) = some v := by
  induction e with
  | nil => simp [Env.get, Env.set]
  | cons p r ih =>
    obtain ⟨y, w⟩ := p
    by_cases h : x = y <;> simp [Env.get, Env.set, h, ih]

@[simp] theorem Env.set_set_same (x : String) (v w : Val) (e : Env) : Env.set x w (Env.set x v e) = Env.set x w e := by
  induction e with
  | nil => simp [Env.set]
  | cons p r ih =>
    obtain ⟨y, u⟩ := p
    by_cases h : x = y <;> simp [Env.set, h, ih]

@[simp] theorem Env.get_set_other (x y : String) (v : Val) (e : Env) (h : x ≠ y) : Env.get x (Env.set y v e) = Env.get x e := by
  induction e with
  | nil => simp [Env.get, Env.set, h]
  | cons p r ih =>
    obtain ⟨z, w⟩ := p
    by_cases hz : y = z
    · subst hz; simp [Env.get, Env.set, h]
    · by_cases hx : x = z <;> simp [Env.get, Env.set, hz, hx, ih]

def Res.out {α} (r : Res α) (k : α → Out) : Out :=
  match r with
  | .ok a => k a
  | .panic p => .panic p
  | .stuck w => .stuck w

@[simp] theorem Res.out_ok {α} (a : α) (k : α → Out) : (Res.ok a).out k = k a := id rfl
@[simp] theorem Res.out_panic {α} (p : Panic) (k : α → Out) : (Res.panic p : Res α).out k = .panic p := id rfl
@[simp] theorem Res.out_stuck {α} (w : String) (k : α → Out) : (Res.stuck w : Res α).out k = .stuck w := id rfl
@[congr] theorem Res.out_congr {α} {r r' : Res α} (k : α → Out) (h : r = r') : r.out k = r'.out k := by rw [h]
theorem Res.out_ite {α} (c : Prop) [Decidable c] (a b : Res α) (k : α → Out) :
    (if c then a else b).out k = if c then a.out k else b.out k := by split <;> rfl

@[simp] theorem Res.bind_ok {α β} (a : α) (k : α → Res β) : (Res.ok a).bind k = k a := id rfl
@[simp] theorem Res.bind_panic {α β} (p : Panic) (k : α → Res β) : (Res.panic p : Res α).bind k = .panic p := id rfl
@[simp] theorem Res.bind_stuck {α β} (w : String) (k : α → Res β) : (Res.stuck w : Res α).bind k = .stuck w := id rfl
@[congr] theorem Res.bind_congr {α β} {r r' : Res α} (k : α → Res β) (h : r = r') : r.bind k = r'.bind k := by rw [h]
theorem Res.bind_ite {α β} (c : Prop) [Decidable c] (a b : Res α) (k : α → Res β) :
    (if c then a else b).bind k = if c then a.bind k else b.bind k := by split <;> rfl

/-- the value of `a && b` once `a` is evaluated and `b` is known to yield a boolean -/
theorem ite_ok_and (a b : Prop) [Decidable a] [Decidable b] :
    (if a then Res.ok (Val.bool (decide b)) else Res.ok (Val.bool false)) = Res.ok (Val.bool (decide (a ∧ b))) := by
  by_cases a <;> simp [*]

/-- three cases of a `switch` with the same body are one test of the disjunction -/
theorem ite_or3 {α : Type} (a b c : Prop) [Decidable a] [Decidable b] [Decidable c] (x y : α) :
    (if a then x else if b then x else if c then x else y) = if (a ∨ b) ∨ c then x else y := by
  by_cases a <;> by_cases b <;> by_cases c <;> simp [*]

theorem if_or {α} (p q : Prop) [Decidable p] [Decidable q] (a b : α) :
    (if p ∨ q then a else b) = if p then a else if q then a else b := by
  by_cases p <;> by_cases q <;> simp [*]

def Out.andThen (o : Out) (k : State → Out) : Out :=
  match o with
  | .normal σ => k σ
  | o => o

@[simp] theorem Out.andThen_normal (σ : State) (k : State → Out) : (Out.normal σ).andThen k = k σ := id rfl
@[simp] theorem Out.andThen_brk (σ : State) (k : State → Out) : (Out.brk σ).andThen k = .brk σ := id rfl
@[simp] theorem Out.andThen_cont (σ : State) (k : State → Out) : (Out.cont σ).andThen k = .cont σ := id rfl
@[simp] theorem Out.andThen_ret (vs : List Val) (σ : State) (k : State → Out) : (Out.ret vs σ).andThen k = .ret vs σ := id rfl
@[simp] theorem Out.andThen_panic (p : Panic) (k : State → Out) : (Out.panic p).andThen k = .panic p := id rfl
@[simp] theorem Out.andThen_stuck (w : String) (k : State → Out) : (Out.stuck w).andThen k = .stuck w := id rfl
@[simp] theorem Out.andThen_oof (k : State → Out) : Out.oof.andThen k = .oof := id rfl
@[congr] theorem Out.andThen_congr {o o' : Out} (k : State → Out) (h : o = o') : o.andThen k = o'.andThen k := by rw [h]
theorem Out.andThen_ite (c : Prop) [Decidable c] (a b : Out) (k : State → Out) :
    (if c then a else b).andThen k = if c then a.andThen k else b.andThen k := by split <;> rfl

def condK (v : Val) (t e : Out) : Out :=
  match v with
  | .bool true => t
  | .bool false => e
  | _ => .stuck "condition"

@[simp ↓] theorem condK_bool (b : Bool) (t e : Out) : condK (.bool b) t e = if b then t else e := by cases b <;> rfl
@[congr] theorem condK_congr {v v' : Val} (t e : Out) (h : v = v') : condK v t e = condK v' t e := by rw [h]

/-- `break` leaves a switch -/
def Out.catchBrk : Out → Out
  | .brk σ => .normal σ
  | o => o

@[simp] theorem Out.catchBrk_normal (σ : State) : (Out.normal σ).catchBrk = .normal σ := id rfl
@[simp] theorem Out.catchBrk_brk (σ : State) : (Out.brk σ).catchBrk = .normal σ := id rfl
@[simp] theorem Out.catchBrk_cont (σ : State) : (Out.cont σ).catchBrk = .cont σ := id rfl
@[simp] theorem Out.catchBrk_ret (vs : List Val) (σ : State) : (Out.ret vs σ).catchBrk = .ret vs σ := id rfl
@[simp] theorem Out.catchBrk_panic (p : Panic) : (Out.panic p).catchBrk = .panic p := id rfl
@[simp] theorem Out.catchBrk_stuck (w : String) : (Out.stuck w).catchBrk = .stuck w := id rfl
@[simp] theorem Out.catchBrk_oof : Out.oof.catchBrk = .oof := id rfl
theorem Out.catchBrk_ite (c : Prop) [Decidable c] (a b : Out) :
    (if c then a else b).catchBrk = if c then a.catchBrk else b.catchBrk := by split <;> rfl

def Out.loopBody (o : Out) (k : State → Out) : Out :=
  match o with
  | .normal σ | .cont σ => k σ
  | .brk σ => .normal σ
  | o => o

@[simp] theorem Out.loopBody_normal (σ : State) (k : State → Out) : (Out.normal σ).loopBody k = k σ := id rfl
@[simp] theorem Out.loopBody_cont (σ : State) (k : State → Out) : (Out.cont σ).loopBody k = k σ := id rfl
@[simp] theorem Out.loopBody_brk (σ : State) (k : State → Out) : (Out.brk σ).loopBody k = .normal σ := id rfl
@[simp] theorem Out.loopBody_ret (vs : List Val) (σ : State) (k : State → Out) : (Out.ret vs σ).loopBody k = .ret vs σ := id rfl
@[simp] theorem Out.loopBody_panic (p : Panic) (k : State → Out) : (Out.panic p).loopBody k = .panic p := id rfl
@[simp] theorem Out.loopBody_stuck (w : String) (k : State → Out) : (Out.stuck w).loopBody k = .stuck w := id rfl
@[simp] theorem Out.loopBody_oof (k : State → Out) : Out.oof.loopBody k = .oof := id rfl
@[congr] theorem Out.loopBody_congr {o o' : Out} (k : State → Out) (h : o = o') : o.loopBody k = o'.loopBody k := by rw [h]
theorem Out.loopBody_ite (c : Prop) [Decidable c] (a b : Out) (k : State → Out) :
    (if c then a else b).loopBody k = if c then a.loopBody k else b.loopBody k := by split <;> rfl

def Out.loopPost (o : Out) (k : State → Out) : Out :=
  match o with
  | .normal σ => k σ
  | .brk _ => .stuck "break in post statement"
  | .cont _ => .stuck "continue in post statement"
  | o => o

@[simp] theorem Out.loopPost_normal (σ : State) (k : State → Out) : (Out.normal σ).loopPost k = k σ := id rfl
@[congr] theorem Out.loopPost_congr {o o' : Out} (k : State → Out) (h : o = o') : o.loopPost k = o'.loopPost k := by rw [h]

def assignK (σ : State) (lhs : List LV) (msg : String) (vs : List Val) : Out :=
  match σ.assign lhs vs with
  | some σ' => .normal σ'
  | none => .stuck msg

/-- what a call of a translated function makes of the callee's outcome -/
def retK (σ : State) (lhs : List LV) (f : String) : Out → Out
  | .ret rs σ' => assignK { σ with fld := σ'.fld } lhs (msg "result arity of" f) rs
  | .normal σ' => if lhs.isEmpty then .normal { σ with fld := σ'.fld } else .stuck (msg "missing return in" f)
  | .brk _ => .stuck "break outside loop"
  | .cont _ => .stuck "continue outside loop"
  | o => o

@[simp] theorem retK_ret (σ : State) (lhs : List LV) (f : String) (rs : List Val) (σ' : State) :
    retK σ lhs f (.ret rs σ') = assignK { σ with fld := σ'.fld } lhs (msg "result arity of" f) rs := id rfl
@[simp] theorem retK_normal (σ : State) (lhs : List LV) (f : String) (σ' : State) :
    retK σ lhs f (.normal σ') = if lhs.isEmpty then .normal { σ with fld := σ'.fld } else .stuck (msg "missing return in" f) := id rfl
@[simp] theorem retK_panic (σ : State) (lhs : List LV) (f : String) (p : Panic) : retK σ lhs f (.panic p) = .panic p := id rfl
@[congr] theorem retK_congr (σ : State) (lhs : List LV) (f : String) {o o' : Out} (h : o = o') :
    retK σ lhs f o = retK σ lhs f o' := by rw [h]
theorem retK_ite (σ : State) (lhs : List LV) (f : String) (c : Prop) [Decidable c] (a b : Out) :
    retK σ lhs f (if c then a else b) = if c then retK σ lhs f a else retK σ lhs f b := by split <;> rfl

/-- how a function body ended: results and receiver fields (`none`: panic, stuck, out of fuel, stray break) -/
def Out.fin : Out → Option (List Val × Env)
  | .ret rs σ => some (rs, σ.fld)
  | .normal σ => some ([], σ.fld)
  | _ => none

@[simp] theorem Out.fin_ret (rs : List Val) (σ : State) : (Out.ret rs σ).fin = some (rs, σ.fld) := id rfl
@[simp] theorem Out.fin_normal (σ : State) : (Out.normal σ).fin = some ([], σ.fld) := id rfl
theorem Out.fin_ite (c : Prop) [Decidable c] (a b : Out) : (if c then a else b).fin = if c then a.fin else b.fin := by
  split <;> rfl

theorem retK_of_fin0 (σ : State) (f : String) (o : Out) (fl : Env) (h : o.fin = some ([], fl)) :
    retK σ [] f o = .normal { σ with fld := fl } := by
  cases o <;> simp_all [Out.fin, retK, assignK, State.assign]

theorem retK_of_fin1 (σ : State) (l : LV) (f : String) (o : Out) (v : Val) (fl : Env) (h : o.fin = some ([v], fl)) :
    retK σ [l] f o = .normal (({ σ with fld := fl } : State).assign1 l v) := by
  cases o <;> simp_all [Out.fin, retK, assignK, State.assign]

theorem retK_of_fin2 (σ : State) (l1 l2 : LV) (f : String) (o : Out) (v1 v2 : Val) (fl : Env)
    (h : o.fin = some ([v1, v2], fl)) :
    retK σ [l1, l2] f o = assignK { σ with fld := fl } [l1, l2] (msg "result arity of" f) [v1, v2] := by
  cases o <;> simp_all [Out.fin, retK]

theorem retK_of_fin (σ : State) (lhs : List LV) (f : String) (o : Out) (v : Val) (vs : List Val) (fl : Env)
    (h : o.fin = some (v :: vs, fl)) :
    retK σ lhs f o = assignK { σ with fld := fl } lhs (msg "result arity of" f) (v :: vs) := by
  cases o <;> simp_all [Out.fin, retK]

theorem run_of_fin (X : Ctx) (fuel : Nat) (f : String) (fn : Fun) (args : List Val) (fld : Env) (rs : List Val) (fl : Env)
    (hf : X.funs f = some fn) (ha : fn.params.length = args.length)
    (h : (exec X fuel fn.body { loc := fn.params.zip args ++ fn.named, fld := fld }).fin = some (rs, fl)) :
    run X fuel f args fld = .done rs fl := by
  simp only [run, hf, ha, if_true]
  cases ho : exec X fuel fn.body { loc := fn.params.zip args ++ fn.named, fld := fld } <;> simp_all [Out.fin]

/-- the entry of the `…_matches_source` proofs: `hX` is the table's `X_funs`, `hf` the generated lookup fact `funs_f`, so no
    function name is compared; one level of `exec` is already unfolded -/
theorem run_of_exec {X : Ctx} {tbl : String → Option Fun} (hX : X.funs = tbl) {f : String} {fn : Fun} (hf : tbl f = some fn)
    {args : List Val} (ha : fn.params.length = args.length) {fuel : Nat} {fld : Env} {rs : List Val} {fl : Env}
    (h : (execS X (exec X fuel) fn.body { loc := fn.params.zip args ++ fn.named, fld := fld }).fin = some (rs, fl)) :
    run X (fuel + 1) f args fld = .done rs fl :=
  run_of_fin X (fuel + 1) f fn args fld rs fl (hX ▸ hf) ha h

/-- `table_lookup ext ext.match_1` proves `ext P "name" [a, b] = some […]` for an intrinsic table defined by a `match` on
    string literals (`ext.match_1` is its matcher): it exposes the compiled `if name = "…"` chain and lets `simp` decide the
    literal comparisons.  `rfl` would evaluate `String.decEq` (UTF-8 encoding of both sides) against every earlier pattern,
    in the elaborator and again in the kernel; the equation lemmas of a forty-way overlapping match are not generated in time. -/
macro "table_lookup " f:ident m:ident : tactic =>
  `(tactic| (delta $f $m; simp only [String.reduceEq, ↓reduceDIte]))

section
variable (X : Ctx) (rec : Stmt → State → Out) (σ : State)

/-- not a simp lemma: unfold one level explicitly (`rw [exec_succ]`), so that calls and loop continuations stay folded -/
theorem exec_succ (fuel : Nat) (s : Stmt) : exec X (fuel + 1) s σ = execS X (exec X fuel) s σ := id rfl
@[simp] theorem exec_zero (s : Stmt) : exec X 0 s σ = .oof := id rfl

@[simp] theorem execS_skip : execS X rec .skip σ = .normal σ := by simp [execS]
@[simp] theorem execS_brk : execS X rec .brk σ = .brk σ := by simp [execS]
@[simp] theorem execS_cont : execS X rec .cont σ = .cont σ := by simp [execS]

@[simp] theorem execS_seq (a b : Stmt) : execS X rec (.seq a b) σ = (execS X rec a σ).andThen (execS X rec b) := by
  simp only [execS, Out.andThen]; cases execS X rec a σ <;> rfl

@[simp] theorem execS_assign (lhs : List LV) (rhs : List Expr) :
    execS X rec (.assign lhs rhs) σ = (evalEs X σ rhs).out (assignK σ lhs "assignment arity") := by
  simp only [execS, Res.out, assignK]; cases evalEs X σ rhs <;> rfl

@[simp] theorem execS_ret (es : List Expr) : execS X rec (.ret es) σ = (evalEs X σ es).out fun vs => .ret vs σ := by
  simp only [execS, Res.out]; cases evalEs X σ es <;> rfl

@[simp] theorem execS_callX (lhs : List LV) (f : String) (args : List Expr) :
    execS X rec (.callX lhs f args) σ = (evalEs X σ args).out fun vs =>
      match X.ext f vs with
      | some rs => assignK σ lhs (msg "result arity of" f) rs
      | none => .stuck (msg "intrinsic" f) := by
  simp only [execS, Res.out, assignK]; cases evalEs X σ args <;> rfl

@[simp] theorem execS_call (lhs : List LV) (f : String) (args : List Expr) :
    execS X rec (.call lhs f args) σ = (evalEs X σ args).out fun vs =>
      match X.funs f with
      | some fn =>
        if fn.params.length = vs.length then
          retK σ lhs f (rec fn.body { loc := fn.params.zip vs ++ fn.named, fld := σ.fld })
        else .stuck (msg "argument arity of" f)
      | none => .stuck (msg "unknown function" f) := by
  simp only [execS, Res.out]
  cases evalEs X σ args <;> rfl

@[simp] theorem execS_ite (c : Expr) (t e : Stmt) :
    execS X rec (.ite c t e) σ = (evalE X σ c).out fun v => condK v (execS X rec t σ) (execS X rec e σ) := by
  simp only [execS, Res.out, condK]
  cases evalE X σ c <;> try rfl
  rename_i v; cases v <;> try rfl
  rename_i b; cases b <;> rfl

@[simp] theorem execS_switch (tag : Expr) (cs : Cases) :
    execS X rec (.switch tag cs) σ = (evalE X σ tag).out fun v => (execC X rec v cs σ).catchBrk := by
  simp only [execS, Res.out, Out.catchBrk]
  cases evalE X σ tag <;> rfl

@[simp] theorem execC_default (tag : Val) (body : Stmt) : execC X rec tag (.default body) σ = execS X rec body σ := by
  simp [execC]

@[simp] theorem execC_case (tag : Val) (vals : List Expr) (body : Stmt) (rest : Cases) :
    execC X rec tag (.case vals body rest) σ =
      (matchCase X σ tag vals).out fun b => if b then execS X rec body σ else execC X rec tag rest σ := by
  simp only [execC, Res.out]
  cases matchCase X σ tag vals <;> try rfl
  rename_i b; cases b <;> rfl

theorem execS_loop (c : Expr) (post body : Stmt) :
    execS X rec (.loop c post body) σ = (evalE X σ c).out fun v =>
      condK v ((execS X rec body σ).loopBody fun σ' => (execS X rec post σ').loopPost (rec (.loop c post body)))
        (.normal σ) := by
  simp only [execS, Res.out, condK]
  cases evalE X σ c <;> try rfl
  rename_i v; cases v <;> try rfl
  rename_i b; cases b <;> rfl

@[simp] theorem execS_range (k v : LV) (xs : Expr) (body : Stmt) :
    execS X rec (.range k v xs body) σ = (evalE X σ xs).out fun
      | .list vs => rangeRun (execS X rec body) k v vs 0 σ
      | .bytes bs => rangeRun (execS X rec body) k v (bs.map fun b => .int b.toNat) 0 σ
      | _ => .stuck "range operand" := by
  simp only [execS, Res.out]
  cases evalE X σ xs <;> try rfl
  rename_i v; cases v <;> rfl

end

attribute [simp] Env.get Env.set State.assign State.assign1

/-- the right operand of `&&` / `||` must be a boolean -/
def boolK : Val → Res Val
  | .bool r => .ok (.bool r)
  | _ => .stuck "operand"

@[simp] theorem boolK_bool (b : Bool) : boolK (.bool b) = .ok (.bool b) := id rfl

/-- `a && b` after `a` has been evaluated -/
def andK (rb : Res Val) : Val → Res Val
  | .bool true => rb.bind boolK
  | .bool false => .ok (.bool false)
  | _ => .stuck "operand"

def orK (rb : Res Val) : Val → Res Val
  | .bool false => rb.bind boolK
  | .bool true => .ok (.bool true)
  | _ => .stuck "operand"

@[simp ↓] theorem andK_bool (rb : Res Val) (b : Bool) : andK rb (.bool b) = if b then rb.bind boolK else .ok (.bool false) := by
  cases b <;> rfl
@[simp ↓] theorem orK_bool (rb : Res Val) (b : Bool) : orK rb (.bool b) = if b then .ok (.bool true) else rb.bind boolK := by
  cases b <;> rfl
theorem andK_ok_bool (a b : Bool) : andK (.ok (.bool b)) (.bool a) = .ok (.bool (a && b)) := by
  cases a <;> cases b <;> rfl
theorem orK_ok_bool (a b : Bool) : orK (.ok (.bool b)) (.bool a) = .ok (.bool (a || b)) := by
  cases a <;> cases b <;> rfl

section
variable (X : Ctx) (σ : State)
/- The equation lemmas Lean generates for `evalEs` / `evalOpt` hold by `rfl`; they are restated as propositional
   rewrites for the reason given in the NOTE on `id rfl`. -/
@[simp] theorem evalOpt_none (d : Val) : evalOpt X σ none d = .ok d := by rw [evalOpt]
@[simp] theorem evalOpt_some (e : Expr) (d : Val) : evalOpt X σ (some e) d = evalE X σ e := by rw [evalOpt]
@[simp] theorem evalEs_nil : evalEs X σ [] = .ok [] := by rw [evalEs]
@[simp] theorem evalEs_cons (e : Expr) (es : List Expr) :
    evalEs X σ (e :: es) = (evalE X σ e).bind fun v => (evalEs X σ es).bind fun vs => .ok (v :: vs) := by rw [evalEs]
@[simp] theorem evalE_lit (v : Val) : evalE X σ (.lit v) = .ok v := by simp [evalE]
@[simp] theorem evalE_loc (x : String) :
    evalE X σ (.loc x) = match σ.loc.get x with | some v => .ok v | none => .stuck (msg "unset local" x) := by
  simp only [evalE]; cases Env.get x σ.loc <;> rfl
@[simp] theorem evalE_fld (x : String) :
    evalE X σ (.fld x) = match σ.fld.get x with | some v => .ok v | none => .stuck (msg "unset field" x) := by
  simp only [evalE]; cases Env.get x σ.fld <;> rfl
@[simp] theorem evalE_un (op : UnOp) (e : Expr) : evalE X σ (.un op e) = (evalE X σ e).bind (evalUn op) := by simp [evalE]
@[simp] theorem evalE_bin (op : BinOp) (a b : Expr) :
    evalE X σ (.bin op a b) = (evalE X σ a).bind fun va => (evalE X σ b).bind fun vb => evalBin op va vb := by simp [evalE]
@[simp] theorem evalE_and (a b : Expr) : evalE X σ (.and a b) = (evalE X σ a).bind (andK (evalE X σ b)) := by
  simp only [evalE]; congr
@[simp] theorem evalE_or (a b : Expr) : evalE X σ (.or a b) = (evalE X σ a).bind (orK (evalE X σ b)) := by
  simp only [evalE]; congr
@[simp] theorem evalE_conv (t : Ty) (e : Expr) :
    evalE X σ (.conv t e) = (evalE X σ e).bind fun v => (asInt v).bind fun i => .ok (.int (wrap t i)) := by simp [evalE]
@[simp] theorem evalE_len (e : Expr) : evalE X σ (.len e) = (evalE X σ e).bind lenVal := by simp [evalE]
@[simp] theorem evalE_index (a i : Expr) :
    evalE X σ (.index a i) = (evalE X σ a).bind fun va => (evalE X σ i).bind fun vi => indexVal va vi := by simp [evalE]
@[simp] theorem evalE_slice (a : Expr) (lo hi : Option Expr) :
    evalE X σ (.slice a lo hi) = (evalE X σ a).bind fun va =>
      (evalOpt X σ lo (.int 0)).bind fun vlo => (lenVal va).bind fun n => (evalOpt X σ hi n).bind fun vhi =>
      (asInt vlo).bind fun l => (asInt vhi).bind fun h => sliceVal va l h := by simp [evalE]
@[simp] theorem evalE_call (f : String) (args : List Expr) :
    evalE X σ (.call f args) = (evalEs X σ args).bind (callVal X f) := by simp [evalE]
end

@[simp] theorem evalUn_not (b : Bool) : evalUn .not (.bool b) = .ok (.bool (!b)) := id rfl
@[simp] theorem evalUn_neg (t : Ty) (v : Int) : evalUn (.neg t) (.int v) = .ok (.int (wrap t (-v))) := id rfl

@[simp] theorem evalBin_add (t : Ty) (a b : Int) : evalBin (.add t) (.int a) (.int b) = .ok (.int (wrap t (a + b))) := id rfl
@[simp] theorem evalBin_sub (t : Ty) (a b : Int) : evalBin (.sub t) (.int a) (.int b) = .ok (.int (wrap t (a - b))) := id rfl
@[simp] theorem evalBin_mul (t : Ty) (a b : Int) : evalBin (.mul t) (.int a) (.int b) = .ok (.int (wrap t (a * b))) := id rfl
@[simp] theorem evalBin_div (t : Ty) (a b : Int) :
    evalBin (.div t) (.int a) (.int b) = if b = 0 then .panic .divide else .ok (.int (wrap t (Int.tdiv a b))) := id rfl
@[simp] theorem evalBin_rem (t : Ty) (a b : Int) :
    evalBin (.rem t) (.int a) (.int b) = if b = 0 then .panic .divide else .ok (.int (wrap t (Int.tmod a b))) := id rfl
@[simp] theorem evalBin_band (a b : Int) : evalBin .band (.int a) (.int b) = .ok (.int (a.toNat &&& b.toNat : Nat)) := id rfl
@[simp] theorem evalBin_bor (a b : Int) : evalBin .bor (.int a) (.int b) = .ok (.int (a.toNat ||| b.toNat : Nat)) := id rfl
@[simp] theorem evalBin_bxor (a b : Int) : evalBin .bxor (.int a) (.int b) = .ok (.int (a.toNat ^^^ b.toNat : Nat)) := id rfl
@[simp] theorem evalBin_shr (a b : Int) : evalBin .shr (.int a) (.int b) = .ok (.int (a.toNat >>> b.toNat : Nat)) := id rfl
@[simp] theorem evalBin_shl (t : Ty) (a b : Int) :
    evalBin (.shl t) (.int a) (.int b) = .ok (.int (wrap t (a.toNat <<< b.toNat : Nat))) := id rfl
@[simp] theorem evalBin_eq (a b : Int) : evalBin .eq (.int a) (.int b) = .ok (.bool (decide (a = b))) := id rfl
@[simp] theorem evalBin_ne (a b : Int) : evalBin .ne (.int a) (.int b) = .ok (.bool (decide (a ≠ b))) := id rfl
@[simp] theorem evalBin_lt (a b : Int) : evalBin .lt (.int a) (.int b) = .ok (.bool (decide (a < b))) := id rfl
@[simp] theorem evalBin_le (a b : Int) : evalBin .le (.int a) (.int b) = .ok (.bool (decide (a ≤ b))) := id rfl
@[simp] theorem evalBin_gt (a b : Int) : evalBin .gt (.int a) (.int b) = .ok (.bool (decide (a > b))) := id rfl
@[simp] theorem evalBin_ge (a b : Int) : evalBin .ge (.int a) (.int b) = .ok (.bool (decide (a ≥ b))) := id rfl
@[simp] theorem evalBin_eqb (a b : Bool) : evalBin .eq (.bool a) (.bool b) = .ok (.bool (a == b)) := id rfl
@[simp] theorem evalBin_neb (a b : Bool) : evalBin .ne (.bool a) (.bool b) = .ok (.bool (a != b)) := id rfl
@[simp] theorem evalBin_eqs (a b : Bytes) : evalBin .eq (.bytes a) (.bytes b) = .ok (.bool (a == b)) := id rfl
@[simp] theorem evalBin_nes (a b : Bytes) : evalBin .ne (.bytes a) (.bytes b) = .ok (.bool (a != b)) := id rfl

/-- Go's `s != ""` -/
@[simp high] theorem evalBin_nes_nil (a : Bytes) : evalBin .ne (.bytes a) (.bytes []) = .ok (.bool !a.isEmpty) := by
  cases a <;> rfl
/-- Go's `len(f) != 0`, `len(f) == 0` -/
@[simp high] theorem evalBin_ne_len {α} (l : List α) : evalBin .ne (.int l.length) (.int 0) = .ok (.bool !l.isEmpty) := by
  cases l <;> simp <;> omega
@[simp high] theorem evalBin_eq_len {α} (l : List α) : evalBin .eq (.int l.length) (.int 0) = .ok (.bool l.isEmpty) := by
  cases l <;> simp <;> omega

@[simp] theorem evalBin_eql (a b : List Val) : evalBin .eq (.list a) (.list b) = .ok (.bool (Val.beqs a b)) := id rfl
@[simp] theorem evalBin_nel (a b : List Val) : evalBin .ne (.list a) (.list b) = .ok (.bool (!Val.beqs a b)) := id rfl
@[simp] theorem beqs_nil_nil : Val.beqs [] [] = true := by simp [Val.beqs]
@[simp] theorem beqs_nil_cons (b : Val) (bs : List Val) : Val.beqs [] (b :: bs) = false := by simp [Val.beqs]
@[simp] theorem beqs_cons_nil (a : Val) (as : List Val) : Val.beqs (a :: as) [] = false := by simp [Val.beqs]
@[simp] theorem beqs_cons_cons (a b : Val) (as bs : List Val) :
    Val.beqs (a :: as) (b :: bs) = (Val.beq a b && Val.beqs as bs) := by simp [Val.beqs]
@[simp] theorem beq_int (a b : Int) : Val.beq (.int a) (.int b) = (a == b) := by simp [Val.beq]
@[simp] theorem lenVal_bytes (s : Bytes) : lenVal (.bytes s) = .ok (.int s.length) := id rfl
@[simp] theorem lenVal_list (s : List Val) : lenVal (.list s) = .ok (.int s.length) := id rfl
@[simp] theorem asInt_int (v : Int) : asInt (.int v) = .ok v := id rfl

theorem indexVal_bytes (s : Bytes) (i : Nat) (h : i < s.length) :
    indexVal (.bytes s) (.int i) = .ok (.int s[i].toNat) := by
  simp [indexVal, h]
theorem indexVal_list (s : List Val) (i : Nat) (h : i < s.length) : indexVal (.list s) (.int i) = .ok s[i] := by
  simp [indexVal, h]
/-- fields of a record value (`x.f` on a struct is an index with a literal position) -/
@[simp] theorem indexVal_rec0 (a : Val) (r : List Val) : indexVal (.list (a :: r)) (.int 0) = .ok a := id rfl
@[simp] theorem indexVal_rec1 (a b : Val) (r : List Val) : indexVal (.list (a :: b :: r)) (.int 1) = .ok b := id rfl
@[simp] theorem indexVal_rec2 (a b c : Val) (r : List Val) : indexVal (.list (a :: b :: c :: r)) (.int 2) = .ok c := id rfl
@[simp] theorem indexVal_rec3 (a b c d : Val) (r : List Val) :
    indexVal (.list (a :: b :: c :: d :: r)) (.int 3) = .ok d := id rfl
@[simp] theorem indexVal_rec4 (a b c d e : Val) (r : List Val) :
    indexVal (.list (a :: b :: c :: d :: e :: r)) (.int 4) = .ok e := id rfl
@[simp] theorem indexVal_rec5 (a b c d e f : Val) (r : List Val) :
    indexVal (.list (a :: b :: c :: d :: e :: f :: r)) (.int 5) = .ok f := id rfl

theorem indexVal_bytes_oob (s : Bytes) (i : Int) (h : i < 0 ∨ (s.length : Int) ≤ i) :
    indexVal (.bytes s) (.int i) = .panic .index := by
  simp only [indexVal]
  split
  · rfl
  · have : s[i.toNat]? = none := by simp; omega
    rw [this]

theorem indexVal_concat (l : Bytes) (b : UInt8) : indexVal (.bytes (l ++ [b])) (.int l.length) = .ok (.int b.toNat) := by
  have := indexVal_bytes (l ++ [b]) l.length (by simp)
  simpa using this

/-- comparing byte values as the interpreter does (as integers) is comparing the bytes; with a literal for `k` both sides
    of the integer comparison are already in the form `simp` leaves them in -/
theorem byte_eq (b k : UInt8) : ((b.toNat : Int) = (k.toNat : Int)) ↔ b = k := by
  rw [Int.ofNat_inj, UInt8.toNat_inj]

theorem byte_le (k b : UInt8) : ((k.toNat : Int) ≤ (b.toNat : Int)) ↔ k ≤ b := by
  rw [Int.ofNat_le, UInt8.le_iff_toNat_le]

@[simp] theorem sliceVal_bytes (s : Bytes) (lo hi : Int) :
    sliceVal (.bytes s) lo hi =
      if 0 ≤ lo ∧ lo ≤ hi ∧ hi ≤ s.length then .ok (.bytes ((s.take hi.toNat).drop lo.toNat)) else .panic .slice := id rfl
@[simp] theorem sliceVal_list (s : List Val) (lo hi : Int) :
    sliceVal (.list s) lo hi =
      if 0 ≤ lo ∧ lo ≤ hi ∧ hi ≤ s.length then .ok (.list ((s.take hi.toNat).drop lo.toNat)) else .panic .slice := id rfl

@[simp] theorem valEq_int (a b : Int) : valEq (.int a) (.int b) = some (decide (a = b)) := id rfl
@[simp] theorem valEq_bool (a b : Bool) : valEq (.bool a) (.bool b) = some (a == b) := id rfl
@[simp] theorem valEq_bytes (a b : Bytes) : valEq (.bytes a) (.bytes b) = some (a == b) := id rfl

@[simp] theorem matchCase_nil (X : Ctx) (σ : State) (tag : Val) : matchCase X σ tag [] = .ok false := id rfl
/-- a case of a TAGLESS switch (`switch { case cond: … }`, a switch on `true`): the condition decides -/
theorem matchCase_true1 (X : Ctx) (σ : State) (e : Expr) (b : Bool) (h : evalE X σ e = .ok (.bool b)) :
    matchCase X σ (.bool true) [e] = .ok b := by
  simp only [matchCase, h, Res.bind, valEq]
  cases b <;> rfl

/-- a case value that is an integer literal -/
@[simp] theorem matchCase_lit_int (X : Ctx) (σ : State) (a b : Int) (es : List Expr) :
    matchCase X σ (.int a) (.lit (.int b) :: es) = if a = b then .ok true else matchCase X σ (.int a) es := by
  simp only [matchCase, evalE, Res.bind, valEq]
  by_cases h : a = b <;> simp [h]

/-- a case value that is a string literal (`switch path { case "stdout": … }`) -/
@[simp] theorem matchCase_lit_bytes (X : Ctx) (σ : State) (a b : Bytes) (es : List Expr) :
    matchCase X σ (.bytes a) (.lit (.bytes b) :: es) = if a = b then .ok true else matchCase X σ (.bytes a) es := by
  simp only [matchCase, evalE, Res.bind, valEq]
  by_cases h : a = b
  · simp [h]
  · have hb : (a == b) = false := by simpa using h
    simp [h, hb]

@[simp] theorem callVal_def (X : Ctx) (f : String) (args : List Val) :
    callVal X f args = match builtin f args with
      | some v => .ok v
      | none => match X.ext f args with
        | some [v] => .ok v
        | _ => .stuck (msg "call" f) := id rfl

@[simp] theorem builtin_append_byte (s : Bytes) (c : Int) :
    builtin "append" [.bytes s, .int c] = some (.bytes (s ++ [UInt8.ofNat c.toNat])) := id rfl
@[simp] theorem builtin_append_val (s : List Val) (v : Val) : builtin "append" [.list s, v] = some (.list (s ++ [v])) := by
  cases v <;> rfl
@[simp] theorem builtin_appends_bytes (s t : Bytes) : builtin "append..." [.bytes s, .bytes t] = some (.bytes (s ++ t)) := id rfl
@[simp] theorem builtin_appends_list (s t : List Val) : builtin "append..." [.list s, .list t] = some (.list (s ++ t)) := id rfl
@[simp] theorem builtin_min (a b : Int) : builtin "min" [.int a, .int b] = some (.int (min a b)) := id rfl
@[simp] theorem builtin_max (a b : Int) : builtin "max" [.int a, .int b] = some (.int (max a b)) := id rfl
@[simp] theorem builtin_indexByte (s : Bytes) (c : Int) :
    builtin "bytes.IndexByte" [.bytes s, .int c] = some (.int (indexByte s (UInt8.ofNat c.toNat))) := id rfl
@[simp] theorem builtin_lastIndexByte (s : Bytes) (c : Int) :
    builtin "strings.LastIndexByte" [.bytes s, .int c] = some (.int (lastIndexByte s (UInt8.ofNat c.toNat))) := id rfl
@[simp] theorem builtin_tuple (args : List Val) : builtin "tuple" args = some (.list args) := id rfl
theorem builtin_none (f : String) (args : List Val)
    (h : ¬ (f = "min" ∨ f = "max" ∨ f = "bytes.IndexByte" ∨ f = "strings.IndexByte" ∨ f = "strings.LastIndexByte" ∨
      f = "append" ∨ f = "append..." ∨ f = "tuple")) : builtin f args = none := by
  simp only [not_or] at h
  simp [builtin, h]

@[simp] theorem assignK_def (σ : State) (lhs : List LV) (msg : String) (vs : List Val) :
    assignK σ lhs msg vs = match σ.assign lhs vs with
      | some σ' => .normal σ'
      | none => .stuck msg := id rfl

/-- `for k, v := range xs` as an indexed left fold, for loops that assign locals of their own.  The first iteration appends
    the loop variables (and the locals first assigned in the body) to the local environment, later ones overwrite them, so
    the environment at the loop head changes SHAPE after the first iteration.  The state at the loop head is therefore
    `st a rest`, with `rest : Env` the tail where those variables live: the step hypothesis may leave any `rest'` there (give
    `Env.set "l2" … (Env.set "l1" … rest)`), and the conclusion says nothing about it.  The body may read the ranged slice
    through its index: `y` IS the element at position `i` of the whole slice `all`. -/
theorem rangeRun_foldIdx {α β : Type} (body : State → Out) (k v : LV) (enc : β → Val) (st : α → Env → State)
    (step : α → Nat → β → α) (all : List β)
    (h : ∀ (a : α) (rest : Env) (i : Nat) (y : β), all[i]? = some y →
      ∃ rest', body (((st a rest).assign1 k (.int i)).assign1 v (enc y)) = .normal (st (step a i y) rest')) :
    ∀ (ys : List β) (i : Nat) (a : α) (rest : Env), all.drop i = ys →
      ∃ rest', rangeRun body k v (ys.map enc) i (st a rest) =
        .normal (st ((ys.zipIdx i).foldl (fun a p => step a p.2 p.1) a) rest')
  | [], _, _, rest, _ => ⟨rest, rfl⟩
  | y :: ys, i, a, rest, hd => by
    have hy : all[i]? = some y := by
      have := congrArg (fun l => l[0]?) hd
      simpa using this
    have hd' : all.drop (i + 1) = ys := by
      have := congrArg (List.drop 1) hd
      simpa [List.drop_drop, Nat.add_comm] using this
    obtain ⟨r1, h1⟩ := h a rest i y hy
    obtain ⟨r2, h2⟩ := rangeRun_foldIdx body k v enc st step all h ys (i + 1) (step a i y) r1 hd'
    exact ⟨r2, by simpa only [List.map_cons, rangeRun, h1, List.zipIdx_cons, List.foldl_cons] using h2⟩

theorem zipIdx_map_fst {β γ : Type} (f : β → γ) : ∀ (l : List β) (k : Nat), (l.zipIdx k).map (fun q => f q.1) = l.map f
  | [], _ => rfl
  | b :: l, k => by simp [List.zipIdx_cons, zipIdx_map_fst f l (k + 1)]

theorem zipIdx_flatMap_fst {β γ : Type} (f : β → List γ) :
    ∀ (l : List β) (k : Nat), (l.zipIdx k).flatMap (fun q => f q.1) = l.flatMap f
  | [], _ => rfl
  | b :: l, k => by simp [List.zipIdx_cons, zipIdx_flatMap_fst f l (k + 1)]

/-- a fold over the indexed slice that ignores the index (the form `rangeRun_foldIdx` leaves a loop result in) -/
theorem zipIdx_foldl_fst {α β : Type} (f : α → β → α) : ∀ (l : List β) (k : Nat) (a : α),
    (l.zipIdx k).foldl (fun a p => f a p.1) a = l.foldl f a
  | [], _, _ => rfl
  | b :: l, k, a => by simp only [List.zipIdx_cons, List.foldl_cons]; exact zipIdx_foldl_fst f l (k + 1) (f a b)

theorem indexVal_list_map {β : Type} (enc : β → Val) (all : List β) (i : Nat) (y : β) (h : all[i]? = some y) :
    indexVal (.list (all.map enc)) (.int i) = .ok (enc y) := by
  have hlt : i < all.length := by
    rcases Nat.lt_or_ge i all.length with hl | hl
    · exact hl
    · rw [List.getElem?_eq_none hl] at h; cases h
  rw [indexVal_list _ i (by simpa using hlt)]
  simp [List.getElem?_eq_getElem hlt] at h
  simp [h]

/-- A `for i := range xs` loop that calls something on every element and only COLLECTS what the calls return
    (`err = multierr.Append(err, xs[i].Write(…))`), recording each call — tee, multi-writer, hooks, the cores of a checked
    entry.  `st acc tr rest`: the results so far, the trace so far, the stale loop variables (as in `rangeRun_foldIdx`). -/
theorem rangeRun_collect {β : Type} (body : State → Out) (k v : LV) (enc : β → Val) (res : β → List Val) (evOf : β → Val)
    (st : List Val → List Val → Env → State) (all : List β)
    (h : ∀ (acc tr : List Val) (rest : Env) (i : Nat) (y : β), all[i]? = some y →
      ∃ rest', body (((st acc tr rest).assign1 k (.int i)).assign1 v (enc y)) =
        .normal (st (acc ++ res y) (tr ++ [evOf y]) rest'))
    (ys : List β) (i : Nat) (acc tr : List Val) (rest : Env) (hd : all.drop i = ys) :
    ∃ rest', rangeRun body k v (ys.map enc) i (st acc tr rest) =
      .normal (st (acc ++ ys.flatMap res) (tr ++ ys.map evOf) rest') := by
  have hfold : ∀ (l : List (β × Nat)) (a : List Val × List Val),
      l.foldl (fun a p => (a.1 ++ res p.1, a.2 ++ [evOf p.1])) a =
        (a.1 ++ l.flatMap (fun p => res p.1), a.2 ++ l.map (fun p => evOf p.1)) := by
    intro l
    induction l with
    | nil => intro a; simp
    | cons p l ih => intro a; simp [ih, List.append_assoc]
  have := rangeRun_foldIdx body k v enc (fun a => st a.1 a.2) (fun a _ y => (a.1 ++ res y, a.2 ++ [evOf y])) all
    (fun a => h a.1 a.2) ys i (acc, tr) rest hd
  rwa [hfold, zipIdx_flatMap_fst res, zipIdx_map_fst evOf] at this

/-- a `for … range` loop that returns `r` at the first element satisfying `p` and otherwise changes nothing but its own
    variables (`rest`, as in `rangeRun_foldIdx`): it returns `r` iff some element satisfies `p` -/
theorem rangeRun_any {β : Type} (body : State → Out) (k v : LV) (enc : β → Val) (st : Env → State) (p : β → Bool)
    (r : List Val) (all : List β)
    (h : ∀ (rest : Env) (i : Nat) (y : β), all[i]? = some y →
      ∃ rest', body (((st rest).assign1 k (.int i)).assign1 v (enc y)) =
        if p y then .ret r (st rest') else .normal (st rest')) :
    ∀ (ys : List β) (i : Nat) (rest : Env), all.drop i = ys →
      ∃ rest', rangeRun body k v (ys.map enc) i (st rest) = if ys.any p then .ret r (st rest') else .normal (st rest')
  | [], _, rest, _ => ⟨rest, rfl⟩
  | y :: ys, i, rest, hd => by
    have hy : all[i]? = some y := by
      have := congrArg (fun l => l[0]?) hd
      simpa using this
    have hd' : all.drop (i + 1) = ys := by
      have := congrArg (List.drop 1) hd
      simpa [List.drop_drop, Nat.add_comm] using this
    obtain ⟨r1, h1⟩ := h rest i y hy
    cases hp : p y
    · obtain ⟨r2, h2⟩ := rangeRun_any body k v enc st p r all h ys (i + 1) r1 hd'
      refine ⟨r2, ?_⟩
      simp only [List.map_cons, rangeRun, h1, hp, List.any_cons, Bool.false_or, Bool.false_eq_true, if_false]
      exact h2
    · exact ⟨r1, by simp only [List.map_cons, rangeRun, h1, hp, List.any_cons, Bool.true_or, if_true]⟩

/-- `for _, v := range ys` under an invariant `R` on the elements processed so far and the state: every iteration
    ends normally or with `continue` and re-establishes `R`. -/
theorem rangeRun_inv (body : State → Out) (v : LV) (R : List Val → State → Prop)
    (h : ∀ done y σ, R done σ →
      ∃ σ', (body (σ.assign1 v y) = .normal σ' ∨ body (σ.assign1 v y) = .cont σ') ∧ R (done ++ [y]) σ') :
    ∀ (ys done : List Val) (i : Nat) (σ : State), R done σ →
      ∃ σ', rangeRun body .blank v ys i σ = .normal σ' ∧ R (done ++ ys) σ'
  | [], done, _, σ, hr => ⟨σ, rfl, by rwa [List.append_nil]⟩
  | y :: ys, done, i, σ, hr => by
    obtain ⟨σ₁, ho, hr₁⟩ := h done y σ hr
    obtain ⟨σ₂, h₂, hr₂⟩ := rangeRun_inv body v R h ys (done ++ [y]) (i + 1) σ₁ hr₁
    refine ⟨σ₂, ?_, by rwa [List.append_assoc] at hr₂⟩
    have hb : (σ.assign1 .blank (.int i)).assign1 v y = σ.assign1 v y := rfl
    rcases ho with ho | ho <;> rw [rangeRun, hb, ho] <;> exact h₂

/-- `rangeRun_inv` where the state is a function `st` of the elements processed so far and of something the body may
    change freely (`t`: the stale loop locals) -/
theorem rangeRun_st {τ : Type} (body : State → Out) (v : LV) (st : List Val → τ → State)
    (h : ∀ done y t, ∃ t', body ((st done t).assign1 v y) = .normal (st (done ++ [y]) t') ∨
      body ((st done t).assign1 v y) = .cont (st (done ++ [y]) t'))
    (ys : List Val) (i : Nat) (t : τ) : ∃ t', rangeRun body .blank v ys i (st [] t) = .normal (st ys t') := by
  obtain ⟨_, hr, t', rfl⟩ := rangeRun_inv body v (fun done σ => ∃ t, σ = st done t)
    (fun done y _ ⟨t, hσ⟩ => by
      obtain ⟨t', ht⟩ := h done y t
      exact ⟨_, hσ ▸ ht, t', rfl⟩) ys [] i _ ⟨t, rfl⟩
  exact ⟨t', hr⟩

/-- A loop whose iterations neither break nor return.  `abs` maps an abstract loop state to the concrete state at
    the loop head; `g` is the fuel the body itself needs (for calls and inner loops).  `execS_loop` is deliberately not a
    simp lemma: symbolic execution stops at a loop, and an instance of this lemma (or of `loop_fold`) takes it from there. -/
theorem loop_inv {α : Type} (X : Ctx) (c : Expr) (post body : Stmt) (g : Nat)
    (abs : α → State) (inv : α → Prop) (cnd : α → Bool) (next : α → α) (m : α → Nat)
    (hc : ∀ a, inv a → evalE X (abs a) c = .ok (.bool (cnd a)))
    (hb : ∀ a fuel, inv a → cnd a = true →
      (execS X (exec X (fuel + g)) body (abs a)).loopBody (fun σ' => (execS X (exec X (fuel + g)) post σ').loopPost
        (exec X (fuel + g) (.loop c post body))) = exec X (fuel + g) (.loop c post body) (abs (next a)))
    (hi : ∀ a, inv a → cnd a = true → inv (next a))
    (hm : ∀ a, inv a → cnd a = true → m (next a) < m a) :
    ∀ (n : Nat) (a : α) (fuel : Nat), inv a → m a ≤ n →
      ∃ a', execS X (exec X (fuel + n + g)) (.loop c post body) (abs a) = .normal (abs a') ∧ inv a' ∧ cnd a' = false
  | 0, a, fuel, ha, hn => by
    have hca : cnd a = false := by
      cases hca : cnd a
      · rfl
      · have := hm a ha hca; omega
    exact ⟨a, by simp [execS_loop, hc a ha, hca], ha, hca⟩
  | n + 1, a, fuel, ha, hn => by
    cases hca : cnd a
    · exact ⟨a, by simp [execS_loop, hc a ha, hca], ha, hca⟩
    · obtain ⟨a', h1, h2, h3⟩ := loop_inv X c post body g abs inv cnd next m hc hb hi hm n (next a) fuel (hi a ha hca)
        (by have := hm a ha hca; omega)
      refine ⟨a', ?_, h2, h3⟩
      rw [execS_loop]
      simp only [hc a ha, Res.out_ok, condK_bool, hca, if_true]
      rw [hb a (fuel + (n + 1)) ha hca, show fuel + (n + 1) + g = fuel + n + g + 1 by omega, exec_succ, h1]

/-- The functional form of `loop_inv`: the loop ends normally in `abs (last a)`, where `last` is any function
    satisfying the two recursion equations. -/
theorem loop_fold {α : Type} (X : Ctx) (c : Expr) (post body : Stmt) (g : Nat)
    (abs : α → State) (inv : α → Prop) (cnd : α → Bool) (next last : α → α) (m : α → Nat)
    (hc : ∀ a, inv a → evalE X (abs a) c = .ok (.bool (cnd a)))
    (hb : ∀ a fuel, inv a → cnd a = true →
      (execS X (exec X (fuel + g)) body (abs a)).loopBody (fun σ' => (execS X (exec X (fuel + g)) post σ').loopPost
        (exec X (fuel + g) (.loop c post body))) = exec X (fuel + g) (.loop c post body) (abs (next a)))
    (hi : ∀ a, inv a → cnd a = true → inv (next a))
    (hm : ∀ a, inv a → cnd a = true → m (next a) < m a)
    (hl0 : ∀ a, inv a → cnd a = false → last a = a)
    (hl1 : ∀ a, inv a → cnd a = true → last a = last (next a)) :
    ∀ (n : Nat) (a : α) (fuel : Nat), inv a → m a ≤ n →
      execS X (exec X (fuel + n + g)) (.loop c post body) (abs a) = .normal (abs (last a))
  | n, a, fuel, ha, hn => by
    -- run the loop with the invariant strengthened by "`last` has not changed": the final state then is `last a`
    obtain ⟨a', h, ⟨hi', hla⟩, hc'⟩ := loop_inv X c post body g abs (fun x => inv x ∧ last x = last a) cnd next m
      (fun x hx => hc x hx.1) (fun x f hx => hb x f hx.1)
      (fun x hx hcx => ⟨hi x hx.1 hcx, (hl1 x hx.1 hcx).symm.trans hx.2⟩) (fun x hx => hm x hx.1) n a fuel ⟨ha, rfl⟩ hn
    rw [h, ← hla, hl0 a' hi' hc']

/-- the parts of a loop statement (so that lemmas about one iteration can be stated without repeating the term) -/
def Stmt.lcond : Stmt → Expr
  | .loop c _ _ => c
  | _ => .lit (.bool false)
def Stmt.lpost : Stmt → Stmt
  | .loop _ p _ => p
  | _ => .skip
def Stmt.lbody : Stmt → Stmt
  | .loop _ _ b => b
  | _ => .skip

/-- the first statement of a sequence / the rest: `s.tl.tl.hd` is the third top-level statement of a generated body -/
def Stmt.hd : Stmt → Stmt
  | .seq a _ => a
  | s => s
def Stmt.tl : Stmt → Stmt
  | .seq _ b => b
  | _ => .skip

def Stmt.rbody : Stmt → Stmt
  | .range _ _ _ b => b
  | _ => .skip

end ZapVerif.GoMini
