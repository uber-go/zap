import ZapVerif.Model.Pools
import ZapVerif.Proofs.Enc
/-! Helper lemmas for C08: the heap-level JSON encoder driven through a pooled object refines the pure encoder
    model (`Enc.runO`) whenever the object satisfies the put-invariant and the buffer pool is well-formed, and it
    touches no buffer it does not own (frame). -/
namespace ZapVerif.Pools
open ZapVerif ZapVerif.Json ZapVerif.Enc ZapVerif.Entry

theorem upd_same (m : Nat → Bytes) (i : Nat) (v : Bytes) : upd m i v i = v := by simp [upd]
theorem upd_other (m : Nat → Bytes) (i j : Nat) (v : Bytes) (h : j ≠ i) : upd m i v j = m j := by simp [upd, h]

theorem trimNl_snoc (x : Bytes) : trimNl (x ++ [10]) = x := by
  simp [trimNl]

theorem takeAt_fst {α} (fresh : α) (p : List α) (o : Option Nat) :
    (takeAt fresh p o).1 = fresh ∨ (takeAt fresh p o).1 ∈ p := by
  unfold takeAt
  cases o with
  | none => simp
  | some i =>
    cases hi : p[i]? with
    | none => simp [hi]
    | some x => simp only [hi]; right; exact List.mem_of_getElem? hi

theorem takeAt_snd {α} (fresh : α) (p : List α) (o : Option Nat) : ∀ x ∈ (takeAt fresh p o).2, x ∈ p := by
  unfold takeAt
  cases o with
  | none => simp
  | some i =>
    cases hi : p[i]? with
    | none => simp [hi]
    | some x => simp only [hi]; intro y hy; exact List.mem_of_mem_eraseIdx hy

theorem keepIdx_sublist {α} (k : Nat → Bool) : ∀ (i : Nat) (xs : List α), (keepIdx k i xs).Sublist xs
  | _, [] => by simp [keepIdx]
  | i, x :: r => by
    simp only [keepIdx]
    split
    · exact (keepIdx_sublist k (i + 1) r).cons_cons x
    · exact (keepIdx_sublist k (i + 1) r).cons x

def PoolOK (h : H) : Prop := h.bufPool.Nodup ∧ ∀ x ∈ h.bufPool, x < h.next

/-- everything except the buffers (`mem`, `next`, `bufPool`), `tick` and `fault` -/
def SameRest (h h' : H) : Prop :=
  h'.jsonPool = h.jsonPool ∧ h'.slicePool = h.slicePool ∧ h'.ceh = h.ceh ∧ h'.errPoolCore = h.errPoolCore ∧
  h'.errPoolZap = h.errPoolZap ∧ h'.stackPool = h.stackPool ∧ h'.inflight = h.inflight ∧ h'.live = h.live ∧ h'.out = h.out ∧
  h'.liveMeta = h.liveMeta

theorem SameRest.rfl' (h : H) : SameRest h h := ⟨rfl, rfl, rfl, rfl, rfl, rfl, rfl, rfl, rfl, rfl⟩

theorem SameRest.trans {a b c : H} (h1 : SameRest a b) (h2 : SameRest b c) : SameRest a c := by
  obtain ⟨a1, a2, a3, a4, a5, a6, a7, a8, a9, a10⟩ := h1
  obtain ⟨b1, b2, b3, b4, b5, b6, b7, b8, b9, b10⟩ := h2
  exact ⟨b1.trans a1, b2.trans a2, b3.trans a3, b4.trans a4, b5.trans a5, b6.trans a6, b7.trans a7, b8.trans a8, b9.trans a9,
    b10.trans a10⟩

structure BufGot (h : H) (b : Nat) (h' : H) : Prop where
  src : b ∈ h.bufPool ∨ b = h.next
  notPooled : b ∉ h'.bufPool
  alloc : b < h'.next
  next_le : h.next ≤ h'.next
  empty : h'.mem b = []
  sub : ∀ x ∈ h'.bufPool, x ∈ h.bufPool
  ok : PoolOK h'
  frame : ∀ i, i ≠ b → h'.mem i = h.mem i
  rest : SameRest h h'
  fault : h'.fault = h.fault
  tick : h'.tick = h.tick + 1

theorem bufGet_spec (orc : Orc) (h : H) (hp : PoolOK h) : BufGot h (bufGet orc h).1 (bufGet orc h).2 := by
  have fresh : BufGot h h.next { h with next := h.next + 1, mem := upd h.mem h.next [], tick := h.tick + 1 } := by
    refine ⟨Or.inr rfl, ?_, by simp, by simp, by simp [upd], by simp, ⟨hp.1, ?_⟩, ?_, SameRest.rfl' _, rfl, rfl⟩
    · intro hm; have := hp.2 _ hm; omega
    · intro x hx; have := hp.2 _ hx; simp; omega
    · intro i hi; simp [upd, hi]
  unfold bufGet
  cases ho : orc h.tick with
  | none => simpa [ho] using fresh
  | some i =>
    cases hi : h.bufPool[i]? with
    | none => simpa [ho, hi] using fresh
    | some b =>
      have hb : b ∈ h.bufPool := List.mem_of_getElem? hi
      simp only [hi]
      refine ⟨Or.inl hb, ?_, hp.2 _ hb, Nat.le_refl _, by simp [upd], ?_, ⟨hp.1.erase b, ?_⟩, ?_, SameRest.rfl' _, rfl, rfl⟩
      · simp [hp.1.mem_erase_iff]
      · intro x hx; exact (List.erase_sublist).subset hx
      · intro x hx; exact hp.2 _ ((List.erase_sublist).subset hx)
      · intro j hj; simp [upd, hj]

/-- `b` is the buffer the object writes to; it and the object's reflection buffer are owned (allocated, not
    pooled, distinct), and the reflection encoder writes to the reflection buffer -/
structure Sep (s : ES) (b : Nat) : Prop where
  buf : s.o.buf = some b
  alloc : b < s.h.next
  notPooled : b ∉ s.h.bufPool
  refl : ∀ rb, s.o.reflectBuf = some rb → s.o.reflectEnc = some rb ∧ rb ≠ b ∧ rb < s.h.next ∧ rb ∉ s.h.bufPool
  ok : PoolOK s.h
  nofault : s.h.fault = false

/-- `s'` is reachable from `s` by encoder steps on buffer `b`: still separated, and nothing outside `b`, the
    reflection buffer, the pool and fresh memory was touched -/
structure Ext (b : Nat) (s s' : ES) : Prop where
  sep' : Sep s' b
  spaced : s'.o.spaced = s.o.spaced
  cfg : s'.o.cfg = s.o.cfg
  next_le : s.h.next ≤ s'.h.next
  pool_sub : ∀ x ∈ s'.h.bufPool, x ∈ s.h.bufPool
  refl_src : ∀ rb, s'.o.reflectBuf = some rb → s.o.reflectBuf = some rb ∨ rb ∈ s.h.bufPool ∨ s.h.next ≤ rb
  refl_keep : ∀ rb, s.o.reflectBuf = some rb → s'.o.reflectBuf = some rb
  frame : ∀ i, i < s.h.next → i ∉ s.h.bufPool → i ≠ b → s.o.reflectBuf ≠ some i → s'.h.mem i = s.h.mem i
  rest : SameRest s.h s'.h

theorem Ext.refl' {b : Nat} {s : ES} (hs : Sep s b) : Ext b s s :=
  ⟨hs, rfl, rfl, Nat.le_refl _, fun _ h => h, fun _ h => Or.inl h, fun _ h => h, fun _ _ _ _ _ => rfl, SameRest.rfl' _⟩

theorem Ext.trans {b : Nat} {s1 s2 s3 : ES} (h12 : Ext b s1 s2) (h23 : Ext b s2 s3) : Ext b s1 s3 := by
  refine ⟨h23.sep', h23.spaced.trans h12.spaced, h23.cfg.trans h12.cfg, Nat.le_trans h12.next_le h23.next_le,
    fun x hx => h12.pool_sub x (h23.pool_sub x hx), ?_, fun rb h => h23.refl_keep rb (h12.refl_keep rb h), ?_,
    h12.rest.trans h23.rest⟩
  · intro rb h
    rcases h23.refl_src rb h with h | h | h
    · exact h12.refl_src rb h
    · exact Or.inr (Or.inl (h12.pool_sub rb h))
    · exact Or.inr (Or.inr (Nat.le_trans h12.next_le h))
  · intro i h1 h2 h3 h4
    have e12 := h12.frame i h1 h2 h3 h4
    have : s2.o.reflectBuf ≠ some i := by
      intro hc
      rcases h12.refl_src i hc with h | h | h
      · exact h4 h
      · exact h2 h
      · omega
    rw [h23.frame i (Nat.lt_of_lt_of_le h1 h12.next_le) (fun hc => h2 (h12.pool_sub i hc)) h3 this, e12]

theorem ext_write {b : Nat} {s : ES} (hs : Sep s b) (i : Nat) (hi : i = b ∨ s.o.reflectBuf = some i) (v : Bytes) :
    Ext b s { s with h := { s.h with mem := upd s.h.mem i v } } :=
  ⟨⟨hs.buf, hs.alloc, hs.notPooled, hs.refl, hs.ok, hs.nofault⟩, rfl, rfl, Nat.le_refl _, fun _ h => h,
    fun _ h => Or.inl h, fun _ h => h,
    fun _ _ _ h3 h4 => upd_other _ _ _ _ (fun e => hi.elim (fun hb => h3 (e.trans hb)) (fun hr => h4 (e ▸ hr))),
    SameRest.rfl' _⟩

/-- the encoder object `s`, writing to buffer `b`, stands for the state `e` of the pure encoder with spacing `sp` -/
structure Sim (b : Nat) (sp : Bool) (s : ES) (e : Enc.Enc) : Prop where
  sep : Sep s b
  spaced : s.o.spaced = sp
  buf : s.h.mem b = e.buf
  ns : s.o.openNs = e.openNs

def RunOK (b : Nat) (s s' : ES) (e : Enc.Enc) : Prop :=
  Ext b s s' ∧ s'.h.mem b = e.buf ∧ s'.o.openNs = e.openNs

theorem RunOK.sim {b : Nat} {sp : Bool} {s s' : ES} {e e' : Enc.Enc} (r : RunOK b s s' e') (hs : Sim b sp s e) :
    Sim b sp s' e' :=
  ⟨r.1.sep', r.1.spaced.trans hs.spaced, r.2.1, r.2.2⟩

theorem RunOK.andThen {b : Nat} {sp : Bool} {s s1 s2 : ES} {e e1 e2 : Enc.Enc} (r1 : RunOK b s s1 e1) (hs : Sim b sp s e)
    (r2 : Sim b sp s1 e1 → RunOK b s1 s2 e2) : RunOK b s s2 e2 :=
  ⟨r1.1.trans (r2 (r1.sim hs)).1, (r2 (r1.sim hs)).2⟩

theorem wr_ok {b : Nat} {sp : Bool} {s : ES} {e : Enc.Enc} (hs : Sim b sp s e) (f : Bytes → Bytes) :
    RunOK b s (wr s f) ⟨f e.buf, e.openNs⟩ := by
  have hw : wr s f = { s with h := { s.h with mem := upd s.h.mem b (f (s.h.mem b)) } } := by
    simp only [wr, hs.sep.buf]
  rw [hw, ← hs.buf]
  exact ⟨ext_write hs.sep b (Or.inl rfl) _, upd_same _ _ _, hs.ns⟩

theorem setNs_ok {b : Nat} {sp : Bool} {s : ES} {e : Enc.Enc} (hs : Sim b sp s e) (n : Nat) :
    RunOK b s (setNs s n) ⟨e.buf, n⟩ :=
  ⟨⟨⟨hs.sep.buf, hs.sep.alloc, hs.sep.notPooled, hs.sep.refl, hs.sep.ok, hs.sep.nofault⟩, rfl, rfl, Nat.le_refl _,
    fun _ h => h, fun _ h => Or.inl h, fun _ h => h, fun _ _ _ _ _ => rfl, SameRest.rfl' _⟩, hs.buf, rfl⟩

theorem resetReflect_ok (orc : Orc) {b : Nat} {sp : Bool} {s : ES} {e : Enc.Enc} (hs : Sim b sp s e) :
    RunOK b s (resetReflect orc s) e ∧
    ∃ rb, (resetReflect orc s).o.reflectBuf = some rb ∧ (resetReflect orc s).h.mem rb = [] := by
  have hq := hs.sep
  unfold resetReflect
  cases hr : s.o.reflectBuf with
  | none =>
    have g := bufGet_spec orc s.h hq.ok
    simp only []
    generalize (bufGet orc s.h).1 = nb at g
    generalize (bufGet orc s.h).2 = h' at g
    -- the buffer handed out is new to `s`: it came from the pool or from fresh memory
    have hnew : ∀ i, i < s.h.next → i ∉ s.h.bufPool → nb ≠ i := by
      rintro i h1 h2 rfl
      rcases g.src with h | h
      · exact h2 h
      · omega
    have hne : nb ≠ b := hnew b hq.alloc hq.notPooled
    have hsrc : nb ∈ s.h.bufPool ∨ s.h.next ≤ nb := g.src.imp_right (fun h => Nat.le_of_eq h.symm)
    refine ⟨⟨⟨⟨hq.buf, Nat.lt_of_lt_of_le hq.alloc g.next_le, fun hc => hq.notPooled (g.sub _ hc), ?_, g.ok,
      g.fault.trans hq.nofault⟩, rfl, rfl, g.next_le, g.sub, ?_, ?_, ?_, g.rest⟩, (g.frame b (Ne.symm hne)).trans hs.buf,
      hs.ns⟩, nb, rfl, g.empty⟩
    · rintro rb ⟨rfl⟩
      exact ⟨rfl, hne, g.alloc, g.notPooled⟩
    · rintro rb ⟨rfl⟩
      exact Or.inr hsrc
    · intro rb h; rw [hr] at h; cases h
    · intro i h1 h2 _ _
      exact g.frame i (Ne.symm (hnew i h1 h2))
  | some rb =>
    exact ⟨⟨ext_write hq rb (Or.inr hr) [], (upd_other _ _ _ _ (Ne.symm (hq.refl rb hr).2.1)).trans hs.buf, hs.ns⟩,
      rb, hr, upd_same _ _ _⟩

theorem reflect_ok (orc : Orc) {b : Nat} {sp : Bool} {s : ES} {e : Enc.Enc} (hs : Sim b sp s e) (txt : Bytes) :
    RunOK b s (reflectVal orc s txt).1 e ∧ (reflectVal orc s txt).2 = txt := by
  obtain ⟨r1, rb, hrb, hempty⟩ := resetReflect_ok orc hs
  unfold reflectVal
  generalize resetReflect orc s = s1 at r1 hrb hempty
  have q1 := (r1.sim hs).sep
  obtain ⟨henc, hne, -, -⟩ := q1.refl rb hrb
  simp only [henc, hrb]
  have w2 := ext_write q1 rb (Or.inr hrb) (s1.h.mem rb ++ txt ++ [10])
  have w3 := ext_write w2.sep' rb (Or.inr hrb) (trimNl (upd s1.h.mem rb (s1.h.mem rb ++ txt ++ [10]) rb))
  refine ⟨⟨r1.1.trans (w2.trans w3), ?_, r1.2.2⟩, ?_⟩
  · rw [← r1.2.1]
    exact (upd_other _ _ _ _ (Ne.symm hne)).trans (upd_other _ _ _ _ (Ne.symm hne))
  · simp only [upd_same, hempty, List.nil_append, trimNl_snoc]

theorem closeObj_ok {b : Nat} {sp : Bool} {s : ES} {e : Enc.Enc} (hs : Sim b sp s e) (n : Nat) :
    RunOK b s (setNs (wr s fun x => x ++ 125 :: List.replicate s.o.openNs 125) n)
      ⟨e.buf ++ 125 :: List.replicate e.openNs 125, n⟩ := by
  rw [← hs.ns]
  exact (wr_ok hs _).andThen hs (setNs_ok · n)

/-- the heap-level run of a call tree through a pooled object refines the pure run (`Enc.runO`/`Enc.runA`) from
    the state the object stands for -/
theorem runH_ok (orc : Orc) (b : Nat) :
    (∀ (s : ES) (calls : List RO) (sp : Bool) (e : Enc.Enc), Sim b sp s e →
      RunOK b s (runOH orc s calls) (runO sp e (eraseO calls))) ∧
    (∀ (s : ES) (calls : List RA) (sp : Bool) (e : Enc.Enc), Sim b sp s e →
      RunOK b s (runAH orc s calls) ⟨runA sp e.buf (eraseA calls), e.openNs⟩) := by
  apply runOH.mutual_induct orc
  case case1 =>
    intro s sp e hs
    simp only [runOH, eraseO, runO]
    exact ⟨Ext.refl' hs.sep, hs.buf, hs.ns⟩
  case case2 =>
    intro s k v r ih sp e hs
    obtain rfl := hs.spaced
    simp only [runOH, eraseO, runO]
    exact (wr_ok hs _).andThen hs (ih _ _)
  case case3 =>
    intro s k v r p ih sp e hs
    obtain rfl := hs.spaced
    obtain ⟨r0, v0⟩ := reflect_ok orc hs (render v)
    have hv : addKey s.o.spaced e.buf k ++ (reflectVal orc s (render v)).2 =
        sep s.o.spaced (addKey s.o.spaced e.buf k) ++ render v := by rw [v0, sep_addKey]
    have r1 := r0.andThen hs (wr_ok · fun x => addKey s.o.spaced x k ++ (reflectVal orc s (render v)).2)
    rw [hv] at r1
    simp only [runOH, eraseO, runO]
    exact r1.andThen hs (ih _ _)
  case case4 =>
    intro s k r ih sp e hs
    simp only [runOH, eraseO]
    exact (resetReflect_ok orc hs).1.andThen hs (ih _ _)
  case case5 =>
    intro s k r ih sp e hs
    obtain rfl := hs.spaced
    simp only [runOH, eraseO, runO]
    rw [← hs.ns]
    exact ((wr_ok hs _).andThen hs (setNs_ok · _)).andThen hs (ih _ _)
  case case6 =>
    intro s k body r s1 ihb ihr sp e hs
    obtain rfl := hs.spaced
    simp only [runOH, eraseO, runO]
    rw [← hs.ns]
    have r1 := ((setNs_ok hs 0).andThen hs (wr_ok · _)).andThen hs (ihb _ _)
    exact (r1.andThen hs (closeObj_ok · _)).andThen hs (ihr _ _)
  case case7 =>
    intro s k body r s1 ihb ihr sp e hs
    obtain rfl := hs.spaced
    simp only [runOH, eraseO, runO]
    have r1 := (wr_ok hs _).andThen hs (ihb _ _)
    exact (r1.andThen hs (wr_ok · _)).andThen hs (ihr _ _)
  case case8 =>
    intro s sp e hs
    simp only [runAH, eraseA, runA]
    exact ⟨Ext.refl' hs.sep, hs.buf, hs.ns⟩
  case case9 =>
    intro s v r ih sp e hs
    obtain rfl := hs.spaced
    simp only [runAH, eraseA, runA]
    exact (wr_ok hs _).andThen hs (ih _ _)
  case case10 =>
    intro s v r p ih sp e hs
    obtain rfl := hs.spaced
    obtain ⟨r0, v0⟩ := reflect_ok orc hs (render v)
    have hv : sep s.o.spaced e.buf ++ (reflectVal orc s (render v)).2 = sep s.o.spaced e.buf ++ render v := by rw [v0]
    have r1 := r0.andThen hs (wr_ok · fun x => sep s.o.spaced x ++ (reflectVal orc s (render v)).2)
    rw [hv] at r1
    simp only [runAH, eraseA, runA]
    exact r1.andThen hs (ih _ _)
  case case11 =>
    intro s r ih sp e hs
    simp only [runAH, eraseA]
    exact (resetReflect_ok orc hs).1.andThen hs (ih _ _)
  case case12 =>
    intro s body r s1 ihb ihr sp e hs
    obtain rfl := hs.spaced
    simp only [runAH, eraseA, runA]
    rw [← hs.ns]
    have r1 := ((setNs_ok hs 0).andThen hs (wr_ok · _)).andThen hs (ihb _ _)
    exact (r1.andThen hs (closeObj_ok · _)).andThen hs (ihr _ _)
  case case13 =>
    intro s body r s1 ihb ihr sp e hs
    obtain rfl := hs.spaced
    simp only [runAH, eraseA, runA]
    have r1 := (wr_ok hs _).andThen hs (ihb _ _)
    exact (r1.andThen hs (wr_ok · _)).andThen hs (ihr _ _)

theorem runOH_ok (orc : Orc) {b : Nat} {sp : Bool} {s : ES} {e : Enc.Enc} (calls : List RO) (hs : Sim b sp s e) :
    RunOK b s (runOH orc s calls) (runO sp e (eraseO calls)) :=
  (runH_ok orc b).1 s calls sp e hs

theorem runAH_spec (orc : Orc) : ∀ (calls : List RA) (b : Nat) (s : ES) (sp : Bool) (buf : Bytes),
    Sep s b → s.o.spaced = sp → s.h.mem b = buf →
    Ext b s (runAH orc s calls) ∧
    (runAH orc s calls).h.mem b = runA sp buf (eraseA calls) ∧
    (runAH orc s calls).o.openNs = s.o.openNs :=
  fun calls b s sp buf hs hsp hb => (runH_ok orc b).2 s calls sp ⟨buf, s.o.openNs⟩ ⟨hs, hsp, hb, rfl⟩

theorem closeNs_ok {b : Nat} {sp : Bool} {s : ES} {e : Enc.Enc} (hs : Sim b sp s e) :
    RunOK b s (closeNs s) ⟨e.buf ++ List.replicate e.openNs 125, 0⟩ := by
  rw [← hs.ns]
  exact (wr_ok hs _).andThen hs (setNs_ok · 0)

end ZapVerif.Pools
