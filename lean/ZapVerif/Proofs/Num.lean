import ZapVerif.Model.Entry
/-! integers over the full range are recoverable from their decimal text -/
namespace ZapVerif.Entry
open ZapVerif

def natOf (bs : Bytes) : Nat := bs.foldl (fun acc c => acc * 10 + (c.toNat - 48)) 0

def intOf : Bytes → Int
  | 45 :: r => - (natOf r : Int)
  | bs => (natOf bs : Int)

theorem natOf_snoc (a : Bytes) (c : UInt8) : natOf (a ++ [c]) = natOf a * 10 + (c.toNat - 48) := by
  simp [natOf, List.foldl_append]

theorem digit_val : ∀ d, d < 10 → (UInt8.ofNat (48 + d)).toNat - 48 = d := by decide

theorem digit_ne_minus : ∀ d, d < 10 → UInt8.ofNat (48 + d) ≠ 45 := by decide

/-- every byte `digits` writes is one of the ten ASCII digits, so has every property they share -/
theorem digits_all {P : UInt8 → Prop} (hP : ∀ d, d < 10 → P (UInt8.ofNat (48 + d))) (f n : Nat) :
    ∀ c ∈ digits f n, P c := by
  induction f generalizing n with
  | zero => simp [digits]
  | succ f ih =>
    intro c hc
    simp only [digits] at hc
    split at hc
    · rename_i hlt
      rw [List.mem_singleton.mp hc]; exact hP n hlt
    · rcases List.mem_append.mp hc with hc | hc
      · exact ih _ c hc
      · rw [List.mem_singleton.mp hc]; exact hP _ (Nat.mod_lt _ (by decide))

theorem natOf_digits (f n : Nat) (h : n < 10 ^ f) : natOf (digits f n) = n := by
  induction f generalizing n with
  | zero => simp at h; subst h; simp [digits, natOf]
  | succ f ih =>
    simp only [digits]
    split
    · rename_i hlt
      simp only [natOf, List.foldl_cons, List.foldl_nil, Nat.zero_mul, Nat.zero_add]
      exact digit_val n hlt
    · have hdiv : n / 10 < 10 ^ f := Nat.div_lt_of_lt_mul (by rw [Nat.mul_comm, ← Nat.pow_succ]; exact h)
      rw [natOf_snoc, digit_val (n % 10) (Nat.mod_lt _ (by decide)), ih _ hdiv]
      omega

theorem natOf_fmtNat (n : Nat) : natOf (fmtNat n) = n :=
  natOf_digits _ _ (Nat.lt_trans (Nat.lt_pow_self (by decide)) (Nat.pow_lt_pow_right (by decide) (Nat.lt_succ_self n)))

theorem fmtNat_head (n : Nat) (c : UInt8) (r : Bytes) (h : fmtNat n = c :: r) : c ≠ 45 :=
  digits_all (P := (· ≠ 45)) digit_ne_minus (n + 1) n c (by show c ∈ fmtNat n; rw [h]; exact List.mem_cons_self ..)

/-- C02, integers: every Int (so in particular the whole signed and unsigned 64-bit range) is recovered exactly
    from the text the encoder writes -/
theorem intOf_fmtInt (i : Int) : intOf (fmtInt i) = i := by
  unfold fmtInt
  split
  · simp only [intOf, natOf_fmtNat]
    omega
  · have : intOf (fmtNat i.natAbs) = natOf (fmtNat i.natAbs) := by
      unfold intOf
      split
      · rename_i heq; exact absurd rfl (fmtNat_head _ _ _ heq)
      · rfl
    rw [this, natOf_fmtNat]
    omega

theorem natOf_fmtNat' (n : Nat) : natOf (fmtNat n) = n := natOf_fmtNat n

end ZapVerif.Entry
