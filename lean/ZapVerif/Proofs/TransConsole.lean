import ZapVerif.Proofs.GoMini
import ZapVerif.Proofs.TransJsonEnc
import ZapVerif.Model.TransConsoleX
/-! Lookup facts for the `…_matches_source` theorems of Props/C16.lean about Gen/TransConsole.lean.  Nothing here
    depends on the generated terms. -/
namespace ZapVerif.TransConsole
open ZapVerif ZapVerif.GoMini ZapVerif.Enc ZapVerif.Gen.TransConsole
open ZapVerif.TransJsonEnc (St closeNs ECfg EEnt)

@[simp] theorem X_funs (P : Par) : (X P).funs = funs := id rfl
@[simp] theorem X_ext (P : Par) : (X P).ext = ext P := id rfl
/-- the intrinsics of the console table: pools and `fmt.Fprint`, the sub-encoders on the slice encoder (parameters), the
    clone of the logger's JSON encoder with `addFields` (parameter) and `closeOpenNamespaces` on it -/
@[simp] theorem ext_eq (P : Par) :
    ext P "bufferpool.Get" [] = some [.bytes []] ∧
    ext P "getSliceEncoder" [] = some [arrV []] ∧
    (∀ v, ext P "putSliceEncoder" [v] = some []) ∧
    (∀ f t es, ext P "TimeEncoder.col" [.list f, t, arrV es] = some [arrV (P.colTime f t es)]) ∧
    (∀ f l es, ext P "LevelEncoder.col" [.list f, l, arrV es] = some [arrV (P.colLevel f l es)]) ∧
    (∀ f n es, ext P "NameEncoder.col" [.list f, n, arrV es] = some [arrV (P.colName f n es)]) ∧
    (∀ f c es, ext P "CallerEncoder.col" [.list f, c, arrV es] = some [arrV (P.colCaller f c es)]) ∧
    (∀ es s, ext P "SliceEnc.AppendString" [arrV es, .bytes s] = some [arrV (es ++ [.bytes s])]) ∧
    (∀ line v, ext P "fmt.Fprint" [.bytes line, v] = some [.bytes (line ++ P.text v), .int (P.text v).length, .list []]) ∧
    (∀ t, ext P "Time.IsZero" [t] = some [.bool (P.timeIsZero t)]) ∧
    (∀ ob osp ons, ext P "jsonEncoder.Clone" [.bytes ob, .bool osp, .int ons] =
      some [.bytes ob, .bool osp, .int ons, .list [], .list []]) ∧
    (∀ b n rb re sp self fs, ext P "addFields" [.bytes b, .int n, .list rb, .list re, .bool sp, self, fs] =
      some [.bytes (P.addFields fs sp ⟨b, n, rb, re⟩).buf, .int (P.addFields fs sp ⟨b, n, rb, re⟩).ns,
        .list (P.addFields fs sp ⟨b, n, rb, re⟩).rbuf, .list (P.addFields fs sp ⟨b, n, rb, re⟩).renc]) ∧
    (∀ b n, ext P "closeOpenNamespaces" [.bytes b, .int n] = some [.bytes (closeNs b n), .int 0]) ∧
    (∀ v, ext P "Buffer.Free" [v] = some []) ∧
    (∀ a b, ext P "putJSONEncoder" [a, b] = some []) := by
  delta ext ext.match_1 arrV
  simp only [String.reduceEq, ↓reduceDIte, implies_true, and_true]

@[simp] theorem builtin_ext (a : List Val) :
    builtin "Time.IsZero" a = none ∧ builtin "SliceEnc.AppendString" a = none := by simp [builtin]
@[simp] theorem bi_isZero (a : List Val) : builtin "Time.IsZero" a = none := (builtin_ext a).1

@[simp] theorem idx_arrV (es : List Val) : indexVal (arrV es) (.int 0) = .ok (.list es) := id rfl

theorem indexVal_list_get (all : List Val) (i : Nat) (y : Val) (h : all[i]? = some y) :
    indexVal (.list all) (.int i) = .ok y := by
  have := indexVal_list_map (fun v : Val => v) all i y h
  simpa using this

/-- the shapes of what the body leaves behind in the locals: `nameEncoder` (l2), the range index (l3).  The block lemmas
    of Props/C16.lean keep that tail abstract (`cLoc … rest`) and do not go through this type. -/
inductive CJ where
  | n
  | a (v : Val)
  | b (w : Val)
  | ab (v w : Val)

def CJ.setA (v : Val) : CJ → CJ
  | .n => .a v
  | .a _ => .a v
  | .b w => .ab v w
  | .ab _ w => .ab v w

/-- the locals of `EncodeEntry`: entry, fields, the line, the slice encoder; `rest` holds what the body leaves behind
    (`nameEncoder`, the range index) -/
def cLoc (e : EEnt) (fields : Val) (line : Bytes) (es : List Val) (rest : Env) : Env :=
  [("p0", e.val), ("p1", fields), ("l0", .bytes line), ("l1", arrV es)] ++ rest

/-- recording a pool call, `ev = append(ev, tuple(…))`: `ev` is the last of the fields, so every such statement would
    walk through all of them twice -/
@[simp high] theorem record_ev (P : Par) (rec : Stmt → State → GoMini.Out) (loc : Env) (c : ECfg) (sepc b : Bytes) (sp : Bool) (ns : Int)
    (rb re : List Val) (obuf : Bytes) (osp : Bool) (ons : Int) (self : Val) (ev : List Val) (es : List Expr) :
    execS (X P) rec (.assign [.fld "ev"] [.call "append" [.fld "ev", .call "tuple" es]])
        ⟨loc, conFld c sepc b sp ns rb re obuf osp ons self ev⟩ =
      (evalEs (X P) ⟨loc, conFld c sepc b sp ns rb re obuf osp ons self ev⟩ es).out fun vs =>
        .normal ⟨loc, conFld c sepc b sp ns rb re obuf osp ons self (ev ++ [.list vs])⟩ := by
  cases h : evalEs (X P) ⟨loc, conFld c sepc b sp ns rb re obuf osp ons self ev⟩ es <;> simp [h]

theorem nm_get : nm "bufferpool.Get" = .bytes [98, 117, 102, 102, 101, 114, 112, 111, 111, 108, 46, 71, 101, 116] :=
  congrArg Val.bytes (by decide +kernel)
theorem nm_getSlice : nm "getSliceEncoder" = .bytes [103, 101, 116, 83, 108, 105, 99, 101, 69, 110, 99, 111, 100, 101, 114] :=
  congrArg Val.bytes (by decide +kernel)
theorem nm_putSlice : nm "putSliceEncoder" = .bytes [112, 117, 116, 83, 108, 105, 99, 101, 69, 110, 99, 111, 100, 101, 114] :=
  congrArg Val.bytes (by decide +kernel)
theorem nm_Clone : nm "jsonEncoder.Clone" = .bytes [106, 115, 111, 110, 69, 110, 99, 111, 100, 101, 114, 46, 67, 108, 111, 110, 101] :=
  congrArg Val.bytes (by decide +kernel)
theorem nm_free : nm "Buffer.Free" = .bytes [66, 117, 102, 102, 101, 114, 46, 70, 114, 101, 101] :=
  congrArg Val.bytes (by decide +kernel)
theorem nm_put : nm "putJSONEncoder" = .bytes [112, 117, 116, 74, 83, 79, 78, 69, 110, 99, 111, 100, 101, 114] :=
  congrArg Val.bytes (by decide +kernel)

end ZapVerif.TransConsole
