import ZapVerif.Proofs.GoMini
import ZapVerif.Model.TransEscapeX
/-! Lookup facts and the pure list lemmas for `safeAppendStringLike_matches_source` (Props/C01.lean) about
    Gen/TransEscape.lean.  Nothing here depends on the shape of the generated terms. -/
namespace ZapVerif.TransEscape
open ZapVerif ZapVerif.GoMini ZapVerif.Esc ZapVerif.Gen.TransEscape

@[simp] theorem X_funs : X.funs = funs := id rfl
@[simp] theorem X_ext : X.ext = ext := id rfl
theorem ext_decode (x : Bytes) :
    ext "decodeRune" [.bytes x] = match validLen x with
      | some n => some [.int 0, .int n]
      | none => some [.int 65533, .int 1] := id rfl

theorem validLen_bounds (s : Bytes) (n : Nat) (h : validLen s = some n) : 2 ≤ n ∧ n ≤ s.length :=
  ⟨(validLen_spec s n h).1, (validLen_spec s n h).2.1⟩

theorem escape_fuel (f : Nat) : ∀ (l : Bytes), l.length ≤ f → escape f l = escape l.length l := by
  induction f using Nat.strongRecOn with
  | _ f ih =>
    intro l hl
    cases l with
    | nil => cases f <;> simp [escape]
    | cons b r =>
      obtain ⟨f', rfl⟩ : ∃ f', f = f' + 1 := ⟨f - 1, by simp at hl; omega⟩
      have hr : r.length ≤ f' := by simpa using hl
      simp only [List.length_cons, escape]
      have e1 : escape f' r = escape r.length r := ih f' (Nat.lt_succ_self _) r hr
      split
      · cases hv : validLen (b :: r) with
        | none => simp only [e1]
        | some n =>
          have hb := validLen_bounds _ _ hv
          have hlen : ((b :: r).drop n).length = r.length + 1 - n := by simp
          have hb2 : n ≤ r.length + 1 := by simpa using hb.2
          simp only
          rw [ih f' (Nat.lt_succ_self _) _ (by omega), ih r.length (by omega) _ (by omega)]
      · split <;> simp only [e1]

/-- the canonical escape -/
def G (l : Bytes) : Bytes := escape l.length l

theorem G_nil : G [] = [] := rfl

theorem G_cons (b : UInt8) (r : Bytes) :
    G (b :: r) =
      if b ≥ 128 then
        match validLen (b :: r) with
        | some n => (b :: r).take n ++ G ((b :: r).drop n)
        | none => [92, 117, 102, 102, 102, 100] ++ G r
      else if plain b then b :: G r else esc1 b ++ G r := by
  simp only [G, List.length_cons, escape]
  split
  · cases hv : validLen (b :: r) with
    | none => rfl
    | some n =>
      have hb := validLen_bounds _ _ hv
      have hlen : ((b :: r).drop n).length = r.length + 1 - n := by simp
      have hb2 : n ≤ r.length + 1 := by simpa using hb.2
      simp only
      rw [escape_fuel r.length _ (by omega)]
  · rfl

/-- abstract loop state: `last`, `i`, the buffer -/
abbrev St := Nat × Nat × Bytes

/-- one iteration at `i < len(s)` -/
def stepE (s : Bytes) (a : St) : St :=
  let b := s.getD a.2.1 0
  let span := (s.take a.2.1).drop a.1
  if b ≥ 128 then
    match validLen (s.drop a.2.1) with
    | some n => (a.1, a.2.1 + n, a.2.2)
    | none => (a.2.1 + 1, a.2.1 + 1, a.2.2 ++ span ++ [92, 117, 102, 102, 102, 100])
  else if plain b then (a.1, a.2.1 + 1, a.2.2)
  else (a.2.1 + 1, a.2.1 + 1, a.2.2 ++ span ++ esc1 b)

/-- the invariant: positions in range, and "what is written, the pending span and the escape of the rest" is constant -/
def InvE (buf s : Bytes) (a : St) : Prop :=
  a.1 ≤ a.2.1 ∧ a.2.1 ≤ s.length ∧ a.2.2 ++ (s.take a.2.1).drop a.1 ++ G (s.drop a.2.1) = buf ++ G s

theorem span_extend (s : Bytes) (last i n : Nat) (h1 : last ≤ i) (h2 : i ≤ s.length) :
    (s.take (i + n)).drop last = (s.take i).drop last ++ (s.drop i).take n := by
  rw [List.take_add, List.drop_append_of_le_length (by simp; omega)]

theorem InvE_init (buf s : Bytes) : InvE buf s (0, 0, buf) := by
  simp [InvE]

theorem InvE_step (buf s : Bytes) (a : St) (h : InvE buf s a) (hi : a.2.1 < s.length) :
    InvE buf s (stepE s a) ∧ a.2.1 < (stepE s a).2.1 := by
  obtain ⟨last, i, out⟩ := a
  obtain ⟨h1, h2, h3⟩ := h
  simp only at h1 h2 h3 hi
  have hd : s.drop i = s[i] :: s.drop (i + 1) := List.drop_eq_getElem_cons hi
  have hg : s.getD i 0 = s[i] := by simp [hi]
  have hnil : (s.take (i + 1)).drop (i + 1) = [] := by simp
  rw [hd, G_cons] at h3
  simp only [stepE, hg]
  by_cases hb : s[i] ≥ 128
  · simp only [hb, if_true] at h3 ⊢
    cases hv : validLen (s.drop i) with
    | none =>
      rw [hd] at hv; rw [hv] at h3
      refine ⟨⟨Nat.le_refl _, hi, ?_⟩, Nat.lt_succ_self _⟩
      show (out ++ (s.take i).drop last ++ [92, 117, 102, 102, 102, 100]) ++ (s.take (i + 1)).drop (i + 1) ++
        G (s.drop (i + 1)) = buf ++ G s
      rw [hnil, ← h3]; simp [List.append_assoc]
    | some n =>
      have hbd := validLen_bounds _ _ hv
      have hdl : (s.drop i).length = s.length - i := by simp
      rw [hd] at hv; rw [hv] at h3
      simp only at h3
      rw [← hd, List.drop_drop] at h3
      have hle : i + n ≤ s.length := by omega
      refine ⟨⟨show last ≤ i + n by omega, hle, ?_⟩, show i < i + n by omega⟩
      show out ++ (s.take (i + n)).drop last ++ G (s.drop (i + n)) = buf ++ G s
      rw [span_extend s last i n h1 h2, ← h3]
      simp [List.append_assoc]
  · simp only [hb, if_false] at h3 ⊢
    by_cases hp : plain s[i] = true
    · simp only [hp, if_true] at h3 ⊢
      refine ⟨⟨show last ≤ i + 1 by omega, hi, ?_⟩, Nat.lt_succ_self _⟩
      show out ++ (s.take (i + 1)).drop last ++ G (s.drop (i + 1)) = buf ++ G s
      rw [span_extend s last i 1 h1 h2, ← h3]
      simp only [List.append_assoc, List.append_cancel_left_eq]
      rw [hd]; rfl
    · simp only [hp] at h3 ⊢
      refine ⟨⟨Nat.le_refl _, hi, ?_⟩, Nat.lt_succ_self _⟩
      show (out ++ (s.take i).drop last ++ esc1 s[i]) ++ (s.take (i + 1)).drop (i + 1) ++ G (s.drop (i + 1)) = buf ++ G s
      rw [hnil, ← h3]; simp [List.append_assoc]

/-- at the end the remaining copy `appendTo(buf, s[last:])` completes the escape -/
theorem InvE_final (buf s : Bytes) (a : St) (h : InvE buf s a) (hi : ¬ a.2.1 < s.length) :
    a.2.2 ++ s.drop a.1 = buf ++ G s := by
  obtain ⟨last, i, out⟩ := a
  obtain ⟨h1, h2, h3⟩ := h
  simp only at h1 h2 h3 hi
  have : i = s.length := by omega
  subst this
  simpa [G_nil] using h3

/-- `_hex` -/
def hexlit : Bytes := [48, 49, 50, 51, 52, 53, 54, 55, 56, 57, 97, 98, 99, 100, 101, 102]

theorem hex_hi : ∀ b : UInt8, hexlit[b.toNat >>> 4]? = some (hexd (b >>> 4)) :=
  all256 _ (by decide +kernel)

theorem hex_lo : ∀ b : UInt8, hexlit[b.toNat &&& 15]? = some (hexd (b &&& 15)) :=
  all256 _ (by decide +kernel)

theorem hex_val (n : Nat) (hn : n < 16) (c : UInt8) (h : hexlit[n]? = some c) :
    indexVal (.bytes hexlit) (.int (wrap .int (n : Int))) = .ok (.int c.toNat) := by
  have hl : n < hexlit.length := hn
  rw [wrap_int_id _ (by omega) (by omega), indexVal_bytes hexlit n hl]
  rw [List.getElem?_eq_getElem hl, Option.some.injEq] at h
  rw [h]

theorem hex_hi_val (b : UInt8) :
    indexVal (.bytes hexlit) (.int (wrap .int ((b.toNat >>> 4 : Nat) : Int))) = .ok (.int (hexd (b >>> 4)).toNat) :=
  hex_val _ (by have := b.toNat_lt; simp only [Nat.shiftRight_eq_div_pow]; omega) _ (hex_hi b)

theorem hex_lo_val (b : UInt8) :
    indexVal (.bytes hexlit) (.int (wrap .int ((b.toNat &&& 15 : Nat) : Int))) = .ok (.int (hexd (b &&& 15)).toNat) :=
  hex_val _ (Nat.lt_succ_of_le Nat.and_le_right) _ (hex_lo b)

end ZapVerif.TransEscape
