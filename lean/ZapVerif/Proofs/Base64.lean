import ZapVerif.Model.Base64
import ZapVerif.Model.Esc
/-! base64 round trip and "the encoded text needs no JSON escaping". -/
namespace ZapVerif.B64
open ZapVerif ZapVerif.Esc

theorem chr_spec : ∀ n, n < 64 → val (chr n) = some n ∧ chr n ≠ pad ∧ plain (chr n) = true ∧ chr n < 128 := by decide +kernel

theorem val_chr (n : Nat) (h : n < 64) : val (chr n) = some n := (chr_spec n h).1
theorem chr_ne_pad (n : Nat) (h : n < 64) : chr n ≠ pad := (chr_spec n h).2.1
theorem chr_plain (n : Nat) (h : n < 64) : plain (chr n) = true ∧ chr n < 128 := (chr_spec n h).2.2

theorem sextet_lt (a b c : Nat) (ha : a < 256) (hb : b < 256) (hc : c < 256) :
    a / 4 < 64 ∧ a % 4 * 16 + b / 16 < 64 ∧ b % 16 * 4 + c / 64 < 64 ∧ c % 64 < 64 := by omega

theorem split_mul_add (k hi lo : Nat) (h : lo < k) : (hi * k + lo) / k = hi ∧ (hi * k + lo) % k = lo := by
  have hk : 0 < k := by omega
  rw [Nat.mul_comm, Nat.mul_add_div hk, Nat.mul_add_mod, Nat.div_eq_of_lt h, Nat.mod_eq_of_lt h]
  exact ⟨rfl, rfl⟩

/-- each sum the decoder divides is `hi * k + lo` with `lo < k` -/
theorem sextet_join (a b c : Nat) (hb : b < 256) (hc : c < 256) :
    a / 4 * 4 + (a % 4 * 16 + b / 16) / 16 = a ∧
    (a % 4 * 16 + b / 16) % 16 * 16 + (b % 16 * 4 + c / 64) / 4 = b ∧
    (b % 16 * 4 + c / 64) % 4 * 64 + c % 64 = c := by
  have hb' : b / 16 < 16 := Nat.div_lt_of_lt_mul hb
  have hc' : c / 64 < 4 := Nat.div_lt_of_lt_mul hc
  rw [(split_mul_add 16 (a % 4) _ hb').1, (split_mul_add 16 (a % 4) _ hb').2,
    (split_mul_add 4 (b % 16) _ hc').1, (split_mul_add 4 (b % 16) _ hc').2]
  exact ⟨Nat.div_add_mod' a 4, Nat.div_add_mod' b 16, Nat.div_add_mod' c 64⟩

/-- a final group of one or two bytes is the full case with zero bytes in the missing places -/
theorem dec_enc (bs : Bytes) : b64dec (b64enc bs) = some bs := by
  fun_induction b64enc bs with
  | case1 => rfl
  | case2 a =>
    obtain ⟨h1, h2, _, _⟩ := sextet_lt a.toNat 0 0 a.toNat_lt (by decide) (by decide)
    obtain ⟨e1, _, _⟩ := sextet_join a.toNat 0 0 (by decide) (by decide)
    simp only [Nat.zero_div, Nat.add_zero] at h2 e1
    simp only [b64dec, val_chr _ h1, val_chr _ h2, e1]
    simp
  | case3 a b =>
    obtain ⟨h1, h2, h3, _⟩ := sextet_lt a.toNat b.toNat 0 a.toNat_lt b.toNat_lt (by decide)
    obtain ⟨e1, e2, _⟩ := sextet_join a.toNat b.toNat 0 b.toNat_lt (by decide)
    simp only [Nat.zero_div, Nat.add_zero] at h3 e2
    simp only [b64dec, val_chr _ h1, val_chr _ h2, val_chr _ h3, chr_ne_pad _ h3, e1, e2]
    simp
  | case4 a b c r ih =>
    obtain ⟨h1, h2, h3, h4⟩ := sextet_lt a.toNat b.toNat c.toNat a.toNat_lt b.toNat_lt c.toNat_lt
    obtain ⟨e1, e2, e3⟩ := sextet_join a.toNat b.toNat c.toNat b.toNat_lt c.toNat_lt
    simp only [b64dec, val_chr _ h1, val_chr _ h2, val_chr _ h3, val_chr _ h4, chr_ne_pad _ h4, ih, e1, e2, e3]
    simp

/-- every byte of the encoded text is a letter, digit, `+`, `/` or `=`: printable ASCII that JSON does not escape -/
theorem enc_plain (bs : Bytes) : ∀ c ∈ b64enc bs, plain c = true ∧ c < 128 := by
  have hp : plain pad = true ∧ pad < 128 := by decide
  fun_induction b64enc bs with
  | case1 => simp
  | case2 a =>
    obtain ⟨h1, h2, _, _⟩ := sextet_lt a.toNat 0 0 a.toNat_lt (by decide) (by decide)
    simp only [Nat.zero_div, Nat.add_zero] at h2
    simp only [List.forall_mem_cons, List.not_mem_nil, false_imp_iff, implies_true, and_true]
    exact ⟨chr_plain _ h1, chr_plain _ h2, hp, hp⟩
  | case3 a b =>
    obtain ⟨h1, h2, h3, _⟩ := sextet_lt a.toNat b.toNat 0 a.toNat_lt b.toNat_lt (by decide)
    simp only [Nat.zero_div, Nat.add_zero] at h3
    simp only [List.forall_mem_cons, List.not_mem_nil, false_imp_iff, implies_true, and_true]
    exact ⟨chr_plain _ h1, chr_plain _ h2, chr_plain _ h3, hp⟩
  | case4 a b c r ih =>
    obtain ⟨h1, h2, h3, h4⟩ := sextet_lt a.toNat b.toNat c.toNat a.toNat_lt b.toNat_lt c.toNat_lt
    simp only [List.forall_mem_cons]
    exact ⟨chr_plain _ h1, chr_plain _ h2, chr_plain _ h3, chr_plain _ h4, ih⟩

/-- `safeAppendStringLike` copies a string of plain ASCII bytes unchanged -/
theorem escape_plain_id (fuel : Nat) (s : Bytes) (hf : s.length ≤ fuel) (h : ∀ c ∈ s, plain c = true ∧ c < 128) :
    escape fuel s = s := by
  induction fuel generalizing s with
  | zero =>
    have : s = [] := by simpa using hf
    subst this; simp [escape]
  | succ f ih =>
    cases s with
    | nil => simp [escape]
    | cons b r =>
      have hb := h b (by simp)
      have h128 : ¬ b ≥ 128 := by
        have := hb.2
        simp [UInt8.lt_iff_toNat_lt, UInt8.le_iff_toNat_le] at this ⊢; omega
      simp only [escape, h128, if_false, hb.1, if_true]
      rw [ih r (by simpa using hf) (fun c hc => h c (by simp [hc]))]

theorem enc_length (bs : Bytes) : (b64enc bs).length = (bs.length + 2) / 3 * 4 := by
  fun_induction b64enc bs with
  | case1 => simp
  | case2 a => simp
  | case3 a b => simp
  | case4 a b c r ih => simp [ih]; omega

end ZapVerif.B64
