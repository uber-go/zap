import ZapVerif.Model.Bytes
/-! M1: JSON string escaping (`safeAppendStringLike`, zapcore/json_encoder.go) with a faithful model of
    `utf8.DecodeRune` validity, the string-body recogniser `runD`, and `escape_ok`. -/
namespace ZapVerif.Esc
open ZapVerif

theorem all256 (P : UInt8 → Prop) (h : ∀ n : Fin 256, P (UInt8.ofNat n.val)) : ∀ b : UInt8, P b := by
  intro b
  have := h ⟨b.toNat, b.toNat_lt⟩
  simpa using this

/-- _hex[n] for n < 16 -/
def hexd (n : UInt8) : UInt8 := if n < 10 then 48 + n else 87 + n

/-- the escape emitted for a byte < 0x80 that needs one (`<0x20`, `\`, `"`) -/
def esc1 (b : UInt8) : Bytes :=
  if b = 92 ∨ b = 34 then [92, b]
  else if b = 10 then [92, 110]
  else if b = 13 then [92, 114]
  else if b = 9 then [92, 116]
  else [92, 117, 48, 48, hexd (b >>> 4), hexd (b &&& 15)]

def plain (b : UInt8) : Bool := b ≥ 32 && b != 92 && b != 34

/-- utf8.DecodeRune on a string starting with a byte ≥ 0x80: `some n` = a valid n-byte sequence,
    `none` = (RuneError, 1).  first[] / acceptRanges[] of unicode/utf8, spelled out. -/
def cont (lo hi b : UInt8) : Bool := lo ≤ b && b ≤ hi
def lo3 (s0 : UInt8) : UInt8 := if s0 = 0xE0 then 0xA0 else 0x80
def hi3 (s0 : UInt8) : UInt8 := if s0 = 0xED then 0x9F else 0xBF
def lo4 (s0 : UInt8) : UInt8 := if s0 = 0xF0 then 0x90 else 0x80
def hi4 (s0 : UInt8) : UInt8 := if s0 = 0xF4 then 0x8F else 0xBF
theorem lo3_high (s0 : UInt8) : lo3 s0 ≥ 128 := by unfold lo3; split <;> decide
theorem lo4_high (s0 : UInt8) : lo4 s0 ≥ 128 := by unfold lo4; split <;> decide
def validLen (s : Bytes) : Option Nat :=
  let s0 := s.getD 0 0
  let s1 := s.getD 1 0
  let s2 := s.getD 2 0
  let s3 := s.getD 3 0
  if 0xC2 ≤ s0 && s0 ≤ 0xDF then
    if 2 ≤ s.length && cont 0x80 0xBF s1 then some 2 else none
  else if 0xE0 ≤ s0 && s0 ≤ 0xEF then
    if 3 ≤ s.length && cont (lo3 s0) (hi3 s0) s1
        && cont 0x80 0xBF s2 then some 3 else none
  else if 0xF0 ≤ s0 && s0 ≤ 0xF4 then
    if 4 ≤ s.length && cont (lo4 s0) (hi4 s0) s1
        && cont 0x80 0xBF s2 && cont 0x80 0xBF s3 then some 4 else none
  else none

/-- safeAppendStringLike, fuelled by the input length -/
def escape : Nat → Bytes → Bytes
  | 0, _ => []
  | _, [] => []
  | fuel + 1, b :: r =>
    if b ≥ 128 then
      match validLen (b :: r) with
      | some n => (b :: r).take n ++ escape fuel ((b :: r).drop n)
      | none => [92, 117, 102, 102, 102, 100] ++ escape fuel r        -- �
    else if plain b then b :: escape fuel r
    else esc1 b ++ escape fuel r

/-- recogniser for the inside of a JSON string: state 0 = normal, 1 = after `\`,
    2..5 = 4..1 hex digits still expected -/
def isHex (c : UInt8) : Bool := (48 ≤ c && c ≤ 57) || (97 ≤ c && c ≤ 102) || (65 ≤ c && c ≤ 70)
def stepD (s : Nat) (b : UInt8) : Option Nat :=
  match s with
  | 0 => if b < 32 || b == 34 then none else if b == 92 then some 1 else some 0
  | 1 => if b == 92 || b == 34 || b == 110 || b == 114 || b == 116 || b == 47 || b == 98 || b == 102
         then some 0 else if b == 117 then some 2 else none
  | 2 => if isHex b then some 3 else none
  | 3 => if isHex b then some 4 else none
  | 4 => if isHex b then some 5 else none
  | 5 => if isHex b then some 0 else none
  | _ => none
def runD : Nat → Bytes → Option Nat
  | s, [] => some s
  | s, b :: r => match stepD s b with
    | some s' => runD s' r
    | none => none

theorem runD_append (s : Nat) (a b : Bytes) :
    runD s (a ++ b) = (runD s a).bind (fun s' => runD s' b) := by
  induction a generalizing s with
  | nil => simp [runD]
  | cons x r ih => simp only [List.cons_append, runD]; cases stepD s x <;> simp [ih]

theorem esc1_ok : ∀ b : UInt8, b < 128 → plain b = false → runD 0 (esc1 b) = some 0 := by
  apply all256; decide +kernel

theorem plain_ok (b : UInt8) (h : plain b = true) : stepD 0 b = some 0 := by
  simp only [plain, Bool.and_eq_true, decide_eq_true_eq, bne_iff_ne] at h
  simp [stepD, UInt8.not_lt.mpr h.1.1, h.1.2, h.2]

theorem high_ok (b : UInt8) (h : b ≥ 128) : stepD 0 b = some 0 := by
  apply plain_ok
  have h2 : b ≠ 92 := by rintro rfl; exact absurd h (by decide)
  have h3 : b ≠ 34 := by rintro rfl; exact absurd h (by decide)
  simp [plain, UInt8.le_trans (by decide : (32 : UInt8) ≤ 128) h, h2, h3]

theorem high_all_ok (l : Bytes) (h : ∀ x ∈ l, x ≥ 128) : runD 0 l = some 0 := by
  induction l with
  | nil => rfl
  | cons x r ih =>
    simp only [runD, high_ok x (h x (by simp))]
    exact ih (fun y hy => h y (by simp [hy]))

theorem cont_high (lo hi b : UInt8) (hlo : lo ≥ 128) (h : cont lo hi b = true) : b ≥ 128 := by
  simp [cont] at h
  exact UInt8.le_trans hlo h.1

theorem lo_high (c : Bool) (a b : UInt8) (ha : a ≥ 128) (hb : b ≥ 128) : (if c then a else b) ≥ 128 := by
  cases c <;> simp [ha, hb]

theorem validLen_spec (s : Bytes) (n : Nat) (h : validLen s = some n) :
    2 ≤ n ∧ n ≤ s.length ∧ ∀ i, 1 ≤ i → i < n → s.getD i 0 ≥ 128 := by
  unfold validLen at h
  simp only at h
  split at h
  · split at h
    · rename_i hc; injection h with h; subst h
      simp only [Bool.and_eq_true, decide_eq_true_eq] at hc
      refine ⟨Nat.le_refl _, hc.1, fun i h1 h2 => ?_⟩
      obtain rfl : i = 1 := by omega
      exact cont_high _ _ _ (by decide) hc.2
    · cases h
  · split at h
    · split at h
      · rename_i hc; injection h with h; subst h
        simp only [Bool.and_eq_true, decide_eq_true_eq] at hc
        refine ⟨by omega, hc.1.1, fun i h1 h2 => ?_⟩
        obtain rfl | rfl : i = 1 ∨ i = 2 := by omega
        · exact cont_high _ _ _ (lo3_high _) hc.1.2
        · exact cont_high _ _ _ (by decide) hc.2
      · cases h
    · split at h
      · split at h
        · rename_i hc; injection h with h; subst h
          simp only [Bool.and_eq_true, decide_eq_true_eq] at hc
          refine ⟨by omega, hc.1.1.1, fun i h1 h2 => ?_⟩
          obtain rfl | rfl | rfl : i = 1 ∨ i = 2 ∨ i = 3 := by omega
          · exact cont_high _ _ _ (lo4_high _) hc.1.1.2
          · exact cont_high _ _ _ (by decide) hc.1.2
          · exact cont_high _ _ _ (by decide) hc.2
        · cases h
      · cases h

theorem valid_high (s : Bytes) (n : Nat) (h : validLen s = some n) (h0 : s.getD 0 0 ≥ 128) :
    ∀ x ∈ s.take n, x ≥ 128 := by
  obtain ⟨-, hn, hcont⟩ := validLen_spec s n h
  intro x hx
  obtain ⟨i, hi, rfl⟩ := List.mem_take_iff_getElem.mp hx
  have hil : i < s.length := by omega
  have : s.getD i 0 ≥ 128 := by
    rcases Nat.eq_zero_or_pos i with rfl | hpos
    · exact h0
    · exact hcont i hpos (by omega)
  simpa [List.getD_eq_getElem?_getD, List.getElem?_eq_getElem hil] using this

/-- C01 core: whatever the input bytes (hostile, invalid UTF-8, control characters), the escaped
    text is a legal JSON string body: no raw control byte, no bare quote, only legal escapes -/
theorem escape_ok (fuel : Nat) (s : Bytes) : runD 0 (escape fuel s) = some 0 := by
  induction fuel generalizing s with
  | zero => simp [escape, runD]
  | succ fuel ih =>
    cases s with
    | nil => simp [escape, runD]
    | cons b r =>
      unfold escape
      by_cases hb : b ≥ 128
      · simp only [hb, if_true]
        cases hv : validLen (b :: r) with
        | none =>
          simp only []
          rw [runD_append]
          have : runD 0 [92, 117, 102, 102, 102, 100] = some 0 := by decide
          simp [this, ih]
        | some n =>
          simp only []
          rw [runD_append, high_all_ok _ (valid_high (b :: r) n hv (by simpa using hb))]
          simp [ih]
      · simp only [hb, if_false]
        by_cases hp : plain b = true
        · simp only [hp, if_true, runD, plain_ok b hp]; exact ih r
        · have hp' : plain b = false := by simpa using hp
          have hlt : b < 128 := by
            simp [UInt8.lt_iff_toNat_lt, UInt8.le_iff_toNat_le] at hb ⊢; omega
          simp only [hp', Bool.false_eq_true, if_false]
          rw [runD_append, esc1_ok b hlt hp']
          simp [ih]

end ZapVerif.Esc
