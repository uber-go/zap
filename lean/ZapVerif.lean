/- GENERATED by bin/mkdrv -/
import ZapVerif.Model.Base64
import ZapVerif.Model.Binary
import ZapVerif.Model.Bws
import ZapVerif.Model.BwsConc
import ZapVerif.Model.BwsConcBytes
import ZapVerif.Model.BwsSkel
import ZapVerif.Model.Bytes
import ZapVerif.Model.Callers
import ZapVerif.Model.Console
import ZapVerif.Model.Core
import ZapVerif.Model.Deadlock
import ZapVerif.Model.Deliver
import ZapVerif.Model.Derive
import ZapVerif.Model.Enc
import ZapVerif.Model.Entry
import ZapVerif.Model.Esc
import ZapVerif.Model.Field
import ZapVerif.Model.GoMini
import ZapVerif.Model.Json
import ZapVerif.Model.Level
import ZapVerif.Model.MapEnc
import ZapVerif.Model.Merge
import ZapVerif.Model.OpenBuild
import ZapVerif.Model.PoolFacts
import ZapVerif.Model.Pools
import ZapVerif.Model.Sampler
import ZapVerif.Model.SamplerConc
import ZapVerif.Model.SitePrograms
import ZapVerif.Model.Slices
import ZapVerif.Model.Slog
import ZapVerif.Model.SubEnc
import ZapVerif.Model.Sugar
import ZapVerif.Model.Sync
import ZapVerif.Model.SyncFacts
import ZapVerif.Model.Tee
import ZapVerif.Model.TeeBws
import ZapVerif.Model.TransCEAddX
import ZapVerif.Model.TransCEX
import ZapVerif.Model.TransCallerX
import ZapVerif.Model.TransCaptureX
import ZapVerif.Model.TransConsoleX
import ZapVerif.Model.TransCoresX
import ZapVerif.Model.TransCtorX
import ZapVerif.Model.TransDeriveX
import ZapVerif.Model.TransEscapeX
import ZapVerif.Model.TransGrpcX
import ZapVerif.Model.TransJsonEncX
import ZapVerif.Model.TransJsonSepX
import ZapVerif.Model.TransLevelX
import ZapVerif.Model.TransLockedX
import ZapVerif.Model.TransLoggerX
import ZapVerif.Model.TransMessageX
import ZapVerif.Model.TransMultiWSX
import ZapVerif.Model.TransOpenX
import ZapVerif.Model.TransSamplerX
import ZapVerif.Model.TransSlogX
import ZapVerif.Model.TransStackFmtX
import ZapVerif.Model.TransSweetenX
import ZapVerif.Model.TransWritersX
import ZapVerif.Model.TransZioX
import ZapVerif.Model.Unesc
import ZapVerif.Model.Writers
import ZapVerif.Model.Zio
import ZapVerif.Gen.AddTo
import ZapVerif.Gen.Any
import ZapVerif.Gen.BwsFacts
import ZapVerif.Gen.Callers
import ZapVerif.Gen.Delegates
import ZapVerif.Gen.EntryMeta
import ZapVerif.Gen.Equals
import ZapVerif.Gen.Fields
import ZapVerif.Gen.FrontEnds
import ZapVerif.Gen.IoFacts
import ZapVerif.Gen.JsonAdd
import ZapVerif.Gen.LevelColor
import ZapVerif.Gen.LevelText
import ZapVerif.Gen.Pools
import ZapVerif.Gen.SliceOwn
import ZapVerif.Gen.SlogLevels
import ZapVerif.Gen.SubEncSrc
import ZapVerif.Gen.SyncFacts
import ZapVerif.Gen.TransCE
import ZapVerif.Gen.TransCEAdd
import ZapVerif.Gen.TransCaller
import ZapVerif.Gen.TransCapture
import ZapVerif.Gen.TransConsole
import ZapVerif.Gen.TransCores
import ZapVerif.Gen.TransCtor
import ZapVerif.Gen.TransDerive
import ZapVerif.Gen.TransEscape
import ZapVerif.Gen.TransGrpc
import ZapVerif.Gen.TransJsonEnc
import ZapVerif.Gen.TransJsonSep
import ZapVerif.Gen.TransLevel
import ZapVerif.Gen.TransLocked
import ZapVerif.Gen.TransLogger
import ZapVerif.Gen.TransMessage
import ZapVerif.Gen.TransMultiWS
import ZapVerif.Gen.TransOpen
import ZapVerif.Gen.TransProbe
import ZapVerif.Gen.TransSampler
import ZapVerif.Gen.TransSlog
import ZapVerif.Gen.TransStackFmt
import ZapVerif.Gen.TransSweeten
import ZapVerif.Gen.TransWriters
import ZapVerif.Gen.TransZio
import ZapVerif.Proofs.Base64
import ZapVerif.Proofs.Bws
import ZapVerif.Proofs.BwsConc
import ZapVerif.Proofs.BwsConcBytes
import ZapVerif.Proofs.Callers
import ZapVerif.Proofs.Core
import ZapVerif.Proofs.CoreSync
import ZapVerif.Proofs.CoreTrace
import ZapVerif.Proofs.Deadlock
import ZapVerif.Proofs.Derive
import ZapVerif.Proofs.Drf
import ZapVerif.Proofs.Enc
import ZapVerif.Proofs.EncTree
import ZapVerif.Proofs.Entry
import ZapVerif.Proofs.EntryWF
import ZapVerif.Proofs.FieldSpec
import ZapVerif.Proofs.GoMini
import ZapVerif.Proofs.GoMiniFuel
import ZapVerif.Proofs.Json
import ZapVerif.Proofs.MapEnc
import ZapVerif.Proofs.Merge
import ZapVerif.Proofs.Num
import ZapVerif.Proofs.OpenBuild
import ZapVerif.Proofs.Pools
import ZapVerif.Proofs.PoolsHist
import ZapVerif.Proofs.PoolsStep
import ZapVerif.Proofs.Publish
import ZapVerif.Proofs.Sampler
import ZapVerif.Proofs.SitePrograms
import ZapVerif.Proofs.SiteProgramsDemo
import ZapVerif.Proofs.SiteProgramsFollows
import ZapVerif.Proofs.Slog
import ZapVerif.Proofs.Spaced
import ZapVerif.Proofs.SubEnc
import ZapVerif.Proofs.Sugar
import ZapVerif.Proofs.Sync
import ZapVerif.Proofs.Tee
import ZapVerif.Proofs.TeeBws
import ZapVerif.Proofs.TransCE
import ZapVerif.Proofs.TransCaller
import ZapVerif.Proofs.TransCapture
import ZapVerif.Proofs.TransConsole
import ZapVerif.Proofs.TransConsoleLink
import ZapVerif.Proofs.TransCores
import ZapVerif.Proofs.TransCtor
import ZapVerif.Proofs.TransDerive
import ZapVerif.Proofs.TransEscape
import ZapVerif.Proofs.TransGrpc
import ZapVerif.Proofs.TransJsonEnc
import ZapVerif.Proofs.TransJsonEntry
import ZapVerif.Proofs.TransJsonSep
import ZapVerif.Proofs.TransLevel
import ZapVerif.Proofs.TransLocked
import ZapVerif.Proofs.TransLogger
import ZapVerif.Proofs.TransMessage
import ZapVerif.Proofs.TransMultiWS
import ZapVerif.Proofs.TransOpen
import ZapVerif.Proofs.TransSampler
import ZapVerif.Proofs.TransSlog
import ZapVerif.Proofs.TransStackFmt
import ZapVerif.Proofs.TransSweeten
import ZapVerif.Proofs.TransWriters
import ZapVerif.Proofs.TransZio
import ZapVerif.Proofs.Unesc
import ZapVerif.Proofs.Writers
import ZapVerif.Proofs.Zio
import ZapVerif.Props.C01
import ZapVerif.Props.C02
import ZapVerif.Props.C03
import ZapVerif.Props.C04
import ZapVerif.Props.C05
import ZapVerif.Props.C06
import ZapVerif.Props.C07
import ZapVerif.Props.C08
import ZapVerif.Props.C09
import ZapVerif.Props.C10
import ZapVerif.Props.C11
import ZapVerif.Props.C12
import ZapVerif.Props.C13
import ZapVerif.Props.C14
import ZapVerif.Props.C15
import ZapVerif.Props.C16
import ZapVerif.Props.C17
import ZapVerif.Props.C18
import ZapVerif.Props.C19
import ZapVerif.Props.C20
import ZapVerif.Props.CTR
